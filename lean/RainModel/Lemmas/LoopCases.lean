import RainModel.Lemmas.LoopBase
/-!
The composite handlers of M-LOOP as case principles over their named phases (`LoopBase`): `stop`, the verify command,
the end of the metadata download (`hmdStart`, `hmdAdopt`), the allocator and the result handlers of the workers
(`handleAllocationDone`, `handleVerificationDone`, `handlePieceWriteDone`, and the completion check they end in).  One
hypothesis per way the handler can go, each under the guard of its branch; a predicate is carried through a handler
by giving the phase facts, and no proof needs to unfold the handler again.
-/
namespace Rain.Loop

theorem stop_cases {P : St → Prop} (s : St) (e : Bool) (h : P s)
    (hR : ¬(s.status = .stopping ∨ s.status = .stopped) → P (stopRun s e)) : P (s.stop e) := by
  rw [stop_eq]; exact ite_ind (fun _ => h) hR

theorem handleVerifyCommand_cases {P : M → Prop} (m : M)
    (hS : (onSt m fun s => { s with doVerify := true }).1.status = .stopped →
      P (startCore (onSt (onSt m fun s => { s with doVerify := true }) fun s => { s with bf := none })))
    (hR : (onSt m fun s => { s with doVerify := true }).1.status ≠ .stopped →
      P (onSt (onSt m fun s => { s with doVerify := true }) (·.stop false))) : P (handleVerifyCommand m) :=
  ite_ind hS hR

theorem hmdStart_cases {P : M → Prop} (m : M) (hS : m.1.cfg.stopAfterMeta = true → P (onSt m (·.stop false)))
    (hA : m.1.cfg.stopAfterMeta = false →
      P (onSt m fun s => if s.allocator then s.crash "allocator exists" else { s with allocator := true })) :
    P (hmdStart m) :=
  ite_ind hS fun h => hA (Bool.eq_false_iff.2 h)

theorem hmdAdopt_cases {P : M → Prop} (m : M)
    (hS : m.1.cfg.n > m.1.cfg.maxPieces ∨ m.1.cfg.isPrivate = true →
      P (onSt (onSt m fun s => { s with idls := [] }) (·.stop true)))
    (hA : ¬m.1.cfg.n > m.1.cfg.maxPieces → m.1.cfg.isPrivate = false →
      P (hmdStart (onSt (onSt m fun s => { s with idls := [] }) fun s => { s with info := true, metaDone := true }))) :
    P (hmdAdopt m) :=
  ite_ind (fun h => hS (.inl h)) fun hn => ite_ind (fun h => hS (.inr h)) fun hp => hA hn (Bool.eq_false_iff.2 hp)

theorem pwdFinish_cases {P : M → Prop} (m : M) (hN : m.1.checkCompletion.2 = false → P (m.1.checkCompletion.1, m.2))
    (hC : m.1.checkCompletion.2 = true → P (onSt (m.1.checkCompletion.1, m.2) (·.writeBitfield)))
    (hS : m.1.checkCompletion.2 = true →
      P (onSt (onSt (m.1.checkCompletion.1, m.2) (·.writeBitfield)) (·.stop false))) : P (pwdFinish m) :=
  ite_ind (fun h => ite_ind (fun _ => hS h) fun _ => hC h) fun h => hN (Bool.eq_false_iff.2 h)

theorem allocatorRun_cases {P : M → Prop} (m : M) (hF : allocFailing m.1 = true → P (allocFail m))
    (hO : allocFailing m.1 = false →
      P (handleAllocationDone (allocOkOpen m) ((allocData m.1).any fun i => m.1.fileExists.getD i false)
        ((allocData m.1).any fun i => !(m.1.fileExists.getD i false)))) : P (allocatorRun m) := by
  rw [allocatorRun_eq]; exact ite_ind hF fun h => hO (Bool.eq_false_iff.2 h)

theorem hadCheck_cases {P : M → Prop} (m : M)
    (hS : m.1.checkCompletion.2 = true → P (onSt (m.1.checkCompletion.1, m.2) (·.stop false)))
    (hR : P (hadReady (m.1.checkCompletion.1, m.2))) : P (hadCheck m) :=
  ite_ind (fun h => hS (Bool.and_eq_true_iff.1 h).1) fun _ => hR

theorem hadFresh_cases {P : M → Prop} (m : M)
    (hS : (hadFreshInstall m).1.doVerify = true →
      P (onSt (hadFreshInstall m) fun s => ({ s with doVerify := false }).stop false))
    (hC : (hadFreshInstall m).1.doVerify = false → P (hadCheck (hadFreshInstall m))) : P (hadFresh m) :=
  ite_ind hS fun hd => hC (Bool.eq_false_iff.2 hd)

theorem handleAllocationDone_cases {P : M → Prop} (m : M) (ex mi : Bool)
    (hT : ∀ b, (hadForget (hadInstall m) mi).1.bf = some b → mi = false → P (hadTrust (hadForget (hadInstall m) mi) b))
    (hF : (hadForget (hadInstall m) mi).1.bf = none → ex = false → P (hadFresh (hadForget (hadInstall m) mi)))
    (hV : (hadForget (hadInstall m) mi).1.bf = none → ex = true →
      P (onSt (hadForget (hadInstall m) mi) fun s => { s with verifier := true })) :
    P (handleAllocationDone m ex mi) := by
  have tail : (hadForget (hadInstall m) mi).1.bf = none →
      P (if !ex then hadFresh (hadForget (hadInstall m) mi)
        else onSt (hadForget (hadInstall m) mi) fun s => { s with verifier := true }) :=
    fun hn => ite_ind (fun h => hF hn (by simpa using h)) fun h => hV hn (by simpa using h)
  rw [handleAllocationDone_eq]
  dsimp only
  split
  · next b hb =>
    -- with a file missing `hadForget` has dropped the bitfield
    cases mi with
    | false => exact hT b hb rfl
    | true => rw [(hadForget_true _).1] at hb; cases hb
  · next hn => exact tail hn

theorem handleVerificationDone_cases {P : M → Prop} (m : M)
    (hS : (hvdInstall m).1.doVerify = true →
      P (onSt (hvdInstall m) fun s => ({ s with doVerify := false }).stop false))
    (hC : (hvdInstall m).1.doVerify = false → P (hadCheck (hvdHaves (hvdInstall m)))) :
    P (handleVerificationDone m) := by
  rw [handleVerificationDone_eq]
  exact ite_ind hS fun hd => hC (Bool.eq_false_iff.2 hd)

theorem handlePieceWriteDone_cases {P : M → Prop} (m : M) (w : WriteJob) (e : Bool)
    (hB : w.good = false → P (pwdBan (pwdReset m w) w))
    (hI : w.good = true → w.gen ≠ m.1.gen ∨ m.1.loaded = false → P (pwdReset m w))
    (hE : w.good = true → e = true → w.gen = m.1.gen → m.1.loaded = true → P (onSt (pwdReset m w) (·.stop true)))
    (hN : w.good = true → e = false → w.gen = m.1.gen → m.1.loaded = true → m.1.bf = none →
      P (onSt (pwdDone (pwdReset m w) w) (·.crash "handlePieceWriteDone: nil bitfield")))
    (hO : ∀ b, w.good = true → e = false → w.gen = m.1.gen → m.1.loaded = true → m.1.bf = some b →
      P (pwdOk (pwdDone (pwdReset m w) w) w b)) :
    P (handlePieceWriteDone m w e) := by
  rw [handlePieceWriteDone_eq]
  dsimp only
  refine ite_ind (fun hg => hB (by simpa using hg)) fun hg => ?_
  have hg : w.good = true := by simpa using hg
  refine ite_ind (fun hst => hI hg (by simpa [pwdReset] using hst)) fun hst => ?_
  have hst : w.gen = m.1.gen ∧ m.1.loaded = true := by simpa [pwdReset] using hst
  refine ite_ind (fun he => hE hg he hst.1 hst.2) fun he => ?_
  cases hb : m.1.bf with
  | none => rw [show (pwdDone (pwdReset m w) w).1.bf = none from hb]; exact hN hg (by simpa using he) hst.1 hst.2 hb
  | some b => rw [show (pwdDone (pwdReset m w) w).1.bf = some b from hb]; exact hO b hg (by simpa using he) hst.1 hst.2 hb

theorem start_inv {P : St → Prop} (m : M) (h : P m.1)
    (hS : m.1.stopAnn = true → P (handleStopped (onSt m fun s => { s with stopHang := false })).1)
    (hC : ∀ x : M, P x.1 → x.1.errC = false → P (startCore x).1) : P (start m).1 := by
  rw [start_eq]
  have h1 : P (startPre m).1 := ite_ind (P := fun x : M => P x.1) hS fun _ => h
  exact ite_ind (P := fun x : M => P x.1) (fun _ => h1) fun he => hC _ h1 (Bool.eq_false_iff.2 he)

end Rain.Loop
