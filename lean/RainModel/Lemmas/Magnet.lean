import RainModel.Model.Magnet
import RainModel.Lemmas.Radix
import RainModel.Lemmas.ListFacts
/-! Helper lemmas for `magnet_roundtrip` (C13). A numbered tier is written under one key (`tierKey`: `tr` for a single
tracker, `tr.<i>` otherwise), so what a key carries in a rendered link is the tiers written under it (`valuesOf_renderTiers`);
any duplicate-free iteration order lists the keys that carry a tier as a permutation of `trKeys`. -/
namespace Rain.Magnet

theorem fromHexChar_lower : ∀ n, n < 16 → fromHexChar (hexDigitLower n) = some n := by decide

theorem hexDecode_encode (bs : List Nat) (h : ∀ b ∈ bs, b < 256) : hexDecode (hexEncode bs) = some bs := by
  induction bs with
  | nil => rfl
  | cons b bs ih =>
    have hb : b < 256 := h b (List.mem_cons_self ..)
    have ih' := ih (fun x hx => h x (List.mem_cons_of_mem _ hx))
    simp only [hexEncode, hexDecode, fromHexChar_lower (b / 16 % 16) (by omega),
      fromHexChar_lower (b % 16) (by omega), ih']
    congr 2
    omega

theorem hexEncode_length (bs : List Nat) : (hexEncode bs).length = 2 * bs.length := by
  induction bs with
  | nil => rfl
  | cons b bs ih => simp only [hexEncode, List.length_cons, ih]; omega

theorem cutPrefix_append (p s : Str) : cutPrefix (p ++ s) p = some s := by
  induction p with
  | nil => cases s <;> rfl
  | cons c p ih => simp [cutPrefix, ih]

theorem itoaAux_eq : ∀ (f n : Nat) (acc : Str), n < f →
    itoaAux f n acc = ((Radix.digitsRev 10 f n).map (48 + ·)).reverse ++ acc := by
  intro f
  induction f with
  | zero => intro n acc h; omega
  | succ f ih =>
    intro n acc h
    rw [itoaAux, Radix.digitsRev]
    by_cases h10 : n < 10
    · rw [if_pos h10, if_pos (by omega), Nat.mod_eq_of_lt h10]; rfl
    · rw [if_neg h10, if_neg (by omega), ih _ _ (by omega)]; simp

theorem itoa_eq_natDec (n : Nat) : itoa n = Radix.natDec n := by
  rw [itoa, itoaAux_eq _ _ _ (Nat.lt_succ_self n), List.append_nil, Radix.natDec, List.map_reverse]

theorem atoiDigits_itoa (n : Nat) : atoiDigits (itoa n) 0 = some n :=
  itoa_eq_natDec n ▸ Radix.read_natDec (fun _ => rfl) (fun d cs a hd => by simp [atoiDigits]; omega) n

theorem atoi_itoa (n : Nat) (h : n < 2 ^ 63) : atoi (itoa n) = some (n : Int) := by
  have hv := atoiDigits_itoa n
  obtain ⟨c, cs, hs, hc⟩ := Radix.natDec_head n
  rw [itoa_eq_natDec, hs] at hv ⊢
  have hm : splitSign (c :: cs) = (false, c :: cs) := by
    unfold splitSign
    split
    · rename_i heq; cases heq; omega
    · rename_i heq; cases heq; omega
    · rfl
  unfold atoi
  simp only [hm, List.isEmpty_cons, Bool.false_eq_true, ↓reduceIte, hv]
  simp [h]

theorem itoa_inj {a b : Nat} (h : itoa a = itoa b) : a = b :=
  Option.some.inj (atoiDigits_itoa a ▸ h ▸ atoiDigits_itoa b)

theorem valuesOf_append (k : Str) (a b : List Param) : valuesOf k (a ++ b) = valuesOf k a ++ valuesOf k b := by
  simp [valuesOf]

theorem valuesOf_map_const (k k' : Str) (t : List Str) :
    valuesOf k (t.map fun v => (k', v)) = if k' = k then t else [] := by
  unfold valuesOf
  by_cases h : k' = k
  · subst h; simp [List.filter_map, Function.comp_def]
  · simp [List.filter_map, Function.comp_def, h]

def trKey (i : Nat) : Str := kTrDot ++ itoa i

/-- The key under which tier `p.1`, numbered `p.2`, is written. -/
def tierKey : List Str × Nat → Str
  | ([_], _) => kTr
  | (_, i) => trKey i

/-- `tr` and `tr.<anything>`: every other key gives no tier. -/
def isTrKey (k : Str) : Bool := k == kTr || (cutPrefix k kTrDot).isSome

theorem trKey_ne_tr (i : Nat) : trKey i ≠ kTr := by
  intro h; have := congrArg List.length h; simp [trKey, kTrDot, kTr] at this

theorem trKey_inj {a b : Nat} (h : trKey a = trKey b) : a = b := itoa_inj (List.append_cancel_left h)

theorem isTrKey_trKey (i : Nat) : isTrKey (trKey i) = true := by
  simp [isTrKey, trKey, cutPrefix_append]

theorem isTrKey_tierKey (p : List Str × Nat) : isTrKey (tierKey p) = true := by
  unfold tierKey; split
  · rfl
  · exact isTrKey_trKey _

theorem tierKey_multi {t : List Str} (h : 2 ≤ t.length) (i : Nat) : tierKey (t, i) = trKey i := by
  rcases t with _ | ⟨x, _ | ⟨y, r⟩⟩
  · rfl
  · simp at h
  · rfl

theorem renderTier_eq (i : Nat) (t : List Str) : renderTier i t = t.map fun v => (tierKey (t, i), v) := by
  rcases t with _ | ⟨x, _ | ⟨y, r⟩⟩ <;> rfl

theorem valuesOf_renderTiers (k : Str) (ts : List (List Str)) (j : Nat) :
    valuesOf k (renderTiers ts j) = (ts.zipIdx j).flatMap fun p => if tierKey p = k then p.1 else [] := by
  induction ts generalizing j with
  | nil => rfl
  | cons t rest ih => rw [renderTiers, valuesOf_append, ih, renderTier_eq, valuesOf_map_const]; rfl

theorem valuesOf_renderTiers_other {k : Str} (hk : isTrKey k = false) (ts : List (List Str)) (j : Nat) :
    valuesOf k (renderTiers ts j) = [] := by
  rw [valuesOf_renderTiers, List.flatMap_eq_nil_iff]
  intro p _
  rw [if_neg]
  rintro rfl
  rw [isTrKey_tierKey] at hk
  cases hk

theorem tierKey_eq_trKey {q : List Str × Nat} {i : Nat} (h : tierKey q = trKey i) : q.2 = i := by
  unfold tierKey at h
  split at h
  · exact absurd h.symm (trKey_ne_tr i)
  · exact trKey_inj h

theorem valuesOf_renderTiers_multi {ts : List (List Str)} {j : Nat} {p : List Str × Nat} (hp : p ∈ ts.zipIdx j)
    (h2 : 2 ≤ p.1.length) : valuesOf (trKey p.2) (renderTiers ts j) = p.1 := by
  induction ts generalizing j with
  | nil => cases hp
  | cons t rest ih =>
    rw [renderTiers, valuesOf_append, renderTier_eq, valuesOf_map_const]
    rcases List.mem_cons.1 hp with rfl | hp
    · rw [if_pos (tierKey_multi h2 j), valuesOf_renderTiers, List.flatMap_eq_nil_iff.2, List.append_nil]
      intro q hq
      have := List.le_snd_of_mem_zipIdx hq
      exact if_neg fun e => by have := tierKey_eq_trKey e; omega
    · have := List.le_snd_of_mem_zipIdx hp
      rw [if_neg fun e => by have := tierKey_eq_trKey e; omega, ih hp, List.nil_append]

theorem insertTier_perm (t : TrackerTier) (l : List TrackerTier) : (insertTier t l).Perm (t :: l) := by
  induction l with
  | nil => exact List.Perm.refl _
  | cons x xs ih =>
    simp only [insertTier]
    split
    · exact List.Perm.refl _
    · exact (List.Perm.cons x ih).trans (List.Perm.swap t x xs)

theorem sortTiers_perm (l : List TrackerTier) : (sortTiers l).Perm l := by
  induction l with
  | nil => exact List.Perm.refl _
  | cons t ts ih => exact (insertTier_perm t _).trans (List.Perm.cons t ih)

theorem singleTiers_trackers (vals : List Str) (n : Nat) : ∀ i, (singleTiers vals n i).map (·.trackers) = vals.map ([·]) := by
  induction vals with
  | nil => intro i; simp [singleTiers]
  | cons v rest ih => intro i; simp [singleTiers, ih]

/-- The numbered tiers of two or more trackers. -/
def multis (ts : List (List Str)) : List (List Str × Nat) := ts.zipIdx.filter (2 ≤ ·.1.length)

/-- The tracker keys of a rendered link, in the order written. -/
def trKeys (ts : List (List Str)) : List Str :=
  (if valuesOf kTr (renderTiers ts 0) ≠ [] then [kTr] else []) ++ ((multis ts).map (·.2)).map trKey

theorem tiersOfKey_other (ps : List Param) {k : Str} (h : isTrKey k = false) : tiersOfKey ps k = [] := by
  rw [isTrKey, Bool.or_eq_false_iff, beq_eq_false_iff_ne, Option.isSome_eq_false_iff,
    Option.isNone_iff_eq_none] at h
  simp [tiersOfKey, h.1, h.2]

theorem flatMap_filter_of_nil {α β : Type} {f : α → List β} {p : α → Bool}
    (h : ∀ a, p a = false → f a = []) (l : List α) : (l.filter p).flatMap f = l.flatMap f := by
  induction l with
  | nil => rfl
  | cons a l ih =>
    cases hp : p a
    · rw [List.filter_cons_of_neg (by simp [hp]), List.flatMap_cons, h a hp, ih, List.nil_append]
    · rw [List.filter_cons_of_pos hp, List.flatMap_cons, List.flatMap_cons, ih]

theorem trKeys_nodup (ts : List (List Str)) : (trKeys ts).Nodup := by
  rw [trKeys, List.nodup_append]
  refine ⟨by split <;> simp, ?_, fun a ha b hb => ?_⟩
  · have : ((multis ts).map (·.2)).Nodup :=
      (List.filter_sublist.map _).nodup (List.zipIdx_map_snd 0 ts ▸ List.nodup_range')
    exact List.Pairwise.map trKey (S := (· ≠ ·)) (fun a b h e => h (trKey_inj e)) this
  · obtain ⟨i, _, rfl⟩ := List.mem_map.1 hb
    split at ha
    · cases List.mem_singleton.1 ha
      exact (trKey_ne_tr i).symm
    · cases ha

theorem mem_keys (k : Str) (ps : List Param) : k ∈ ps.map (·.1) ↔ valuesOf k ps ≠ [] := by
  simp [valuesOf, List.filter_eq_nil_iff]

theorem mem_trKeys (ts : List (List Str)) (k : Str) : k ∈ trKeys ts ↔ valuesOf k (renderTiers ts 0) ≠ [] := by
  constructor
  · intro h
    rcases List.mem_append.1 h with h | h
    · split at h
      · cases List.mem_singleton.1 h; assumption
      · cases h
    · obtain ⟨_, hi, rfl⟩ := List.mem_map.1 h
      obtain ⟨p, hp, rfl⟩ := List.mem_map.1 hi
      obtain ⟨hp, h2⟩ := List.mem_filter.1 hp
      have h2 : 2 ≤ p.1.length := by simpa using h2
      rw [valuesOf_renderTiers_multi hp h2]
      intro e; rw [e] at h2; cases h2
  · intro h
    obtain ⟨⟨t, i⟩, hq, hne⟩ : ∃ q ∈ ts.zipIdx 0, (if tierKey q = k then q.1 else []) ≠ [] := by
      simpa [valuesOf_renderTiers, List.flatMap_eq_nil_iff] using h
    split at hne
    · subst k
      rcases t with _ | ⟨x, _ | ⟨y, r⟩⟩
      · cases hne rfl
      · exact List.mem_append_left _ (by rw [if_pos (show valuesOf kTr _ ≠ [] from h)]; exact List.mem_singleton_self _)
      · exact List.mem_append_right _ (List.mem_map.2 ⟨i, List.mem_map.2 ⟨_, List.mem_filter.2 ⟨hq, by simp⟩, rfl⟩, rfl⟩)
    · cases hne rfl

theorem tiersOfKey_trKey (ps : List Param) {i : Nat} (hi : i < 2 ^ 63) :
    tiersOfKey ps (trKey i) = [⟨valuesOf (trKey i) ps, i⟩] := by
  rw [tiersOfKey, if_neg (trKey_ne_tr i)]
  simp [trKey, cutPrefix_append, atoi_itoa i hi]

theorem rawTiers_trKeys (ts : List (List Str)) (hlen : ts.length ≤ 2 ^ 63) (ps : List Param)
    (hv : ∀ k, isTrKey k = true → valuesOf k ps = valuesOf k (renderTiers ts 0)) :
    (rawTiers (trKeys ts) ps).map (·.trackers) = (valuesOf kTr ps).map ([·]) ++ (multis ts).map (·.1) := by
  rw [rawTiers, trKeys, List.flatMap_append, List.map_append, ← hv kTr rfl]
  congr 1
  · split
    · rw [List.flatMap_cons, List.flatMap_nil, List.append_nil, tiersOfKey, if_pos rfl, singleTiers_trackers]
    · rename_i h; rw [Decidable.not_not.1 h]; rfl
  · rw [List.map_map, List.flatMap_map, List.map_flatMap, List.map_eq_flatMap]
    refine flatMap_congr_mem _ _ _ fun p hp => ?_
    obtain ⟨hp, h2⟩ := List.mem_filter.1 hp
    have := List.snd_lt_of_mem_zipIdx hp
    rw [Function.comp, tiersOfKey_trKey ps (by omega), hv _ (isTrKey_trKey _), valuesOf_renderTiers_multi hp (by simpa using h2)]
    rfl

theorem valuesOf_render (k : Str) (m : Magnet) :
    valuesOf k (render m) =
      (if kXt = k then [pBtih ++ hexEncode m.ih] else []) ++
      (if kDn = k then (if m.name ≠ [] then [m.name] else []) else []) ++
      valuesOf k (renderTiers m.trackers 0) ++ (if kPe = k then m.peers else []) := by
  unfold render
  rw [valuesOf_append, valuesOf_append, valuesOf_append, valuesOf_map_const]
  congr 3
  · by_cases h : kXt = k <;> simp [valuesOf, h]
  · by_cases h : kDn = k <;> by_cases hn : m.name = [] <;> simp [valuesOf, h, hn]

theorem values_other (m : Magnet) {k : Str} (hk : isTrKey k = false) :
    valuesOf k (render m) = (if kXt = k then [pBtih ++ hexEncode m.ih] else []) ++
      (if kDn = k then (if m.name ≠ [] then [m.name] else []) else []) ++ (if kPe = k then m.peers else []) := by
  rw [valuesOf_render, valuesOf_renderTiers_other hk, List.append_nil]

theorem values_xt (m : Magnet) : valuesOf kXt (render m) = [pBtih ++ hexEncode m.ih] :=
  (values_other m rfl).trans rfl

theorem values_dn (m : Magnet) : valuesOf kDn (render m) = if m.name ≠ [] then [m.name] else [] :=
  (values_other m rfl).trans (List.append_nil _)

theorem values_pe (m : Magnet) : valuesOf kPe (render m) = m.peers :=
  (values_other m rfl).trans rfl

theorem values_trKey (m : Magnet) {k : Str} (hk : isTrKey k = true) :
    valuesOf k (render m) = valuesOf k (renderTiers m.trackers 0) := by
  have hne : ∀ k', isTrKey k' = false → k' ≠ k := fun k' h e => by rw [e, hk] at h; cases h
  rw [valuesOf_render, if_neg (hne kXt rfl), if_neg (hne kDn rfl), if_neg (hne kPe rfl), List.nil_append,
    List.nil_append, List.append_nil]

theorem tiers_perm (ts : List (List Str)) (j : Nat) :
    ((valuesOf kTr (renderTiers ts j)).map ([·]) ++ ((ts.zipIdx j).filter (2 ≤ ·.1.length)).map (·.1)).Perm
      (ts.filter (· ≠ [])) := by
  induction ts generalizing j with
  | nil => exact .nil
  | cons t rest ih =>
    have := ih (j + 1)
    rw [renderTiers, valuesOf_append, renderTier_eq, valuesOf_map_const]
    rcases t with _ | ⟨x, _ | ⟨y, r⟩⟩
    · simpa using this
    · simpa [tierKey] using this
    · simpa [tierKey, trKey_ne_tr] using List.perm_middle.trans (this.cons _)

/-- All admissible iteration orders give the same multiset of tiers: only the tracker keys produce
tiers, and an order without repetitions lists them as a permutation of the order written. -/
theorem rawTiers_order_perm (m : Magnet) (hlen : m.trackers.length ≤ 2 ^ 63) (order : List Str)
    (hnd : order.Nodup) (hmem : ∀ k, k ∈ order ↔ k ∈ (render m).map (·.1)) :
    ((sortTiers (rawTiers order (render m))).map (·.trackers)).Perm (m.trackers.filter (· ≠ [])) := by
  have hperm : (order.filter isTrKey).Perm (trKeys m.trackers) :=
    (List.perm_ext_iff_of_nodup (hnd.filter _) (trKeys_nodup _)).2 fun k => by
      rw [List.mem_filter, hmem, mem_keys, mem_trKeys]
      refine ⟨fun ⟨h, hk⟩ => values_trKey m hk ▸ h, fun h => ?_⟩
      cases hk : isTrKey k
      · exact absurd (valuesOf_renderTiers_other hk _ _) h
      · exact ⟨(values_trKey m hk).symm ▸ h, rfl⟩
  have h1 : (rawTiers order (render m)).Perm (rawTiers (trKeys m.trackers) (render m)) := by
    rw [rawTiers, ← flatMap_filter_of_nil (fun k => tiersOfKey_other (render m)) order]
    exact List.Perm.flatMap_right _ hperm
  have h2 := ((sortTiers_perm _).trans h1).map (·.trackers)
  rw [rawTiers_trKeys _ hlen _ fun k => values_trKey m, values_trKey m rfl] at h2
  exact h2.trans (tiers_perm m.trackers 0)

/-- Parsing a rendered link, whatever the iteration order of its keys: the info-hash, the name and the peers come
back, and the tiers are those read off the rendered parameters, sorted by index. -/
theorem parse_render (m : Magnet) (hih : m.ih.length = 20) (hb : ∀ b ∈ m.ih, b < 256) (order : List Str) :
    parse [109, 97, 103, 110, 101, 116] order (render m) =
      .ok { ih := m.ih, name := m.name, peers := m.peers,
            trackers := (sortTiers (rawTiers order (render m))).map (·.trackers) } := by
  have hx : parseInfoHash (valuesOf kXt (render m)) false = .ok m.ih := by
    rw [values_xt]
    simp only [parseInfoHash, cutPrefix_append, infoHashString, hexEncode_length, hih,
      hexDecode_encode m.ih hb, ↓reduceIte, toIH]
    congr 1
    rw [List.take_append_of_le_length (by omega), List.take_of_length_le (by omega)]
  have hn : (valuesOf kDn (render m)).headD [] = m.name := by
    rw [values_dn]
    split
    · rfl
    · rename_i h; simp only [ne_eq, Decidable.not_not] at h; simp [h]
  unfold parse
  simp only [ne_eq, not_true_eq_false, ↓reduceIte, hx, hn, values_pe]
  rw [values_xt]
  rfl

end Rain.Magnet
