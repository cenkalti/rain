import RainModel.Model.MSE
import RainModel.Lemmas.Radix
/-!
Lemmas over `Model/MSE.lean`, in the order of the handshake: the bounded scan for a marker (`readSync` as a recursion
over one stream with a cursor, what it finds, when it gives up); bytes, XOR and the cipher states (what is encrypted
with a state is read back with an equal state); `selectedCheck`; the four messages of an honest session as closed
terms (`msg3`, `msg4`, `doneA`, `doneB`) and the two sides run on them (`outgoing_eq`, `incoming_eq`, `session_B`,
`honestSession_cases`); what any successful handshake returns (`outFinish_ok`, `inFinish_ok`); the stream after the
handshake under any chunking (`sendAll`, `recvAll`); what `accept` and `dial` report (`accept_ok`, `dial_ok`).  The
hypotheses on the crypto primitives are named (`Honest`, `LooksUpByHash`), never axioms.
-/
namespace Rain.MSE

def MatchAt (key s : Bytes) (j : Nat) : Prop := (s.drop j).take key.length = key

instance (key s : Bytes) (j : Nat) : Decidable (MatchAt key s j) := by unfold MatchAt; infer_instance

theorem matchAt_drop (key s : Bytes) (d j : Nat) : MatchAt key (s.drop d) j ↔ MatchAt key s (d + j) := by
  unfold MatchAt
  rw [List.drop_drop]

theorem matchAt_append_left (key a b : Bytes) (j : Nat) (h : j + key.length ≤ a.length) :
    MatchAt key (a ++ b) j ↔ MatchAt key a j := by
  unfold MatchAt
  rw [List.drop_append_of_le_length (by omega), List.take_append_of_le_length (by simp; omega)]

theorem pos_of_not_matchAt {key s : Bytes} {j : Nat} (h : ¬ MatchAt key s j) : 0 < key.length := by
  apply Nat.pos_of_ne_zero
  intro h0
  obtain rfl : key = [] := List.eq_nil_of_length_eq_zero h0
  exact h (by simp [MatchAt])

theorem syncLoop_eq (key win rest : Bytes) (m : Int) (hw : win.length = key.length) :
    syncLoop key win m rest = readSync key (m + key.length) (win ++ rest) := by
  rw [readSync, if_neg (by rw [List.length_append]; omega), ← hw, List.take_left, List.drop_left,
    Int.add_sub_cancel]

/-- `readSync` as a recursion over the stream. -/
theorem readSync_eq (key s : Bytes) (max : Int) :
    readSync key max s =
      if s.length < key.length then .eof
      else if MatchAt key s 0 then .found (s.drop key.length)
      else if max ≤ key.length then .notFound (s.drop key.length)
      else readSync key (max - 1) (s.drop 1) := by
  rw [readSync]
  split
  · rfl
  · rename_i hl
    have hb : max - key.length ≤ 0 ↔ max ≤ key.length := by omega
    by_cases h0 : MatchAt key s 0
    · have h0' : s.take key.length = key := h0
      rw [if_pos h0]
      cases s.drop key.length <;> simp [syncLoop, h0']
    · rw [if_neg h0]
      have hL := pos_of_not_matchAt h0
      replace h0 : s.take key.length ≠ key := h0
      cases hd : s.drop key.length with
      | nil =>
        have hs : (s.drop 1).length < key.length := by
          have := congrArg List.length hd
          simp only [List.length_drop, List.length_nil] at this ⊢
          omega
        simp only [syncLoop, h0, hb, if_false, readSync, hs, if_true]
      | cons b rest =>
        have hs : s.drop 1 = (s.take key.length).drop 1 ++ [b] ++ rest := by
          rw [List.append_assoc, List.singleton_append, ← hd,
            ← List.drop_append_of_le_length (by rw [List.length_take]; omega), List.take_append_drop]
        have hw : ((s.take key.length).drop 1 ++ [b]).length = key.length := by
          simp only [List.length_append, List.length_drop, List.length_take, List.length_singleton]; omega
        rw [syncLoop, if_neg h0, hs, syncLoop_eq _ _ _ _ hw]
        simp only [hb]
        congr 2; omega

/-- Scanning a stream `s` of which `d` bytes are consumed: positions are those of `s`. -/
theorem readSync_skip (key s : Bytes) (d : Nat) : ∀ (k : Nat) (max : Int),
    (∀ j, d ≤ j → j < d + k → ¬ MatchAt key s j) → (k : Int) + key.length ≤ max →
    readSync key max (s.drop d) = readSync key (max - k) (s.drop (d + k))
  | 0, max, _, _ => by simp
  | k + 1, max, hno, hb => by
    rw [readSync_skip key s d k max (fun j h1 h2 => hno j h1 (by omega)) (by omega), readSync_eq]
    split
    · rw [readSync_eq, if_pos (by simp only [List.length_drop] at *; omega)]
    · rw [if_neg (by rw [matchAt_drop]; exact hno _ (by omega) (by omega)), if_neg (by omega), List.drop_drop]
      congr 1; omega

theorem readSync_found (key s : Bytes) (max : Int) {d e : Nat} (hde : d ≤ e) (hk : MatchAt key s e)
    (hno : ∀ j, d ≤ j → j < e → ¬ MatchAt key s j) (hb : (e : Int) - d + key.length ≤ max) :
    readSync key max (s.drop d) = .found (s.drop (e + key.length)) := by
  obtain ⟨k, rfl⟩ := Nat.exists_eq_add_of_le hde
  have hlen := congrArg List.length hk
  rw [List.length_take, List.length_drop] at hlen
  rw [readSync_skip key s d k max hno (by omega), readSync_eq, if_neg (by rw [List.length_drop]; omega),
    if_pos ((matchAt_drop key s (d + k) 0).2 hk), List.drop_drop]

theorem readSync_notFound (key s : Bytes) {d e : Nat} (hde : d + key.length ≤ e) (hlen : e ≤ s.length)
    (hno : ∀ j, d ≤ j → j + key.length ≤ e → ¬ MatchAt key s j) :
    readSync key ((e : Int) - d) (s.drop d) = .notFound (s.drop e) := by
  obtain ⟨k, rfl⟩ := Nat.exists_eq_add_of_le hde
  rw [readSync_skip key s d k _ (fun j h1 h2 => hno j h1 (by omega)) (by omega), readSync_eq,
    if_neg (by rw [List.length_drop]; omega),
    if_neg (by rw [matchAt_drop]; exact hno _ (by omega) (by omega)), if_pos (by omega), List.drop_drop]
  congr 2; omega

theorem readSync_eof (key s : Bytes) (max : Int) {d : Nat} (hd : d ≤ s.length)
    (hlen : (s.length : Int) - d < max) (hno : ∀ j, d ≤ j → j + key.length ≤ s.length → ¬ MatchAt key s j) :
    readSync key max (s.drop d) = .eof := by
  by_cases hl : (s.drop d).length < key.length
  · rw [readSync_eq, if_pos hl]
  · rw [List.length_drop] at hl
    have hL := pos_of_not_matchAt (hno d (Nat.le_refl d) (by omega))
    rw [readSync_skip key s d (s.length - d - key.length + 1) max (fun j h1 h2 => hno j h1 (by omega))
      (by omega), readSync_eq, if_pos (by rw [List.length_drop]; omega)]

theorem readSync_sound (key s : Bytes) (max : Nat) (hmax : key.length ≤ max) (r : Bytes)
    (h : readSync key (max : Int) s = .found r) :
    ∃ k, MatchAt key s k ∧ (∀ j, j < k → ¬ MatchAt key s j) ∧ k + key.length ≤ max ∧
      r = s.drop (k + key.length) := by
  induction max using Nat.strongRecOn generalizing s with
  | _ max ih =>
    rw [readSync_eq] at h
    split at h
    · cases h
    split at h
    · rename_i h0
      injection h with h
      exact ⟨0, h0, fun j hj => absurd hj (Nat.not_lt_zero j), by omega, by rw [Nat.zero_add, h]⟩
    rename_i h0
    split at h
    · cases h
    rename_i hb
    have e : (max : Int) - 1 = ((max - 1 : Nat) : Int) := by omega
    rw [e] at h
    obtain ⟨k, hk, hno, hkb, hr⟩ := ih (max - 1) (by omega) (s.drop 1) (by omega) h
    rw [matchAt_drop] at hk
    rw [List.drop_drop] at hr
    refine ⟨1 + k, hk, ?_, by omega, by rw [hr, Nat.add_assoc]⟩
    intro j hj
    cases j with
    | zero => exact h0
    | succ j => rw [Nat.add_comm, ← matchAt_drop]; exact hno j (by omega)

/-- A marker behind a prefix `pre`, of which `fr` bytes were already consumed, scanned for with budget
`bound - fr`. -/
theorem sync_prefix (key pre tail : Bytes) (fr bound n : Nat) (max : Int) (hn : pre.length = n)
    (hmax : max = bound - fr) (hfr : fr ≤ n) (hfrb : fr + key.length ≤ bound)
    (hno : ∀ j, fr ≤ j → j < n → ¬ MatchAt key (pre ++ key) j) :
    readSync key max ((pre ++ key ++ tail).drop fr) =
      if n + key.length ≤ bound then .found tail
      else .notFound ((pre ++ key ++ tail).drop bound) := by
  subst hn hmax
  have hno' : ∀ j, fr ≤ j → j < pre.length → ¬ MatchAt key (pre ++ key ++ tail) j := fun j h1 h2 => by
    rw [matchAt_append_left key (pre ++ key) tail j (by rw [List.length_append]; omega)]
    exact hno j h1 h2
  split
  · have hk : MatchAt key (pre ++ key ++ tail) pre.length := by
      unfold MatchAt
      rw [List.append_assoc, List.drop_left, List.take_left]
    rw [readSync_found key _ _ hfr hk hno' (by omega), ← List.length_append, List.drop_left]
  · rw [readSync_notFound key _ hfrb (by simp only [List.length_append]; omega)
      fun j h1 h2 => hno' j h1 (by omega)]

theorem sync_prefix_eof (key pre : Bytes) (fr n : Nat) (max : Int) (hn : pre.length = n) (hfr : fr ≤ n)
    (hk : 0 < key.length) (hmax : (n : Int) - fr < max)
    (hno : ∀ j, fr ≤ j → j < n → ¬ MatchAt key (pre ++ key) j) :
    readSync key max (pre.drop fr) = .eof := by
  subst hn
  refine readSync_eof key pre max hfr hmax fun j h1 h2 => ?_
  rw [← matchAt_append_left key pre key j h2]
  exact hno j h1 (by omega)

@[simp] theorem zeros_length (n : Nat) : (zeros n).length = n := by simp [zeros]
@[simp] theorem vc_length : vc.length = 8 := by simp [vc]
@[simp] theorem be16_length (n : Nat) : (be16 n).length = 2 := rfl
@[simp] theorem be32_length (n : Nat) : (be32 n).length = 4 := rfl

theorem be16_eq (n : Nat) : be16 n = Radix.digits 256 2 n := by simp [be16, Radix.digits]
theorem be32_eq (n : Nat) : be32 n = Radix.digits 256 4 n := by simp [be32, Radix.digits]

theorem fromBE_be16 (n : Nat) (h : n < 65536) : fromBE (be16 n) = n := by
  rw [be16_eq]; exact Radix.ofDigits_digits_of_lt h

theorem fromBE_be32 (n : Nat) (h : n < 4294967296) : fromBE (be32 n) = n := by
  rw [be32_eq]; exact Radix.ofDigits_digits_of_lt h

theorem xor_cancel_right (a k : Nat) : (a ^^^ k) ^^^ k = a := by
  rw [Nat.xor_assoc, Nat.xor_self, Nat.xor_zero]

@[simp] theorem xorBytes_length (a b : Bytes) : (xorBytes a b).length = min a.length b.length := by
  simp [xorBytes]

theorem xorBytes_cancel : ∀ (a b : Bytes), a.length ≤ b.length → xorBytes (xorBytes a b) b = a
  | [], _, _ => by simp [xorBytes]
  | _ :: _, [], h => by simp at h
  | x :: a, y :: b, h => by
    have := xorBytes_cancel a b (by simpa using h)
    simp only [xorBytes, List.zipWith_cons_cons] at this ⊢
    rw [this, xor_cancel_right]

theorem xorBytes_comm (a b : Bytes) : xorBytes a b = xorBytes b a :=
  List.zipWith_comm_of_comm Nat.xor_comm

@[simp] theorem xorAt_length (ks : Nat → Nat) : ∀ (p : Nat) (a : Bytes), (xorAt ks p a).length = a.length
  | _, [] => rfl
  | p, _ :: a => by simp [xorAt, xorAt_length ks (p + 1) a]

theorem xorAt_append (ks : Nat → Nat) : ∀ (p : Nat) (a b : Bytes),
    xorAt ks p (a ++ b) = xorAt ks p a ++ xorAt ks (p + a.length) b
  | _, [], _ => by simp [xorAt]
  | p, x :: a, b => by
    simp only [List.cons_append, xorAt, List.length_cons]
    rw [xorAt_append ks (p + 1) a b]
    have : p + 1 + a.length = p + (a.length + 1) := by omega
    rw [this]

theorem xorAt_xorAt (ks : Nat → Nat) : ∀ (p : Nat) (a : Bytes), xorAt ks p (xorAt ks p a) = a
  | _, [] => rfl
  | p, x :: a => by simp [xorAt, xorAt_xorAt ks (p + 1) a, xor_cancel_right]

@[simp] theorem apply_length (c : Ciph) (a : Bytes) : (c.apply a).1.length = a.length := by
  unfold Ciph.apply; split <;> simp

@[simp] theorem apply_ks (c : Ciph) (a : Bytes) : (c.apply a).2.ks = c.ks := by
  unfold Ciph.apply; split <;> simp
@[simp] theorem apply_plain (c : Ciph) (a : Bytes) : (c.apply a).2.plain = c.plain := by
  unfold Ciph.apply; split <;> simp [*]

@[simp] theorem apply_nil (c : Ciph) : c.apply [] = ([], c) := by
  unfold Ciph.apply; split <;> simp [xorAt]

theorem apply_append (c : Ciph) (a b : Bytes) :
    c.apply (a ++ b) = ((c.apply a).1 ++ ((c.apply a).2.apply b).1, ((c.apply a).2.apply b).2) := by
  unfold Ciph.apply
  by_cases h : c.plain
  · simp [h]
  · simp [h, xorAt_append, Nat.add_assoc]

theorem apply_apply (c : Ciph) (a : Bytes) : c.apply (c.apply a).1 = (a, (c.apply a).2) := by
  unfold Ciph.apply
  by_cases h : c.plain
  · simp [h]
  · simp [h, xorAt_xorAt]

theorem apply_rc4 (ks : Nat → Nat) (p : Nat) (a : Bytes) :
    (Ciph.apply ⟨ks, p, false⟩ a) = (xorAt ks p a, ⟨ks, p + a.length, false⟩) := by
  simp [Ciph.apply]

theorem readN_append (a b : Bytes) (n : Nat) (h : n = a.length) : readN n (a ++ b) = .ok (a, b) := by
  subst h; simp [readN]

theorem readN_ok {n : Nat} {inp a b : Bytes} (h : readN n inp = .ok (a, b)) :
    inp = a ++ b ∧ a.length = n := by
  unfold readN at h
  split at h
  · simp at h
    obtain ⟨rfl, rfl⟩ := h
    exact ⟨(List.take_append_drop n inp).symm, by simp; omega⟩
  · simp at h

theorem read_apply (r : Ciph) (a b rest : Bytes) (n : Nat) (hn : n = a.length) :
    r.read n ((r.apply (a ++ b)).1 ++ rest)
      = .ok (a, (r.apply a).2, ((r.apply a).2.apply b).1 ++ rest) := by
  rw [apply_append]
  simp only [Ciph.read, List.append_assoc]
  rw [readN_append _ _ n (by simp [hn])]
  simp [apply_apply]

theorem read_apply_last (r : Ciph) (a rest : Bytes) (n : Nat) (hn : n = a.length) :
    r.read n ((r.apply a).1 ++ rest) = .ok (a, (r.apply a).2, rest) := by
  have := read_apply r a [] rest n hn
  simpa using this

theorem readBlock16_apply (r : Ciph) (n : Nat) (blk b rest : Bytes) (hn : n = blk.length) (h : n < 65536) :
    readBlock16 r ((r.apply (be16 n ++ (blk ++ b))).1 ++ rest)
      = .ok (blk, (r.apply (be16 n ++ blk)).2,
             ((r.apply (be16 n ++ blk)).2.apply b).1 ++ rest) := by
  unfold readBlock16
  rw [read_apply r (be16 n) (blk ++ b) rest 2 (by simp)]
  simp only [fromBE_be16 _ h]
  rw [read_apply _ blk b rest _ hn]
  simp [apply_append]

theorem readBlock16_apply_last (r : Ciph) (n : Nat) (blk rest : Bytes) (hn : n = blk.length) (h : n < 65536) :
    readBlock16 r ((r.apply (be16 n ++ blk)).1 ++ rest)
      = .ok (blk, (r.apply (be16 n ++ blk)).2, rest) := by
  have := readBlock16_apply r n blk [] rest hn h
  simpa using this

theorem ok_bind {ε α β : Type} (a : α) (f : α → Except ε β) : (Except.ok a >>= f) = f a := rfl

theorem bind_ok {ε α β : Type} {x : Except ε α} {f : α → Except ε β} {b : β} (h : x >>= f = .ok b) :
    ∃ a, x = .ok a ∧ f a = .ok b := by
  cases x with
  | error e => cases h
  | ok a => exact ⟨a, rfl, h⟩

theorem isPowerOfTwo_spec (x : Nat) (h : isPowerOfTwo x = true) : ∃ k, x = 2 ^ k := by
  unfold isPowerOfTwo at h
  simp only [Bool.and_eq_true, bne_iff_ne, ne_eq, beq_iff_eq] at h
  exact (Nat.and_sub_one_eq_zero_iff_isPowerOfTwo h.1).1 h.2

theorem testBit_of_two_pow_and (k p : Nat) (h : 2 ^ k &&& p ≠ 0) : p.testBit k = true := by
  cases hb : p.testBit k with
  | true => rfl
  | false =>
    exfalso; apply h
    apply Nat.eq_of_testBit_eq
    intro i
    rw [Nat.testBit_and, Nat.testBit_two_pow, Nat.zero_testBit]
    by_cases e : k = i
    · subst e; simp [hb]
    · simp [e]

theorem selectedCheck_ok (sel provide : Nat) (h : selectedCheck sel provide = .ok ()) :
    ∃ k, sel = 2 ^ k ∧ provide.testBit k = true := by
  unfold selectedCheck at h
  split at h; · simp at h
  split at h; · simp at h
  split at h; · simp at h
  rename_i h0 hp hand
  simp only [Bool.not_eq_true', Bool.not_eq_false] at hp
  obtain ⟨k, hk⟩ := isPowerOfTwo_spec sel hp
  exact ⟨k, hk, testBit_of_two_pow_and k provide (by rw [← hk]; exact hand)⟩

theorem selectedCheck_two_pow {sel k : Nat} (h : selectedCheck sel (2 ^ k) = .ok ()) : sel = 2 ^ k := by
  obtain ⟨j, rfl, hb⟩ := selectedCheck_ok sel _ h
  rw [Nat.testBit_two_pow, decide_eq_true_eq] at hb
  rw [hb]

theorem selectedCheck_lt {sel provide bound : Nat} (h : selectedCheck sel provide = .ok ())
    (hp : provide < bound) : sel < bound := by
  obtain ⟨k, rfl, hb⟩ := selectedCheck_ok sel provide h
  exact Nat.lt_of_le_of_lt (Nat.ge_two_pow_of_testBit hb) hp

/-! ### two honest endpoints -/

/-- The secret the receiver derives. -/
def secret (c : Crypto) (o : OutCfg) (i : InCfg) : Bytes := c.dh (c.pub o.x) i.x

/-- The receiver's encrypted VC: the first 8 bytes of its send key-stream after the discard. -/
def vcEnc (c : Crypto) (o : OutCfg) (i : InCfg) : Bytes :=
  xorAt (c.ks false (secret c o i) o.sKey) 1024 vc

/-- Plaintext of the encrypted part of step 3. -/
def body3 (o : OutCfg) : Bytes :=
  vc ++ (be32 o.provide ++ (be16 o.padCLen ++ (zeros o.padCLen ++ (be16 o.ia.length ++ o.ia))))

/-- Plaintext of step 4. -/
def body4 (sel padD : Nat) : Bytes := vc ++ (be32 sel ++ (be16 padD ++ zeros padD))

theorem body3_length (o : OutCfg) : (body3 o).length = 8 + 4 + 2 + o.padCLen + 2 + o.ia.length := by
  simp [body3]; omega

theorem body4_length (sel padD : Nat) : (body4 sel padD).length = 8 + 4 + 2 + padD := by
  simp [body4]; omega

/-- Step 3 as the initiator writes it in an honest run. -/
def msg3 (c : Crypto) (o : OutCfg) (i : InCfg) : Bytes :=
  c.req1 (secret c o i) ++ (xorBytes (c.req3 (secret c o i)) (c.hashSKey o.sKey) ++
    ((Ciph.init (c.ks true (secret c o i) o.sKey)).apply (body3 o)).1)

/-- Step 4 as the receiver writes it. -/
def msg4 (c : Crypto) (o : OutCfg) (i : InCfg) : Bytes :=
  ((Ciph.init (c.ks false (secret c o i) o.sKey)).apply (body4 (i.select o.provide) i.padDLen)).1

/-- Side conditions of an honest run: sizes of the cryptographic values, Diffie-Hellman agreement,
the protocol's pad limits, admissible first reads, and the two *named hypotheses* that the
synchronisation markers do not occur in the random pads before their true position. -/
structure Honest (c : Crypto) (o : OutCfg) (i : InCfg) (frA frB : Nat) : Prop where
  pubA : (c.pub o.x).length = 96
  pubB : (c.pub i.x).length = 96
  dhAgree : c.dh (c.pub i.x) o.x = c.dh (c.pub o.x) i.x
  req1Len : (c.req1 (secret c o i)).length = 20
  req3Len : (c.req3 (secret c o i)).length = 20
  hskLen : (c.hashSKey o.sKey).length = 20
  padA : o.padA.length ≤ 512
  padB : i.padB.length ≤ 512
  padC : o.padCLen < 65536
  padD : i.padDLen < 65536
  provide : o.provide < 4294967296
  frAok : 96 ≤ frA ∧ frA ≤ 96 + i.padB.length
  frBok : 96 ≤ frB ∧ frB ≤ 96 + o.padA.length
  noEarlyReq1 : ∀ j, frB ≤ j → j < 96 + o.padA.length →
    ¬ MatchAt (c.req1 (secret c o i)) (c.pub o.x ++ o.padA ++ c.req1 (secret c o i)) j
  noEarlyVC : ∀ j, frA ≤ j → j < 96 + i.padB.length →
    ¬ MatchAt (vcEnc c o i) (c.pub i.x ++ i.padB ++ vcEnc c o i) j

theorem honest_dropA {c : Crypto} {o : OutCfg} {i : InCfg} {frA frB : Nat} (H : Honest c o i frA frB) :
    96 ≤ frA ∧ frA ≤ 96 + i.padB.length := H.frAok

theorem firstRead_ok (fr : Nat) (pub pad tail : Bytes) (hpub : pub.length = 96)
    (h1 : 96 ≤ fr) (h2 : fr ≤ 96 + pad.length) (h3 : pad.length ≤ 512) :
    firstRead fr (pub ++ pad ++ tail) = .ok (pub, (pub ++ pad ++ tail).drop fr) := by
  unfold firstRead
  have a : ¬ (pub ++ pad ++ tail).length < 96 := by
    simp only [List.length_append, hpub]; omega
  have b : 96 ≤ fr ∧ fr ≤ 608 ∧ fr ≤ (pub ++ pad ++ tail).length := by
    refine ⟨h1, by omega, ?_⟩
    simp only [List.length_append, hpub]; omega
  simp only [a, b, if_false, if_true, and_self]
  rw [List.append_assoc, List.take_left' hpub]

theorem outgoing_eq (c : Crypto) (o : OutCfg) {fr : Nat} {inp yb rest : Bytes}
    (hprov0 : o.provide ≠ 0) (hia : o.ia.length ≤ 65535) (hf : firstRead fr inp = .ok (yb, rest)) :
    outgoing c o fr inp =
      (c.pub o.x ++ o.padA ++ (outMsg3 c o yb).1,
       outFinish (outMsg3 c o yb).2.1 (outMsg3 c o yb).2.2 o.provide fr rest) := by
  unfold outgoing
  rw [if_neg hprov0, if_neg (by omega), hf]

theorem incoming_eq (c : Crypto) (i : InCfg) {fr : Nat} {inp ya rest : Bytes}
    (hf : firstRead fr inp = .ok (ya, rest)) :
    incoming c i fr inp =
      match inFinish c i (c.dh ya i.x) fr rest with
      | .error e => (c.pub i.x ++ i.padB, .error e)
      | .ok (msg4, d) => (c.pub i.x ++ i.padB ++ msg4, .ok d) := by
  unfold incoming
  rw [hf]
  rfl

/-- What the receiver ends with. -/
def doneB (c : Crypto) (o : OutCfg) (i : InCfg) (tail : Bytes) : Done :=
  let sel := i.select o.provide
  { selected := sel, provided := o.provide,
    r := updateCipher sel ((Ciph.init (c.ks true (secret c o i) o.sKey)).apply (body3 o)).2,
    w := updateCipher sel ((Ciph.init (c.ks false (secret c o i) o.sKey)).apply (body4 sel i.padDLen)).2,
    buffered := o.ia, rest := tail }

/-- What the initiator ends with. -/
def doneA (c : Crypto) (o : OutCfg) (i : InCfg) : Done :=
  let sel := i.select o.provide
  { selected := sel, provided := o.provide,
    r := updateCipher sel ((Ciph.init (c.ks false (secret c o i) o.sKey)).apply (body4 sel i.padDLen)).2,
    w := updateCipher sel ((Ciph.init (c.ks true (secret c o i) o.sKey)).apply (body3 o)).2,
    buffered := [], rest := [] }

/-- Step 4 read back by an initiator whose read state is `r`. -/
theorem outFinish_honest (r w : Ciph) (pubB padB : Bytes) (provide sel padD fr : Nat) (tail : Bytes)
    (hpub : pubB.length = 96) (hpadB : padB.length ≤ 512) (hpadD : padD < 65536)
    (hsel : sel < 4294967296) (hfr : fr ≤ 96 + padB.length)
    (hno : ∀ j, fr ≤ j → j < 96 + padB.length →
      ¬ MatchAt (r.apply vc).1 (pubB ++ padB ++ (r.apply vc).1) j) :
    outFinish r w provide fr ((pubB ++ padB ++ ((r.apply (body4 sel padD)).1 ++ tail)).drop fr)
      = match selectedCheck sel provide with
        | .error e => .error e
        | .ok () => .ok { selected := sel, provided := provide, r := updateCipher sel (r.apply (body4 sel padD)).2,
                          w := updateCipher sel w, buffered := [], rest := tail } := by
  unfold outFinish body4
  rw [apply_append, List.append_assoc (r.apply vc).1, ← List.append_assoc (pubB ++ padB),
    sync_prefix _ (pubB ++ padB) _ fr 616 _ (616 - fr) (by rw [List.length_append, hpub]) rfl hfr
      (by rw [apply_length, vc_length]; omega) hno, if_pos (by rw [apply_length, vc_length]; omega)]
  dsimp only
  rw [read_apply _ (be32 sel) _ tail 4 rfl, ok_bind]
  dsimp only
  rw [fromBE_be32 _ hsel]
  cases hc : selectedCheck sel provide with
  | error e => rfl
  | ok u =>
    rw [ok_bind, readBlock16_apply_last _ padD (zeros padD) tail (zeros_length _).symm hpadD, ok_bind]
    simp only [pure, Except.pure, apply_append]

theorem outFinish_noStep4 (r w : Ciph) (pubB padB : Bytes) (provide fr : Nat)
    (hpub : pubB.length = 96) (hpadB : padB.length ≤ 512) (hfr : fr ≤ 96 + padB.length)
    (hno : ∀ j, fr ≤ j → j < 96 + padB.length →
      ¬ MatchAt (r.apply vc).1 (pubB ++ padB ++ (r.apply vc).1) j) :
    outFinish r w provide fr ((pubB ++ padB).drop fr) = .error .eof := by
  unfold outFinish
  rw [sync_prefix_eof _ (pubB ++ padB) fr _ _ (by rw [List.length_append, hpub]) hfr
    (by rw [apply_length]; exact Nat.succ_pos 7) (by omega) hno]

/-- The initiator's side of an honest session up to the point where it waits for step 4. -/
theorem session_wA (c : Crypto) (o : OutCfg) (i : InCfg) (frA frB : Nat) (H : Honest c o i frA frB)
    (hprov0 : o.provide ≠ 0) (hia : o.ia.length ≤ 65535) (tail : Bytes) :
    outgoing c o frA (c.pub i.x ++ i.padB ++ tail) =
      (c.pub o.x ++ o.padA ++ msg3 c o i,
       outFinish (Ciph.init (c.ks false (secret c o i) o.sKey))
         ((Ciph.init (c.ks true (secret c o i) o.sKey)).apply (body3 o)).2 o.provide frA
         ((c.pub i.x ++ i.padB ++ tail).drop frA)) := by
  rw [outgoing_eq c o hprov0 hia (firstRead_ok frA _ _ tail H.pubB H.frAok.1 H.frAok.2 H.padB)]
  simp only [outMsg3, H.dhAgree, secret, msg3, body3, List.append_assoc]

/-- The receiver's side of an honest session.  `hkey`: the lookup by hash returns no other key than
the initiator's; whether it returns one at all decides between "invalid SKEY hash" and going on to
`cryptoSelect`. -/
theorem session_B (c : Crypto) (o : OutCfg) (i : InCfg) (frA frB : Nat) (H : Honest c o i frA frB)
    (hprov0 : o.provide ≠ 0) (hia : o.ia.length ≤ 65535)
    (hkey : ∀ k, i.getSKey (c.hashSKey o.sKey) = some k → k = o.sKey) (tail : Bytes) :
    incoming c i frB (c.pub o.x ++ o.padA ++ (msg3 c o i ++ tail)) =
      match i.getSKey (c.hashSKey o.sKey) with
      | none => (c.pub i.x ++ i.padB, .error .invalidSKey)
      | some _ =>
        match selectedCheck (i.select o.provide) o.provide with
        | .error e => (c.pub i.x ++ i.padB, .error e)
        | .ok () => (c.pub i.x ++ i.padB ++ msg4 c o i,
                     .ok (doneB c o i tail)) := by
  have ⟨_, hfr⟩ := H.frBok
  have hA := H.padA
  have h1 := H.req1Len
  rw [incoming_eq c i (firstRead_ok frB _ _ _ H.pubA H.frBok.1 hfr hA), ← secret]
  unfold inFinish msg3
  rw [List.append_assoc (c.req1 _), List.append_assoc (xorBytes _ _), ← List.append_assoc (c.pub o.x ++ o.padA),
    sync_prefix _ (c.pub o.x ++ o.padA) _ frB 628 _ (628 - frB)
    (by rw [List.length_append, H.pubA]) rfl hfr (by omega) H.noEarlyReq1, if_pos (by omega)]
  dsimp only
  rw [readN_append _ _ 20 (by rw [xorBytes_length, H.req3Len, H.hskLen]; rfl), ok_bind]
  dsimp only
  rw [xorBytes_comm (c.req3 _), xorBytes_cancel _ _ (by rw [H.req3Len, H.hskLen]; decide)]
  cases hk : i.getSKey (c.hashSKey o.sKey) with
  | none => rfl
  | some k =>
    obtain rfl := hkey k hk
    dsimp only
    unfold body3
    rw [read_apply _ vc _ tail 8 rfl, ok_bind]
    dsimp only
    rw [if_neg (not_not_intro rfl), read_apply _ (be32 o.provide) _ tail 4 rfl, ok_bind]
    dsimp only
    rw [fromBE_be32 _ H.provide, if_neg hprov0]
    cases hsel : selectedCheck (i.select o.provide) o.provide with
    | error e => rfl
    | ok u =>
      rw [ok_bind, readBlock16_apply _ o.padCLen (zeros o.padCLen) _ tail (zeros_length _).symm H.padC, ok_bind]
      dsimp only
      rw [readBlock16_apply_last _ o.ia.length o.ia tail rfl (by omega), ok_bind]
      simp only [pure, Except.pure, doneB, msg4, body4, body3, apply_append, List.append_assoc]

/-- The session of two honest endpoints written out: whether it completes is decided by the
initiator's two checks on its own configuration, by the receiver knowing the key, and by the three
checks on the receiver's `cryptoSelect`; the first reads play no part. -/
def honestSession (c : Crypto) (o : OutCfg) (i : InCfg) : Session :=
  if o.provide = 0 then ⟨.error .noProvide, .error .eof, [], []⟩
  else if o.ia.length > 65535 then ⟨.error .payloadTooBig, .error .eof, [], []⟩
  else
    let wA := c.pub o.x ++ o.padA ++ msg3 c o i
    let wB := c.pub i.x ++ i.padB
    match i.getSKey (c.hashSKey o.sKey) with
    | none => ⟨.error .eof, .error .invalidSKey, wA, wB⟩
    | some _ =>
      match selectedCheck (i.select o.provide) o.provide with
      | .error e => ⟨.error .eof, .error e, wA, wB⟩
      | .ok () =>
        ⟨.ok (doneA c o i), .ok (doneB c o i []), wA, wB ++ msg4 c o i⟩

theorem session_eq (c : Crypto) (o : OutCfg) (i : InCfg) (frA frB : Nat) (H : Honest c o i frA frB)
    (hkey : ∀ k, i.getSKey (c.hashSKey o.sKey) = some k → k = o.sKey) :
    session c o i frA frB = honestSession c o i := by
  unfold session honestSession
  by_cases hprov0 : o.provide = 0
  · simp [outgoing, incoming, firstRead, hprov0]
  by_cases hia : o.ia.length > 65535
  · simp [outgoing, incoming, firstRead, hprov0, hia]
  rw [if_neg hprov0, if_neg hia]
  have eA := session_wA c o i frA frB H hprov0 (by omega)
  have eB := session_B c o i frA frB H hprov0 (by omega) hkey []
  have e1 := eA []
  rw [List.append_nil] at e1 eB
  have noStep4 := outFinish_noStep4 (Ciph.init (c.ks false (secret c o i) o.sKey))
    ((Ciph.init (c.ks true (secret c o i) o.sKey)).apply (body3 o)).2 (c.pub i.x) i.padB o.provide frA
    H.pubB H.padB H.frAok.2 H.noEarlyVC
  cases hk : i.getSKey (c.hashSKey o.sKey) with
  | none =>
    rw [hk] at eB
    simp only [e1, eB, noStep4]
  | some k =>
    rw [hk] at eB
    cases hchk : selectedCheck (i.select o.provide) o.provide with
    | error e =>
      rw [hchk] at eB
      simp only [e1, eB, noStep4]
    | ok u =>
      rw [hchk] at eB
      have hA := outFinish_honest (Ciph.init (c.ks false (secret c o i) o.sKey))
        ((Ciph.init (c.ks true (secret c o i) o.sKey)).apply (body3 o)).2 (c.pub i.x) i.padB o.provide
        (i.select o.provide) i.padDLen frA [] H.pubB H.padB H.padD (selectedCheck_lt hchk H.provide)
        H.frAok.2 H.noEarlyVC
      rw [List.append_nil, hchk] at hA
      simp only [e1, eB, eA, msg4, hA, doneA]

theorem honestSession_cases (c : Crypto) (o : OutCfg) (i : InCfg) :
    (∃ eA eB, (honestSession c o i).resA = .error eA ∧ (honestSession c o i).resB = .error eB) ∨
    (selectedCheck (i.select o.provide) o.provide = .ok () ∧
      (honestSession c o i).resA = .ok (doneA c o i) ∧
      (honestSession c o i).resB = .ok (doneB c o i [])) := by
  unfold honestSession
  by_cases h0 : o.provide = 0
  · rw [if_pos h0]; exact .inl ⟨_, _, rfl, rfl⟩
  by_cases h1 : o.ia.length > 65535
  · rw [if_neg h0, if_pos h1]; exact .inl ⟨_, _, rfl, rfl⟩
  rw [if_neg h0, if_neg h1]
  cases i.getSKey (c.hashSKey o.sKey) with
  | none => exact .inl ⟨_, _, rfl, rfl⟩
  | some _ =>
    cases selectedCheck (i.select o.provide) o.provide with
    | error e => exact .inl ⟨_, _, rfl, rfl⟩
    | ok _ => exact .inr ⟨rfl, rfl, rfl⟩

theorem honestSession_ok {c : Crypto} {o : OutCfg} {i : InCfg} {dA : Done}
    (h : (honestSession c o i).resA = .ok dA) :
    selectedCheck (i.select o.provide) o.provide = .ok () ∧
    dA = doneA c o i ∧
    (honestSession c o i).resB = .ok (doneB c o i []) := by
  rcases honestSession_cases c o i with ⟨eA, _, hA, _⟩ | ⟨hchk, hA, hB⟩
  · rw [hA] at h; cases h
  · rw [hA] at h
    exact ⟨hchk, (Except.ok.inj h).symm, hB⟩

/-! ### what a completed handshake guarantees, whatever the remote sent -/

theorem read_plain {r r' : Ciph} {n : Nat} {inp pl rest : Bytes} (h : r.read n inp = .ok (pl, r', rest)) :
    r'.plain = r.plain := by
  unfold Ciph.read at h
  split at h
  · cases h
  · simp only [Except.ok.injEq, Prod.mk.injEq] at h
    obtain ⟨_, rfl, _⟩ := h
    exact apply_plain _ _

theorem readBlock16_plain {r r' : Ciph} {inp pl rest : Bytes} (h : readBlock16 r inp = .ok (pl, r', rest)) :
    r'.plain = r.plain := by
  unfold readBlock16 at h
  split at h
  · cases h
  · rename_i h1
    exact (read_plain h).trans (read_plain h1)

@[simp] theorem updateCipher_plain (sel : Nat) (c : Ciph) :
    (updateCipher sel c).plain = (decide (sel = 1) || c.plain) := by
  unfold updateCipher; split <;> simp [*]

/-- Facts about a successful `HandshakeOutgoing`, for every input. -/
structure OutOk (o : OutCfg) (d : Done) : Prop where
  provided : d.provided = o.provide
  check : selectedCheck d.selected o.provide = .ok ()
  rplain : d.r.plain = decide (d.selected = 1)
  wplain : d.w.plain = decide (d.selected = 1)
  buffered : d.buffered = []

theorem outFinish_ok {o : OutCfg} {r w : Ciph} {fr : Nat} {inp : Bytes} {d : Done}
    (hr : r.plain = false) (hw : w.plain = false)
    (h : outFinish r w o.provide fr inp = .ok d) : OutOk o d := by
  unfold outFinish at h
  split at h
  · cases h
  · cases h
  · obtain ⟨⟨selB, r2, rest2⟩, h2, h⟩ := bind_ok h
    obtain ⟨⟨⟩, hu, h⟩ := bind_ok h
    obtain ⟨⟨blk, r4, rest4⟩, h4, h⟩ := bind_ok h
    obtain rfl := Except.ok.inj h
    refine ⟨rfl, hu, ?_, ?_, rfl⟩
    · simp [readBlock16_plain h4, read_plain h2, hr]
    · simp [hw]

theorem outgoing_ok {c : Crypto} {o : OutCfg} {fr : Nat} {inp : Bytes} {d : Done}
    (h : (outgoing c o fr inp).2 = .ok d) : OutOk o d := by
  unfold outgoing at h
  split at h; · cases h
  split at h; · cases h
  dsimp only at h
  split at h
  · cases h
  · exact outFinish_ok rfl (apply_plain _ _) h

/-- Facts about a successful `HandshakeIncoming`, for every input. -/
structure InOk (i : InCfg) (d : Done) : Prop where
  selected : d.selected = i.select d.provided
  check : selectedCheck d.selected d.provided = .ok ()
  rplain : d.r.plain = decide (d.selected = 1)
  wplain : d.w.plain = decide (d.selected = 1)

theorem inFinish_ok {c : Crypto} {i : InCfg} {S : Bytes} {fr : Nat} {inp : Bytes} {m4 : Bytes} {d : Done}
    (h : inFinish c i S fr inp = .ok (m4, d)) : InOk i d := by
  unfold inFinish at h
  generalize readSync _ _ inp = rs at h
  obtain (rest | rest | _) := rs <;> dsimp only at h
  · obtain ⟨⟨hh, rest1⟩, -, h⟩ := bind_ok h
    dsimp only at h
    generalize i.getSKey _ = sk at h
    obtain (_ | sKey) := sk <;> dsimp only at h
    · cases h
    obtain ⟨⟨vcRead, r1, rest2⟩, h1, h⟩ := bind_ok h
    dsimp only at h
    by_cases hv : vcRead ≠ vc
    · rw [if_pos hv] at h; cases h
    rw [if_neg hv] at h
    obtain ⟨⟨pB, r2, rest3⟩, h2, h⟩ := bind_ok h
    dsimp only at h
    by_cases hp : fromBE pB = 0
    · rw [if_pos hp] at h; cases h
    rw [if_neg hp] at h
    obtain ⟨⟨⟩, hu, h⟩ := bind_ok h
    obtain ⟨⟨blk, r4, rest4⟩, h3, h⟩ := bind_ok h
    obtain ⟨⟨ia, r6, rest5⟩, h4, h⟩ := bind_ok h
    obtain ⟨-, rfl⟩ := Prod.mk.inj (Except.ok.inj h)
    refine ⟨rfl, hu, ?_, ?_⟩
    · rw [updateCipher_plain, readBlock16_plain h4, readBlock16_plain h3, read_plain h2, read_plain h1]
      exact Bool.or_false _
    · rw [updateCipher_plain, apply_plain]
      exact Bool.or_false _
  · cases h
  · cases h

theorem incoming_ok {c : Crypto} {i : InCfg} {fr : Nat} {inp : Bytes} {d : Done}
    (h : (incoming c i fr inp).2 = .ok d) : InOk i d := by
  unfold incoming at h
  split at h
  · cases h
  · dsimp only at h
    split at h
    · cases h
    · rename_i hf
      obtain rfl := Except.ok.inj h
      exact inFinish_ok hf


/-! ### the stream after the handshake, under any chunking -/

/-- Successive `Write`s: wire bytes and final state. -/
def sendAll (d : Done) : List Bytes → Bytes × Done
  | [] => ([], d)
  | p :: ps => ((d.send p).1 ++ (sendAll (d.send p).2 ps).1, (sendAll (d.send p).2 ps).2)

/-- The wire arriving in the given fragments, each drained by `Read`s: plaintext and final state. -/
def recvAll (d : Done) : List Bytes → Bytes × Done
  | [] => d.recv []
  | f :: fs => ((d.recv f).1 ++ (recvAll (d.recv f).2 fs).1, (recvAll (d.recv f).2 fs).2)

theorem sendAll_wire (d : Done) (ps : List Bytes) : (sendAll d ps).1 = (d.w.apply ps.flatten).1 := by
  induction ps generalizing d with
  | nil => simp [sendAll]
  | cons p ps ih =>
    show (d.send p).1 ++ (sendAll (d.send p).2 ps).1 = _
    rw [ih]; simp [Done.send, apply_append]

theorem recvAll_plain (d : Done) (fs : List Bytes) :
    (recvAll d fs).1 = d.buffered ++ (d.r.apply (d.rest ++ fs.flatten)).1 := by
  induction fs generalizing d with
  | nil => simp [recvAll, Done.recv]
  | cons f fs ih =>
    show (d.recv f).1 ++ (recvAll (d.recv f).2 fs).1 = _
    rw [ih]
    simp only [Done.recv, List.flatten_cons, List.nil_append]
    rw [← List.append_assoc d.rest f, apply_append (d.r) (d.rest ++ f), List.append_assoc]

/-- Under any chunking of the writes and of the wire, the receiver reads what it had buffered and then
exactly the bytes written. -/
theorem stream_id_of_sync (dS dR : Done) (hwr : dS.w = dR.r) (hrest : dR.rest = [])
    (ps frags : List Bytes) (hf : frags.flatten = (sendAll dS ps).1) :
    (recvAll dR frags).1 = dR.buffered ++ ps.flatten := by
  rw [recvAll_plain, hf, sendAll_wire _ ps, hrest, List.nil_append, hwr, apply_apply]

/-! ### btconn -/

/-- The returned connection is an `mse.Conn` with RC4 selected and both directions still RC4. -/
def Conn.encrypted : Conn → Bool
  | .plain _ => false
  | .mse d => d.selected == 2 && !d.r.plain && !d.w.plain

theorem Done.readN_inv {d d' : Done} {n : Nat} {b : Bytes} (h : d.readN n = .ok (b, d')) :
    d'.selected = d.selected ∧ d'.r.plain = d.r.plain ∧ d'.w = d.w := by
  unfold Done.readN at h
  split at h
  · obtain ⟨-, rfl⟩ := Prod.mk.inj (Except.ok.inj h)
    exact ⟨rfl, rfl, rfl⟩
  · split at h
    · cases h
    · rename_i hr
      obtain ⟨-, rfl⟩ := Prod.mk.inj (Except.ok.inj h)
      exact ⟨rfl, read_plain hr, rfl⟩

theorem Conn.readN_encrypted {conn conn' : Conn} {n : Nat} {b : Bytes} (h : conn.readN n = .ok (b, conn')) :
    conn'.encrypted = conn.encrypted := by
  cases conn with
  | plain rest =>
    simp only [Conn.readN] at h
    split at h
    · cases h
    · obtain ⟨-, rfl⟩ := Prod.mk.inj (Except.ok.inj h)
      rfl
  | mse d =>
    simp only [Conn.readN] at h
    split at h
    · cases h
    · rename_i hd
      obtain ⟨-, rfl⟩ := Prod.mk.inj (Except.ok.inj h)
      obtain ⟨hs, hr, hw⟩ := Done.readN_inv hd
      simp only [Conn.encrypted, hs, hr, hw]

theorem Conn.write_encrypted (conn : Conn) (p : Bytes) : (conn.write p).2.encrypted = conn.encrypted := by
  cases conn with
  | plain rest => rfl
  | mse d => simp [Conn.write, Conn.encrypted, Done.send]

theorem readHandshake1_encrypted {conn conn' : Conn} {ext ih : Bytes}
    (h : readHandshake1 conn = .ok (ext, ih, conn')) : conn'.encrypted = conn.encrypted := by
  unfold readHandshake1 at h
  obtain ⟨⟨p, c1⟩, h1, h⟩ := bind_ok h
  dsimp only at h
  split at h; · cases h
  obtain ⟨⟨e, c2⟩, h2, h⟩ := bind_ok h
  obtain ⟨⟨i, c3⟩, h3, h⟩ := bind_ok h
  obtain ⟨-, h⟩ := Prod.mk.inj (Except.ok.inj h)
  obtain ⟨-, rfl⟩ := Prod.mk.inj h
  rw [Conn.readN_encrypted h3, Conn.readN_encrypted h2, Conn.readN_encrypted h1]

theorem acceptTail_ok {a : AcceptCfg} {isEnc : Bool} {cipher : Nat} {ext ih : Bytes} {conn : Conn}
    {w : Bytes} {r : ConnOk} (h : acceptTail a isEnc cipher ext ih conn = (w, .ok r)) :
    (a.force = true → isEnc = true) ∧ r.conn.encrypted = conn.encrypted ∧ r.cipher = cipher := by
  unfold acceptTail at h
  by_cases hf : a.force = true ∧ isEnc = false
  · rw [if_pos hf] at h; cases h
  rw [if_neg hf] at h
  split at h; · cases h
  dsimp only at h
  split at h; · cases h
  rename_i hr
  split at h; · cases h
  obtain ⟨-, h⟩ := Prod.mk.inj h
  obtain rfl := Outcome.ok.inj h
  refine ⟨fun hforce => ?_, ?_, rfl⟩
  · cases isEnc with
    | true => rfl
    | false => exact absurd ⟨hforce, rfl⟩ hf
  · rw [Conn.readN_encrypted hr, Conn.write_encrypted]

theorem acceptSelect_force (p : Nat) : acceptSelect true p = 2 ∨ acceptSelect true p = 0 := by
  unfold acceptSelect; split <;> simp

theorem dialTail_ok {g : DialCfg} {cipher : Nat} {retried : Bool} {conn : Conn} {r : ConnOk}
    (h : dialTail g cipher retried conn = .ok r) :
    r.conn.encrypted = conn.encrypted ∧ r.cipher = cipher ∧ r.retried = retried := by
  unfold dialTail at h
  split at h; · cases h
  rename_i h1
  split at h; · cases h
  split at h; · cases h
  rename_i h2
  split at h; · cases h
  obtain rfl := Outcome.ok.inj h
  exact ⟨by rw [Conn.readN_encrypted h2, readHandshake1_encrypted h1], rfl, rfl⟩

/-- After a completed handshake both directions are under RC4 exactly when RC4 was selected. -/
theorem encrypted_mse {d : Done} (hr : d.r.plain = decide (d.selected = 1)) (hw : d.w.plain = decide (d.selected = 1)) :
    (Conn.mse d).encrypted = (d.selected == 2) := by
  by_cases h : d.selected = 2 <;> simp [Conn.encrypted, hr, hw, h]

/-- `Accept` returns a connection after a plaintext BitTorrent handshake only if `force` is off; otherwise it is an
`mse.Conn`: the reported cipher is what `Accept`'s own `cryptoSelect` made of the offer `p`, it passed the check, and
both directions are under RC4 exactly when it is RC4. -/
theorem accept_ok {c : Crypto} {a : AcceptCfg} {i : InCfg} {fr : Nat} {inp w : Bytes} {r : ConnOk}
    (h : accept c a i fr inp = (w, .ok r)) :
    a.force = false ∨
    ∃ p, r.cipher = acceptSelect a.force p ∧ selectedCheck r.cipher p = .ok () ∧ r.conn.encrypted = (r.cipher == 2) := by
  unfold accept at h
  split at h; · cases h
  split at h
  · exact .inl (by simpa using (acceptTail_ok h).1)
  · split at h
    · split at h
      · cases h
      · rename_i d hinc
        split at h
        · cases h
        · rename_i hrh
          have io := incoming_ok (congrArg Prod.snd hinc)
          have t := acceptTail_ok (Prod.ext rfl (Prod.mk.inj h).2)
          rw [t.2.1, t.2.2, readHandshake1_encrypted hrh]
          exact .inr ⟨_, io.selected, io.check, encrypted_mse io.rplain io.wplain⟩
    · cases h
  · cases h

/-- A connection returned by `Dial` is a raw socket — encryption is disabled, or the MSE handshake failed and `force`
is off — or an `mse.Conn` on the first connection, nothing written on a second: the reported cipher passed the check
against the offer, and both directions are under RC4 exactly when it is RC4. -/
theorem dial_ok {c : Crypto} {g : DialCfg} {e : DialEnv} {w1 w2 : Bytes} {r : ConnOk}
    (h : dial c g e = (w1, w2, .ok r)) :
    ((g.enable = false ∨ g.force = false) ∧ r.conn.encrypted = false) ∨
    (g.enable = true ∧ selectedCheck r.cipher (dialProvide g.force) = .ok () ∧ r.conn.encrypted = (r.cipher == 2) ∧
      r.retried = false ∧ w2 = []) := by
  unfold dial at h
  by_cases h1 : e.dial1 = false
  · rw [if_pos h1] at h; cases h
  rw [if_neg h1] at h
  by_cases hen : g.enable = true
  · rw [if_pos hen] at h
    dsimp only at h
    generalize hout : outgoing c _ e.fr e.inp1 = res at h
    obtain ⟨w, err | d⟩ := res <;> dsimp only at h
    · by_cases hs : e.stopped = true
      · rw [if_pos hs] at h; cases h
      by_cases hf : g.force = true
      · rw [if_neg hs, if_pos hf] at h; cases h
      by_cases h2 : e.dial2 = false
      · rw [if_neg hs, if_neg hf, if_pos h2] at h; cases h
      rw [if_neg hs, if_neg hf, if_neg h2] at h
      have t := dialTail_ok (Prod.mk.inj (Prod.mk.inj h).2).2
      exact .inl ⟨.inr (by simpa using hf), by rw [t.1]; rfl⟩
    · obtain ⟨h2, h3⟩ := Prod.mk.inj (Prod.mk.inj h).2
      have oo := outgoing_ok (congrArg Prod.snd hout)
      have t := dialTail_ok h3
      rw [t.1, t.2.1]
      exact .inr ⟨hen, oo.check, encrypted_mse oo.rplain oo.wplain, t.2.2, h2.symm⟩
  · rw [if_neg hen] at h
    have t := dialTail_ok (Prod.mk.inj (Prod.mk.inj h).2).2
    exact .inl ⟨.inl (by simpa using hen), by rw [t.1]; rfl⟩

/-! ### definitions used in the statements of `Props/C12` -/

/-- The receiver's getSKey looks keys up by their hash (as `torrent.getSKey` does). -/
def LooksUpByHash (c : Crypto) (i : InCfg) : Prop := ∀ h k, i.getSKey h = some k → c.hashSKey k = h

theorem getSKey_honest (c : Crypto) (o : OutCfg) (i : InCfg) (hl : LooksUpByHash c i)
    (hinj : ∀ a b, c.hashSKey a = c.hashSKey b → a = b) :
    ∀ k, i.getSKey (c.hashSKey o.sKey) = some k → k = o.sKey :=
  fun k h => hinj k o.sKey (hl _ _ h)

/-- A toy instance of the cryptographic parameters for the non-vacuity examples. -/
def toyC : Crypto where
  pub x := List.replicate 96 (x.headD 0)
  dh y x := [y.headD 0 + x.headD 0]
  req1 _ := List.replicate 20 9
  req3 _ := List.replicate 20 5
  hashSKey k := List.replicate 20 (k.headD 0)
  ks a _ _ i := if a then i % 7 + 1 else i % 5 + 2

def toyO : OutCfg := { x := [3], sKey := [42], provide := 3, ia := [1, 2, 3], padA := [8, 8], padCLen := 1 }
def toyI : InCfg := { x := [4], padB := [6], padDLen := 2,
                      getSKey := fun h => if h = List.replicate 20 42 then some [42] else none,
                      select := acceptSelect false }


end Rain.MSE
