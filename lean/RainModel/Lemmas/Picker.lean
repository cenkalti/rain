import RainModel.Model.PickerInv
import RainModel.Lemmas.ListFacts
/-! Helper lemmas for M-PICK (C09): every picker call the caller protocol allows preserves every clause of `PickInv`. -/
namespace Rain.Picker

theorem mem_sadd {l : List Nat} {x y : Nat} : y ∈ sadd l x ↔ y ∈ l ∨ y = x :=
  mem_insertNew Iff.rfl

theorem nodup_sadd {l : List Nat} {x : Nat} (h : l.Nodup) : (sadd l x).Nodup :=
  nodup_insertNew Iff.rfl h

theorem length_sadd_le (l : List Nat) (x : Nat) : (sadd l x).length ≤ l.length + 1 :=
  length_insertNew_le

theorem mem_erase_nodup {l : List Nat} {x y : Nat} (h : l.Nodup) : y ∈ l.erase x ↔ y ≠ x ∧ y ∈ l :=
  h.mem_erase_iff

@[simp] theorem setPiece_pieces (s : State) (i : Nat) (pc : Piece) (j : Nat) :
    (setPiece s i pc).pieces j = if j = i then pc else s.pieces j := rfl
@[simp] theorem setPiece_n (s : State) (i : Nat) (pc : Piece) : (setPiece s i pc).n = s.n := rfl
@[simp] theorem setPiece_np (s : State) (i : Nat) (pc : Piece) : (setPiece s i pc).np = s.np := rfl
@[simp] theorem setPiece_ns (s : State) (i : Nat) (pc : Piece) : (setPiece s i pc).ns = s.ns := rfl
@[simp] theorem setPiece_peers (s : State) (i : Nat) (pc : Piece) : (setPiece s i pc).peers = s.peers := rfl
@[simp] theorem setPiece_srcs (s : State) (i : Nat) (pc : Piece) : (setPiece s i pc).srcs = s.srcs := rfl
@[simp] theorem setPiece_maxDup (s : State) (i : Nat) (pc : Piece) : (setPiece s i pc).maxDup = s.maxDup := rfl
@[simp] theorem setPiece_maxWeb (s : State) (i : Nat) (pc : Piece) : (setPiece s i pc).maxWeb = s.maxWeb := rfl
@[simp] theorem setPiece_available (s : State) (i : Nat) (pc : Piece) : (setPiece s i pc).available = s.available := rfl
@[simp] theorem setPiece_endgame (s : State) (i : Nat) (pc : Piece) : (setPiece s i pc).endgame = s.endgame := rfl
@[simp] theorem setPiece_sequential (s : State) (i : Nat) (pc : Piece) : (setPiece s i pc).sequential = s.sequential := rfl

@[simp] theorem setPeer_peers (s : State) (p : Nat) (ps : PeerSt) (q : Nat) :
    (setPeer s p ps).peers q = if q = p then ps else s.peers q := rfl
@[simp] theorem setPeer_n (s : State) (p : Nat) (ps : PeerSt) : (setPeer s p ps).n = s.n := rfl
@[simp] theorem setPeer_np (s : State) (p : Nat) (ps : PeerSt) : (setPeer s p ps).np = s.np := rfl
@[simp] theorem setPeer_ns (s : State) (p : Nat) (ps : PeerSt) : (setPeer s p ps).ns = s.ns := rfl
@[simp] theorem setPeer_pieces (s : State) (p : Nat) (ps : PeerSt) : (setPeer s p ps).pieces = s.pieces := rfl
@[simp] theorem setPeer_srcs (s : State) (p : Nat) (ps : PeerSt) : (setPeer s p ps).srcs = s.srcs := rfl
@[simp] theorem setPeer_maxDup (s : State) (p : Nat) (ps : PeerSt) : (setPeer s p ps).maxDup = s.maxDup := rfl
@[simp] theorem setPeer_maxWeb (s : State) (p : Nat) (ps : PeerSt) : (setPeer s p ps).maxWeb = s.maxWeb := rfl
@[simp] theorem setPeer_available (s : State) (p : Nat) (ps : PeerSt) : (setPeer s p ps).available = s.available := rfl
@[simp] theorem setPeer_endgame (s : State) (p : Nat) (ps : PeerSt) : (setPeer s p ps).endgame = s.endgame := rfl
@[simp] theorem setPeer_sequential (s : State) (p : Nat) (ps : PeerSt) : (setPeer s p ps).sequential = s.sequential := rfl

@[simp] theorem setSrc_srcs (s : State) (k : Nat) (d : Option Dl) (j : Nat) :
    (setSrc s k d).srcs j = if j = k then d else s.srcs j := rfl
@[simp] theorem setSrc_n (s : State) (k : Nat) (d : Option Dl) : (setSrc s k d).n = s.n := rfl
@[simp] theorem setSrc_np (s : State) (k : Nat) (d : Option Dl) : (setSrc s k d).np = s.np := rfl
@[simp] theorem setSrc_ns (s : State) (k : Nat) (d : Option Dl) : (setSrc s k d).ns = s.ns := rfl
@[simp] theorem setSrc_pieces (s : State) (k : Nat) (d : Option Dl) : (setSrc s k d).pieces = s.pieces := rfl
@[simp] theorem setSrc_peers (s : State) (k : Nat) (d : Option Dl) : (setSrc s k d).peers = s.peers := rfl
@[simp] theorem setSrc_maxDup (s : State) (k : Nat) (d : Option Dl) : (setSrc s k d).maxDup = s.maxDup := rfl
@[simp] theorem setSrc_maxWeb (s : State) (k : Nat) (d : Option Dl) : (setSrc s k d).maxWeb = s.maxWeb := rfl
@[simp] theorem setSrc_available (s : State) (k : Nat) (d : Option Dl) : (setSrc s k d).available = s.available := rfl
@[simp] theorem setSrc_endgame (s : State) (k : Nat) (d : Option Dl) : (setSrc s k d).endgame = s.endgame := rfl
@[simp] theorem setSrc_sequential (s : State) (k : Nat) (d : Option Dl) : (setSrc s k d).sequential = s.sequential := rfl

/-- Changing a predicate at one point `i` of the range: move `i` to the front and count there. -/
theorem countP_range_update (f g : Nat → Bool) {i n : Nat} (hi : i < n) (hfg : ∀ j, j ≠ i → g j = f j) :
    (List.range n).countP g + (if f i then 1 else 0) = (List.range n).countP f + (if g i then 1 else 0) := by
  have hp := List.perm_cons_erase (List.mem_range.mpr hi)
  have hc : ((List.range n).erase i).countP g = ((List.range n).erase i).countP f :=
    List.countP_congr fun j hj => by rw [hfg j (List.nodup_range.mem_erase_iff.mp hj).1]
  rw [hp.countP_eq, hp.countP_eq, List.countP_cons, List.countP_cons, hc]
  omega

theorem countAvail_setPiece (s : State) (i : Nat) (pc : Piece) (hi : i < s.n) :
    countAvail (setPiece s i pc) + (if (s.pieces i).having = [] then 0 else 1) =
    countAvail s + (if pc.having = [] then 0 else 1) := by
  simpa [countAvail] using countP_range_update (fun j => !(s.pieces j).having.isEmpty)
    (fun j => !((setPiece s i pc).pieces j).having.isEmpty) hi (by intro j hj; simp [hj])

/-! ### the invariant, piece by piece and peer by peer -/

/-- `PickInv` without `DoneIdle` (which is suspended inside `handlePieceWriteDone`: `Done` is set
before the remaining downloaders of the piece are closed). -/
structure PickCore (s : State) : Prop where
  nodup : NodupOk s
  reqSubHaving : ReqSubHaving s
  stalled : StalledOk s
  dupLimit : DupLimit s
  reqDl : ReqDl s
  chokedOk : ChokedOk s
  havingOpen : HavingOpen s
  webOwner : WebOwner s
  dlReq : DlReq s
  closedIdle : ClosedIdle s
  afRange : AfRange s
  srcOk : SrcOk s
  avail : AvailOk s
  maxWeb : MaxWebOk s

theorem PickInv.core {s : State} (h : PickInv s) : PickCore s :=
  ⟨h.nodup, h.reqSubHaving, h.stalled, h.dupLimit, h.reqDl, h.chokedOk, h.havingOpen, h.webOwner, h.dlReq,
   h.closedIdle, h.afRange, h.srcOk, h.avail, h.maxWeb⟩

theorem PickCore.inv {s : State} (h : PickCore s) (hd : DoneIdle s) : PickInv s :=
  ⟨h.nodup, h.reqSubHaving, h.stalled, h.dupLimit, hd, h.reqDl, h.chokedOk, h.havingOpen, h.webOwner, h.dlReq,
   h.closedIdle, h.afRange, h.srcOk, h.avail, h.maxWeb⟩

/-- What `PickCore` says of one piece by itself. -/
structure Piece.Ok (pc : Piece) (maxDup : Nat) : Prop where
  nodup : pc.having.Nodup ∧ pc.requested.Nodup ∧ pc.snubbed.Nodup ∧ pc.choked.Nodup
  dupLimit : pc.requested.length ≤ max 1 maxDup

/-- What `PickCore` says of one peer by itself. -/
structure PeerSt.Ok (ps : PeerSt) (n : Nat) : Prop where
  dlLt : ∀ x ∈ ps.dl, x.1 < n
  closedIdle : ps.closed = true → ps.dl = none
  afRange : ∀ i ∈ ps.af, i < n

/-- What `PickCore` says of piece `i` and peer `p` together (`np` peers are connected).  The piece enters
only through the membership of `p` in its four sets. -/
structure Link (i : Nat) (pc : Piece) (p np : Nat) (ps : PeerSt) : Prop where
  reqSubHaving : p ∈ pc.requested → p ∈ pc.having
  snubbed : p ∈ pc.snubbed → p ∈ pc.requested ∧ p ∉ pc.choked
  chokedReq : p ∈ pc.choked → p ∈ pc.requested
  having : p ∈ pc.having → p < np ∧ ps.closed = false
  reqDl : p ∈ pc.requested → ps.dl.map (·.1) = some i
  choked : p ∈ pc.choked → ps.choking = true ∧ ps.dl = some (i, false)
  dlReq : p < np → ∀ x ∈ ps.dl, x.1 = i → p ∈ pc.requested

theorem Link.congr {i p np : Nat} {pc pc' : Piece} {ps : PeerSt} (l : Link i pc p np ps)
    (hh : p ∈ pc'.having ↔ p ∈ pc.having) (hr : p ∈ pc'.requested ↔ p ∈ pc.requested)
    (hs : p ∈ pc'.snubbed ↔ p ∈ pc.snubbed) (hc : p ∈ pc'.choked ↔ p ∈ pc.choked) : Link i pc' p np ps :=
  ⟨fun m => hh.mpr (l.reqSubHaving (hr.mp m)),
   fun m => ⟨hr.mpr (l.snubbed (hs.mp m)).1, fun m' => (l.snubbed (hs.mp m)).2 (hc.mp m')⟩,
   fun m => hr.mpr (l.chokedReq (hc.mp m)), fun m => l.having (hh.mp m), fun m => l.reqDl (hr.mp m),
   fun m => l.choked (hc.mp m), fun hp x hx e => hr.mpr (l.dlReq hp x hx e)⟩

/-- A peer that is not in `Requested` is in neither `Snubbed` nor `Choked`. -/
theorem Link.absent {i p np np' : Nat} {pc : Piece} {ps ps' : PeerSt} (l : Link i pc p np ps) (hnr : p ∉ pc.requested)
    (hh : p ∈ pc.having → p < np' ∧ ps'.closed = false) (hdl : p < np' → ∀ x ∈ ps'.dl, x.1 ≠ i) : Link i pc p np' ps' :=
  ⟨fun m => absurd m hnr, fun m => absurd (l.snubbed m).1 hnr, fun m => absurd (l.chokedReq m) hnr, hh,
   fun m => absurd m hnr, fun m => absurd (l.chokedReq m) hnr, fun hp x hx e => absurd e (hdl hp x hx)⟩

/-- The links of a peer to the pieces its downloader is not on read `closed` only. -/
theorem Link.of_dl_ne {j p np : Nat} {pc : Piece} {ps ps' : PeerSt} (l : Link j pc p np ps)
    (hdl : ∀ x ∈ ps.dl, x.1 ≠ j) (hdl' : ∀ x ∈ ps'.dl, x.1 ≠ j) (hcl : ps'.closed = ps.closed) : Link j pc p np ps' := by
  refine l.absent (fun m => ?_) (fun m => ⟨(l.having m).1, hcl.trans (l.having m).2⟩) fun _ => hdl'
  obtain ⟨x, hx, e⟩ := Option.map_eq_some_iff.mp (l.reqDl m)
  exact hdl x hx e

theorem PickCore.pieceOk {s : State} (h : PickCore s) {i : Nat} (hi : i < s.n) : (s.pieces i).Ok s.maxDup :=
  ⟨h.nodup i hi, h.dupLimit i hi⟩

theorem PickCore.peerOk {s : State} (h : PickCore s) {p : Nat} (hp : p < s.np) : (s.peers p).Ok s.n :=
  ⟨fun x hx => (h.dlReq p hp x hx).1, h.closedIdle p hp, h.afRange p hp⟩

theorem PickCore.link {s : State} (h : PickCore s) {i : Nat} (hi : i < s.n) (p : Nat) :
    Link i (s.pieces i) p s.np (s.peers p) :=
  ⟨h.reqSubHaving i hi p, (h.stalled i hi).1 p, (h.stalled i hi).2 p, h.havingOpen i hi p, h.reqDl i hi p,
   h.chokedOk i hi p, fun hp x hx e => e ▸ (h.dlReq p hp x hx).2⟩

theorem PickCore.of_parts {s : State} (hpc : ∀ i, i < s.n → (s.pieces i).Ok s.maxDup)
    (hps : ∀ p, p < s.np → (s.peers p).Ok s.n) (hl : ∀ i, i < s.n → ∀ p, Link i (s.pieces i) p s.np (s.peers p))
    (hw : WebOwner s) (hs : SrcOk s) (ha : AvailOk s) (hm : MaxWebOk s) : PickCore s where
  nodup i hi := (hpc i hi).nodup
  reqSubHaving i hi p := (hl i hi p).reqSubHaving
  stalled i hi := ⟨fun p => (hl i hi p).snubbed, fun p => (hl i hi p).chokedReq⟩
  dupLimit i hi := (hpc i hi).dupLimit
  reqDl i hi p := (hl i hi p).reqDl
  chokedOk i hi p := (hl i hi p).choked
  havingOpen i hi p := (hl i hi p).having
  webOwner := hw
  dlReq p hp x hx := ⟨(hps p hp).dlLt x hx, (hl x.1 ((hps p hp).dlLt x hx) p).dlReq hp x hx rfl⟩
  closedIdle p hp := (hps p hp).closedIdle
  afRange p hp := (hps p hp).afRange
  srcOk := hs
  avail := ha
  maxWeb := hm

theorem setPiece_field_eq {α : Type} (f : Piece → α) {s : State} {i : Nat} {pc : Piece} (h : f pc = f (s.pieces i))
    (j : Nat) : f ((setPiece s i pc).pieces j) = f (s.pieces j) := by
  simp only [setPiece_pieces]; split
  · rename_i e; rw [e, h]
  · rfl

theorem countAvail_congr {s s' : State} (hn : s'.n = s.n) (hp : ∀ j, (s'.pieces j).having = (s.pieces j).having) :
    countAvail s' = countAvail s := by
  unfold countAvail; rw [hn]; apply List.countP_congr; intro j _; simp [hp j]

theorem availOk_of_same {s s' : State} (h : AvailOk s) (ha : s'.available = s.available) (hn : s'.n = s.n)
    (hp : ∀ j, (s'.pieces j).having = (s.pieces j).having) : AvailOk s' := by
  unfold AvailOk at *; rw [ha, h, countAvail_congr hn hp]

theorem web_congr {s s' : State} (hn : s'.n = s.n) (hns : s'.ns = s.ns) (hsrc : s'.srcs = s.srcs)
    (hw : ∀ j, (s'.pieces j).webseed = (s.pieces j).webseed) :
    (WebOwner s → WebOwner s') ∧ (SrcOk s → SrcOk s') := by
  unfold WebOwner SrcOk
  simp only [hn, hns, hsrc, hw]
  exact ⟨id, id⟩

theorem PickCore.updPieceAvail {s : State} (h : PickCore s) {i a : Nat} {pc : Piece} (hpc : pc.Ok s.maxDup)
    (hl : ∀ p, Link i pc p s.np (s.peers p)) (hweb : pc.webseed = (s.pieces i).webseed)
    (ha : AvailOk { setPiece s i pc with available := a }) : PickCore { setPiece s i pc with available := a } := by
  have hw := web_congr (s := s) (s' := { setPiece s i pc with available := a }) rfl rfl rfl
    (setPiece_field_eq Piece.webseed hweb)
  refine .of_parts ?_ (fun p hp => h.peerOk hp) ?_ (hw.1 h.webOwner) (hw.2 h.srcOk) ha h.maxWeb
  · intro j hj; simp only [setPiece_pieces]; split
    · exact hpc
    · exact h.pieceOk hj
  · intro j hj p; simp only [setPiece_pieces]; split
    · rename_i e; subst e; exact hl p
    · exact h.link hj p

theorem PickCore.updPiece {s : State} (h : PickCore s) {i : Nat} {pc : Piece} (hpc : pc.Ok s.maxDup)
    (hl : ∀ p, Link i pc p s.np (s.peers p)) (hhav : pc.having = (s.pieces i).having)
    (hweb : pc.webseed = (s.pieces i).webseed) : PickCore (setPiece s i pc) :=
  h.updPieceAvail hpc hl hweb (availOk_of_same h.avail rfl rfl (setPiece_field_eq Piece.having hhav))

theorem PickCore.updPeer {s : State} (h : PickCore s) {p : Nat} {ps : PeerSt} (hps : ps.Ok s.n)
    (hl : ∀ i, i < s.n → Link i (s.pieces i) p s.np ps) : PickCore (setPeer s p ps) := by
  refine .of_parts (fun i hi => h.pieceOk hi) ?_ ?_ h.webOwner h.srcOk h.avail h.maxWeb
  · intro q hq; simp only [setPeer_peers]; split
    · exact hps
    · exact h.peerOk hq
  · intro i hi q; simp only [setPeer_peers]; split
    · rename_i e; subst e; exact hl i hi
    · exact h.link hi q

/-- The downloader of `p` is on no other piece before or after: `p` is in no set of the other pieces, which see
the change of `p` only through `closed`. -/
theorem PickCore.updBoth {s : State} (h : PickCore s) {i p : Nat} {pc : Piece} {ps : PeerSt}
    (hpc : pc.Ok s.maxDup) (hps : ps.Ok s.n) (hl : Link i pc p s.np ps)
    (hlp : ∀ q, q ≠ p → Link i pc q s.np (s.peers q))
    (hdl : ∀ x ∈ (s.peers p).dl, x.1 = i) (hdl' : ∀ x ∈ ps.dl, x.1 = i) (hcl : ps.closed = (s.peers p).closed)
    (hhav : pc.having = (s.pieces i).having) (hweb : pc.webseed = (s.pieces i).webseed) :
    PickCore (setPeer (setPiece s i pc) p ps) := by
  have hw := web_congr (s := s) (s' := setPeer (setPiece s i pc) p ps) rfl rfl rfl
    (setPiece_field_eq Piece.webseed hweb)
  refine .of_parts ?_ ?_ ?_ (hw.1 h.webOwner) (hw.2 h.srcOk) (availOk_of_same h.avail rfl rfl
    (setPiece_field_eq Piece.having hhav)) h.maxWeb
  · intro j hj; simp only [setPeer_pieces, setPiece_pieces]; split
    · exact hpc
    · exact h.pieceOk hj
  · intro q hq; simp only [setPeer_peers]; split
    · exact hps
    · exact h.peerOk hq
  · intro j hj q; simp only [setPeer_pieces, setPiece_pieces, setPeer_peers]
    by_cases ej : j = i <;> by_cases eq : q = p <;> simp only [ej, eq, if_true, if_false]
    · exact hl
    · exact hlp q eq
    · exact (h.link hj p).of_dl_ne (fun x hx e => ej (e.symm.trans (hdl x hx)))
        (fun x hx e => ej (e.symm.trans (hdl' x hx))) hcl
    · exact h.link hj q

theorem DoneIdle.updPiece {s : State} (h : DoneIdle s) {i : Nat} {pc : Piece}
    (hd : i < s.n → pc.done = true → pc.requested = []) : DoneIdle (setPiece s i pc) := by
  intro j hj; simp only [setPiece_pieces]; split
  · rename_i e; exact hd (e ▸ hj)
  · exact h j hj

def AllInv (l : List (R (State × Obs))) : Prop := ∀ r ∈ l, ∃ s' o, r = .ok (s', o) ∧ PickInv s'

theorem AllInv.single {s' : State} {o : Obs} (h : PickInv s') : AllInv [.ok (s', o)] :=
  fun _ hr => ⟨s', o, List.mem_singleton.mp hr, h⟩

theorem handleHave_inv (s : State) (p i : Nat) (h : PickInv s) (hp : p < s.np)
    (hc : (s.peers p).closed = false) (hi : i < s.n) :
    ∃ s', handleHave s p i = .ok s' ∧ PickInv s' := by
  unfold handleHave
  simp only [hi, if_true]
  split
  · exact ⟨s, rfl, h⟩
  · rename_i hmem
    have o := h.core.pieceOk hi
    refine ⟨_, rfl, PickCore.inv ?_ (h.doneIdle.updPiece (h.doneIdle i))⟩
    refine h.core.updPieceAvail { o with nodup := ⟨nodup_concat o.nodup.1 hmem, o.nodup.2⟩ } (fun q => ?_) rfl ?_
    · have l := h.core.link hi q
      exact { l with
        reqSubHaving := fun m => List.mem_append_left _ (l.reqSubHaving m)
        having := fun m => (List.mem_append.mp m).elim l.having (fun e => List.mem_singleton.mp e ▸ ⟨hp, hc⟩) }
    · have key := countAvail_setPiece s i { s.pieces i with having := (s.pieces i).having ++ [p] } hi
      show (if _ then _ else _) = countAvail (setPiece s i _)
      rw [h.avail]
      cases hh : (s.pieces i).having with
      | nil => simp [hh] at key ⊢; omega
      | cons a l => simp [hh] at key ⊢; omega

theorem handleAllowedFast_inv (s : State) (p i : Nat) (h : PickInv s) (hp : p < s.np) (hi : i < s.n) :
    ∃ s', handleAllowedFast s p i = .ok s' ∧ PickInv s' := by
  unfold handleAllowedFast
  simp only [hi, if_true]
  have o := h.core.peerOk hp
  refine ⟨_, rfl, PickCore.inv (h.core.updPeer ?_ ?_) h.doneIdle⟩
  · exact { o with afRange := fun j hj => (mem_sadd.mp hj).elim (o.afRange j) (fun e => e ▸ hi) }
  -- `{ l with }` restates `l` field by field, so each field is checked up to unfolding the update: `Link` reads
  -- `closed`, `dl` and `choking` of the peer, which the update leaves as they are.
  · exact fun j hj => { h.core.link hj p with }

/-! ### steps of the protocol that touch one peer and at most its piece -/

theorem step_connect_inv (legacy : Bool) (s : State) (h : PickInv s) : AllInv (step legacy s .connect) := by
  refine .single (PickCore.inv (.of_parts (fun i hi => h.core.pieceOk hi) ?_ ?_ h.webOwner h.srcOk h.avail h.maxWeb)
    h.doneIdle)
  · intro q hq; simp only [setPeer_peers]; split
    · exact ⟨nofun, nofun, nofun⟩
    · exact h.core.peerOk (s := s) (by have : q < s.np + 1 := hq; omega)
  · intro i hi q
    have l := h.core.link hi q
    simp only [setPeer_peers]; split
    · -- the new peer is in no set: its id is not below `np`
      rename_i e; subst e
      have hnh : s.np ∉ (s.pieces i).having := fun m => Nat.lt_irrefl _ (l.having m).1
      exact l.absent (fun m => hnh (l.reqSubHaving m)) (fun m => absurd m hnh) fun _ _ hx => nomatch hx
    · rename_i e
      exact { l with
        having := fun m => ⟨Nat.lt_succ_of_lt (l.having m).1, (l.having m).2⟩
        dlReq := fun hq => l.dlReq (by have : q < s.np + 1 := hq; omega) }

theorem step_have_inv (legacy : Bool) (s : State) (p i : Nat) (h : PickInv s) : AllInv (step legacy s (.have p i)) := by
  simp only [step]
  split
  · rename_i hpre
    obtain ⟨s', he, hs'⟩ := handleHave_inv s p i h hpre.1 hpre.2.1 hpre.2.2
    rw [he]; exact .single hs'
  · exact .single h

theorem step_afast_inv (legacy : Bool) (s : State) (p i : Nat) (h : PickInv s) : AllInv (step legacy s (.afast p i)) := by
  simp only [step]
  split
  · rename_i hpre
    obtain ⟨s', he, hs'⟩ := handleAllowedFast_inv s p i h hpre.1 hpre.2.2
    rw [he]; exact .single hs'
  · exact .single h

theorem setChoking_inv {s : State} (h : PickInv s) {p : Nat} (hp : p < s.np) (c : Bool)
    (hdl : ∀ i, (s.peers p).dl ≠ some (i, false)) : PickInv (setPeer s p { s.peers p with choking := c }) :=
  PickCore.inv (h.core.updPeer { h.core.peerOk hp with } fun i hi =>
    have l := h.core.link hi p
    { l with choked := fun m => absurd (l.choked m).2 (hdl i) }) h.doneIdle

theorem step_unchoke_inv (legacy : Bool) (s : State) (p : Nat) (h : PickInv s) : AllInv (step legacy s (.unchoke p)) := by
  simp only [step]
  split
  · rename_i hpre; obtain ⟨hp, hc⟩ := hpre
    split
    · rename_i i hdl
      have hi : i < s.n := (h.dlReq p hp (i, false) hdl).1
      have o := h.core.pieceOk hi
      have l := h.core.link hi p
      have hne : p ∉ (s.pieces i).choked.erase p := o.nodup.2.2.2.not_mem_erase
      simp only [handleUnchoke, setPeer_n, hi, if_true]
      refine .single (PickCore.inv ?_ (DoneIdle.updPiece (s := setPeer s p _) h.doneIdle (h.doneIdle i)))
      refine h.core.updBoth { o with nodup := ⟨o.nodup.1, o.nodup.2.1, o.nodup.2.2.1, o.nodup.2.2.2.erase p⟩ }
        { h.core.peerOk hp with } ?_ ?_ (by simp [hdl]) (by simp [hdl]) rfl rfl rfl
      · exact { l with
          snubbed := fun m => ⟨(l.snubbed m).1, fun m' => (l.snubbed m).2 (List.mem_of_mem_erase m')⟩
          chokedReq := fun m => absurd m hne
          choked := fun m => absurd m hne }
      · exact fun q hqp => (h.core.link hi q).congr .rfl .rfl .rfl (List.mem_erase_of_ne hqp)
    · rename_i hdl
      exact .single (setChoking_inv h hp false hdl)
  · exact .single h

theorem step_choke_inv (legacy : Bool) (s : State) (p : Nat) (h : PickInv s) : AllInv (step legacy s (.choke p)) := by
  simp only [step]
  split
  · rename_i hpre; obtain ⟨hp, hc⟩ := hpre
    split
    · rename_i i hdl
      have hi : i < s.n := (h.dlReq p hp (i, false) hdl).1
      have o := h.core.pieceOk hi
      have l := h.core.link hi p
      have hne : p ∉ (s.pieces i).snubbed.erase p := o.nodup.2.2.1.not_mem_erase
      simp only [handleChoke, setPeer_n, hi, if_true]
      refine .single (PickCore.inv ?_ (DoneIdle.updPiece (s := setPeer s p _) h.doneIdle (h.doneIdle i)))
      refine h.core.updBoth
        { o with nodup := ⟨o.nodup.1, o.nodup.2.1, o.nodup.2.2.1.erase p, nodup_sadd o.nodup.2.2.2⟩ }
        { h.core.peerOk hp with } ?_ ?_ (by simp [hdl]) (by simp [hdl]) rfl rfl rfl
      · exact { l with
          snubbed := fun m => absurd m hne
          chokedReq := fun _ => l.dlReq hp _ hdl rfl
          choked := fun _ => ⟨rfl, hdl⟩ }
      · exact fun q hqp => (h.core.link hi q).congr .rfl .rfl (List.mem_erase_of_ne hqp)
          (mem_sadd.trans (or_iff_left hqp))
    · rename_i hdl
      exact .single (setChoking_inv h hp true hdl)
  · exact .single h

theorem step_snub_inv (legacy : Bool) (s : State) (p : Nat) (h : PickInv s) : AllInv (step legacy s (.snub p)) := by
  simp only [step]
  split
  · rename_i hpre; obtain ⟨hp, hc⟩ := hpre
    split
    · rename_i i af hdl
      split
      · exact .single h
      · rename_i hch
        have hi : i < s.n := (h.dlReq p hp (i, af) hdl).1
        have o := h.core.pieceOk hi
        have hnc : p ∉ (s.pieces i).choked := fun m => hch (h.chokedOk i hi p m).1
        simp only [handleSnubbed, hi, hnc, if_true, if_false]
        refine .single (PickCore.inv ?_ (h.doneIdle.updPiece (h.doneIdle i)))
        refine h.core.updPiece { o with nodup := ⟨o.nodup.1, o.nodup.2.1, nodup_sadd o.nodup.2.2.1, o.nodup.2.2.2⟩ }
          (fun q => ?_) rfl rfl
        have l := h.core.link hi q
        have hreq := (h.core.link hi p).dlReq hp _ hdl rfl
        exact { l with snubbed := fun m => (mem_sadd.mp m).elim l.snubbed (fun e => by rw [e]; exact ⟨hreq, hnc⟩) }
    · exact .single h
  · exact .single h

/-- The state after `closePieceDownloader` of the peer's downloader. -/
def cancelState (s : State) (p : Nat) : State :=
  match (s.peers p).dl with
  | none => s
  | some (i, _) =>
    setPeer (setPiece s i ((s.pieces i).cancel p)) p { s.peers p with dl := none }

theorem cancelPeer_eq (s : State) (p : Nat) (hd : DlReq s) (hp : p < s.np) :
    cancelPeer s p = .ok (cancelState s p) := by
  unfold cancelPeer cancelState
  cases hdl : (s.peers p).dl with
  | none => rfl
  | some x =>
    obtain ⟨i, af⟩ := x
    have hi : i < s.n := (hd p hp (i, af) hdl).1
    simp [handleCancelDownload, hi, bind, Except.bind, pure, Except.pure]

theorem cancelState_core (s : State) (p : Nat) (h : PickCore s) (hp : p < s.np) : PickCore (cancelState s p) := by
  unfold cancelState
  split
  · exact h
  · rename_i i af hdl
    have hi : i < s.n := (h.dlReq p hp (i, af) hdl).1
    have o := h.pieceOk hi
    refine h.updBoth ?_ ⟨nofun, fun _ => rfl, (h.peerOk hp).afRange⟩ ?_ ?_ (by simp [hdl]) nofun rfl rfl rfl
    · exact ⟨⟨o.nodup.1, o.nodup.2.1.erase p, o.nodup.2.2.1.erase p, o.nodup.2.2.2.erase p⟩,
        Nat.le_trans List.length_erase_le o.dupLimit⟩
    · exact ⟨fun m => absurd m o.nodup.2.1.not_mem_erase, fun m => absurd m o.nodup.2.2.1.not_mem_erase,
        fun m => absurd m o.nodup.2.2.2.not_mem_erase, (h.link hi p).having, fun m => absurd m o.nodup.2.1.not_mem_erase,
        fun m => absurd m o.nodup.2.2.2.not_mem_erase, fun _ => nofun⟩
    · exact fun q hqp => (h.link hi q).congr .rfl (List.mem_erase_of_ne hqp) (List.mem_erase_of_ne hqp)
        (List.mem_erase_of_ne hqp)

theorem cancelState_doneIdle (s : State) (p : Nat) (h : DoneIdle s) : DoneIdle (cancelState s p) := by
  unfold cancelState
  split
  · exact h
  · rename_i i _ _
    refine DoneIdle.updPiece (s := s) h fun hi hd => ?_
    simp only [Piece.cancel, h i hi hd, List.erase_nil]

theorem cancelState_inv (s : State) (p : Nat) (h : PickInv s) (hp : p < s.np) : PickInv (cancelState s p) :=
  (cancelState_core s p h.core hp).inv (cancelState_doneIdle s p h.doneIdle)

@[simp] theorem cancelState_n (s : State) (p : Nat) : (cancelState s p).n = s.n := by
  unfold cancelState; split <;> rfl
@[simp] theorem cancelState_np (s : State) (p : Nat) : (cancelState s p).np = s.np := by
  unfold cancelState; split <;> rfl
@[simp] theorem cancelState_ns (s : State) (p : Nat) : (cancelState s p).ns = s.ns := by
  unfold cancelState; split <;> rfl
@[simp] theorem cancelState_srcs (s : State) (p : Nat) : (cancelState s p).srcs = s.srcs := by
  unfold cancelState; split <;> rfl
@[simp] theorem cancelState_maxDup (s : State) (p : Nat) : (cancelState s p).maxDup = s.maxDup := by
  unfold cancelState; split <;> rfl
theorem cancelState_dl (s : State) (p : Nat) : ((cancelState s p).peers p).dl = none := by
  unfold cancelState; split <;> simp_all
theorem cancelState_closed (s : State) (p q : Nat) : ((cancelState s p).peers q).closed = (s.peers q).closed := by
  unfold cancelState; split <;> simp; split <;> simp_all
theorem cancelState_done (s : State) (p j : Nat) : ((cancelState s p).pieces j).done = (s.pieces j).done := by
  unfold cancelState; split <;> simp [Piece.cancel]; split <;> simp_all

theorem step_cancel_inv (legacy : Bool) (s : State) (p : Nat) (h : PickInv s) : AllInv (step legacy s (.cancel p)) := by
  simp only [step]
  split
  · rename_i hpre
    rw [cancelPeer_eq s p h.dlReq hpre.1]
    exact .single (cancelState_inv s p h hpre.1)
  · exact .single h

/-- Nothing in `PickCore` reads `Writing` or `Done`. -/
theorem setFlags_core {s : State} (h : PickCore s) {i : Nat} (hi : i < s.n) (w d : Bool) :
    PickCore (setPiece s i { s.pieces i with writing := w, done := d }) :=
  h.updPiece { h.pieceOk hi with } (fun q => { h.link hi q with }) rfl rfl

theorem setFlags_inv {s : State} (h : PickInv s) {i : Nat} (hi : i < s.n) (w d : Bool)
    (hd : d = true → (s.pieces i).requested = []) :
    PickInv (setPiece s i { s.pieces i with writing := w, done := d }) :=
  (setFlags_core h.core hi w d).inv (h.doneIdle.updPiece fun _ => hd)

theorem step_pdone_inv (legacy : Bool) (s : State) (p : Nat) (h : PickInv s) : AllInv (step legacy s (.pdone p)) := by
  simp only [step]
  split
  · rename_i hpre
    split
    · rename_i i af hdl
      split
      · exact .single h
      · rename_i hfl
        rw [cancelPeer_eq s p h.dlReq hpre.1]
        refine .single (setFlags_inv (cancelState_inv s p h hpre.1)
          (by rw [cancelState_n]; exact (h.dlReq p hpre.1 (i, af) hdl).1) true _ fun hd => ?_)
        rw [cancelState_done] at hd
        simp [hd] at hfl
    · exact .single h
  · exact .single h

theorem step_wwrite_inv (legacy : Bool) (s : State) (i : Nat) (h : PickInv s) : AllInv (step legacy s (.wwrite i)) := by
  simp only [step]
  split
  · rename_i hpre
    exact .single (setFlags_inv h hpre.1 true _ fun hd => absurd hd (by simp [hpre.2.2]))
  · exact .single h

theorem step_wfail_inv (legacy : Bool) (s : State) (i : Nat) (h : PickInv s) : AllInv (step legacy s (.wfail i)) := by
  simp only [step]
  split
  · rename_i hpre
    exact .single (setFlags_inv h hpre.1 false _ (h.doneIdle i hpre.1))
  · exact .single h

/-! ### `HandleDisconnect` -/

theorem setPiece_self (s : State) (i : Nat) : setPiece s i (s.pieces i) = s := by
  unfold setPiece
  have : (fun j => if j = i then s.pieces i else s.pieces j) = s.pieces := by
    funext j; split <;> simp_all
  rw [this]

theorem cancel_of_not_requested {s : State} (h : PickInv s) {i p : Nat} (hi : i < s.n)
    (hnr : p ∉ (s.pieces i).requested) : (s.pieces i).cancel p = s.pieces i := by
  have l := h.core.link hi p
  unfold Piece.cancel
  rw [List.erase_of_not_mem hnr, List.erase_of_not_mem fun m => hnr (l.snubbed m).1,
    List.erase_of_not_mem fun m => hnr (l.chokedReq m)]

theorem removeHavingPeer_inv (s : State) (i p : Nat) (h : PickInv s) (hi : i < s.n)
    (hnr : p ∉ (s.pieces i).requested) : PickInv (removeHavingPeer s i p) := by
  unfold removeHavingPeer
  simp only []
  split
  · rename_i hmem
    have o := h.core.pieceOk hi
    refine PickCore.inv ?_ (h.doneIdle.updPiece (h.doneIdle i))
    refine h.core.updPieceAvail { o with nodup := ⟨o.nodup.1.erase p, o.nodup.2⟩ } (fun q => ?_) rfl ?_
    · have l := h.core.link hi q
      exact { l with
        reqSubHaving := fun m => (List.mem_erase_of_ne fun e : q = p => hnr (e ▸ m)).mpr (l.reqSubHaving m)
        having := fun m => l.having (List.mem_of_mem_erase m) }
    · have key := countAvail_setPiece s i { s.pieces i with having := (s.pieces i).having.erase p } hi
      have hne := List.ne_nil_of_mem hmem
      show (if _ then _ else _) = countAvail (setPiece s i _)
      rw [h.avail]
      cases hl : (s.pieces i).having.erase p with
      | nil => simp [hl, hne, decU32] at key ⊢; split <;> omega
      | cons a l => simp [hl, hne] at key ⊢; omega
  · exact h

theorem removeHavingPeer_frame (s : State) (i p : Nat) :
    (removeHavingPeer s i p).n = s.n ∧ (removeHavingPeer s i p).np = s.np ∧ (removeHavingPeer s i p).peers = s.peers ∧
    (∀ j, j ≠ i → (removeHavingPeer s i p).pieces j = s.pieces j) ∧
    ((s.pieces i).having.Nodup → p ∉ ((removeHavingPeer s i p).pieces i).having) ∧
    (∀ j, ((removeHavingPeer s i p).pieces j).requested = (s.pieces j).requested) := by
  unfold removeHavingPeer
  simp only []
  split
  · refine ⟨rfl, rfl, rfl, ?_, ?_, ?_⟩
    · intro j hj; simp [hj]
    · intro hnd; simp [hnd.mem_erase_iff]
    · intro j; simp; split <;> simp_all
  · exact ⟨rfl, rfl, rfl, fun _ _ => rfl, fun _ => by assumption, fun _ => rfl⟩

theorem disconnectLoop_inv (p : Nat) (k : Nat) (s : State) (h : PickInv s) (hk : k ≤ s.n)
    (hnr : ∀ j, j < s.n → p ∉ (s.pieces j).requested) :
    PickInv (disconnectLoop p k s) ∧ (disconnectLoop p k s).n = s.n ∧ (disconnectLoop p k s).np = s.np ∧
    (disconnectLoop p k s).peers = s.peers ∧ (∀ j, j < k → p ∉ ((disconnectLoop p k s).pieces j).having) ∧
    (∀ j, ((disconnectLoop p k s).pieces j).requested = (s.pieces j).requested) := by
  induction k with
  | zero => exact ⟨h, rfl, rfl, rfl, fun j hj => absurd hj (Nat.not_lt_zero j), fun _ => rfl⟩
  | succ k ih =>
    obtain ⟨hI, hn, hnp, hpe, hhav, hreq⟩ := ih (by omega)
    simp only [disconnectLoop]
    have hkn : k < (disconnectLoop p k s).n := by omega
    have hnr' : p ∉ ((disconnectLoop p k s).pieces k).requested := by rw [hreq]; exact hnr k (by omega)
    -- `p` is not downloading: `HandleCancelDownload` changes nothing
    rw [cancel_of_not_requested hI hkn hnr', setPiece_self]
    obtain ⟨fn, fnp, fpe, fne, fhav, freq⟩ := removeHavingPeer_frame (disconnectLoop p k s) k p
    refine ⟨removeHavingPeer_inv _ k p hI hkn hnr', fn.trans hn, fnp.trans hnp, fpe.trans hpe, fun j hj => ?_,
      fun j => (freq j).trans (hreq j)⟩
    by_cases hjk : j = k
    · rw [hjk]; exact fhav (hI.nodup k hkn).1
    · rw [fne j hjk]; exact hhav j (by omega)

theorem step_disc_inv (legacy : Bool) (s : State) (p : Nat) (h : PickInv s) : AllInv (step legacy s (.disc p)) := by
  simp only [step]
  split
  · rename_i hpre
    rw [cancelPeer_eq s p h.dlReq hpre.1]
    refine .single ?_
    have hI := cancelState_inv s p h hpre.1
    have hdl := cancelState_dl s p
    have hnr : ∀ j, j < (cancelState s p).n → p ∉ ((cancelState s p).pieces j).requested := by
      intro j hj hm
      have := hI.reqDl j hj p hm
      rw [hdl] at this; cases this
    obtain ⟨hL, hn, hnp, hpe, hhav, _⟩ :=
      disconnectLoop_inv p (cancelState s p).n (cancelState s p) hI (Nat.le_refl _) hnr
    unfold handleDisconnect
    generalize disconnectLoop p (cancelState s p).n (cancelState s p) = s2 at *
    have hp2 : p < s2.np := by rw [hnp, cancelState_np]; exact hpre.1
    have hdl2 : (s2.peers p).dl = none := by rw [hpe]; exact hdl
    refine PickCore.inv (hL.core.updPeer { hL.core.peerOk hp2 with closedIdle := fun _ => hdl2 } fun j hj => ?_)
      hL.doneIdle
    exact { hL.core.link hj p with having := fun hm => absurd hm (hhav j (hn ▸ hj)) }
  · exact .single h

theorem PickInv.of_idle {s : State}
    (hp : ∀ i, (s.pieces i).having = [] ∧ (s.pieces i).requested = [] ∧ (s.pieces i).snubbed = [] ∧
      (s.pieces i).choked = [] ∧ (s.pieces i).webseed = none)
    (hnp : s.np = 0) (hsrc : ∀ k, s.srcs k = none) (ha : s.available = 0) (hm : 1 ≤ s.maxWeb) : PickInv s where
  nodup i _ := by simp [hp i]
  reqSubHaving i _ p hm := by simp [hp i] at hm
  stalled i _ := by simp [hp i]
  dupLimit i _ := by simp [hp i]
  doneIdle i _ _ := (hp i).2.1
  reqDl i _ p hm := by simp [hp i] at hm
  chokedOk i _ p hm := by simp [hp i] at hm
  havingOpen i _ p hm := by simp [hp i] at hm
  webOwner i _ k hk := by simp [hp i] at hk
  dlReq p hp' := by simp [hnp] at hp'
  closedIdle p hp' := by simp [hnp] at hp'
  afRange p hp' := by simp [hnp] at hp'
  srcOk k _ d hd := by simp [hsrc k] at hd
  avail := by
    unfold AvailOk countAvail
    rw [ha, List.countP_eq_zero.mpr]
    intro i _; simp [hp i]
  maxWeb := hm

end Rain.Picker
