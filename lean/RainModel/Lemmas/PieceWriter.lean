import RainModel.Model.PieceWriter
/-! Helper lemmas for `pw_gate` and `pw_writes_cover` (C01). -/
namespace Rain.PW
open Rain.Blocks

theorem totalLen_cons (s : FSec) (rest : List FSec) : totalLen (s :: rest) = s.len + totalLen rest := by
  simp [totalLen]

theorem verifyHash_iff {Hash : Type} [DecidableEq Hash] (H : Bytes → Hash) (p : Piece Hash) (buf : Bytes) :
    verifyHash H p buf = true ↔ buf.length = p.length ∧ H buf = p.hash := by
  unfold verifyHash
  by_cases hl : buf.length = p.length <;> simp [hl]
theorem writeSecs_prefix (f : Option Nat) : ∀ (secs : List FSec) (buf : Bytes) (o k : Nat) (acc : List Write),
    o + totalLen secs ≤ buf.length →
    ∃ st ws, writeSecs f secs (buf.drop o) k acc = (st, acc.reverse ++ ws) ∧
      ws <+: sectionWrites secs o buf ∧ st ≠ .badGeometry ∧
      (st = .ok → ws = sectionWrites secs o buf) ∧ (f = none → st = .ok) := by
  intro secs
  induction secs with
  | nil =>
    exact fun _ _ _ acc _ => ⟨.ok, [], by rw [List.append_nil]; rfl, List.nil_prefix, nofun, fun _ => rfl, fun _ => rfl⟩
  | cons s rest ih =>
    intro buf o k acc h
    rw [totalLen_cons] at h
    have hlen : ¬ (buf.drop o).length < s.len := by simp; omega
    unfold writeSecs sectionWrites
    simp only [hlen, if_false, List.drop_drop]
    by_cases hp : s.pad = true
    · simp only [hp, if_true]
      exact ih buf (o + s.len) k acc (by omega)
    · simp only [hp, Bool.false_eq_true, if_false]
      generalize ({ file := s.file, off := s.off, data := (buf.drop o).take s.len } : Write) = w
      by_cases hf : f = some k
      · exact ⟨.error, [w], by rw [if_pos hf, List.reverse_cons], List.prefix_append _ _, nofun, nofun,
          fun hn => by rw [hn] at hf; cases hf⟩
      · obtain ⟨st, ws, h1, h2, h3, h4, h5⟩ := ih buf (o + s.len) (k + 1) (w :: acc) (by omega)
        exact ⟨st, w :: ws, by rw [if_neg hf, h1, List.reverse_cons, List.append_assoc]; rfl,
          (List.prefix_cons_inj w).mpr h2, h3, fun hok => by rw [h4 hok]; rfl, h5⟩

theorem keepMask_replicate (v : Bool) (k : Nat) : ∀ (m : List Bool) (xs : Bytes), k ≤ xs.length →
    keepMask (List.replicate k v ++ m) xs = (if v then xs.take k else []) ++ keepMask m (xs.drop k) := by
  induction k with
  | zero => intro m xs _; cases v <;> simp
  | succ k ih =>
    intro m xs h
    cases xs with
    | nil => simp at h
    | cons x xs =>
      rw [List.replicate_succ, List.cons_append, keepMask, ih m xs (by simpa using h)]
      cases v <;> simp

theorem secMask_cons (s : Sec) (rest : List Sec) :
    secMask (s :: rest) = List.replicate s.len (!s.pad) ++ secMask rest := by
  simp [secMask]

theorem sectionWrites_data : ∀ (secs : List FSec) (buf : Bytes) (o : Nat), o + totalLen secs ≤ buf.length →
    (sectionWrites secs o buf).flatMap (·.data) = keepMask (secMask (secs.map FSec.toSec)) (buf.drop o) := by
  intro secs
  induction secs with
  | nil => intro buf o _; simp [sectionWrites, secMask, keepMask]
  | cons s rest ih =>
    intro buf o h
    rw [totalLen_cons] at h
    have hk : s.len ≤ (buf.drop o).length := by simp; omega
    simp only [List.map_cons, secMask_cons, FSec.toSec, sectionWrites]
    rw [keepMask_replicate _ s.len _ _ hk, List.drop_drop, ← ih buf (o + s.len) (by omega)]
    cases s.pad <;> simp

theorem sectionWrites_targets : ∀ (secs : List FSec) (buf : Bytes) (o : Nat), o + totalLen secs ≤ buf.length →
    (sectionWrites secs o buf).map (fun w => (w.file, w.off, w.data.length)) =
      (secs.filter (fun s => !s.pad)).map (fun s => (s.file, s.off, s.len)) := by
  intro secs
  induction secs with
  | nil => intro buf o _; rfl
  | cons s rest ih =>
    intro buf o h
    rw [totalLen_cons] at h
    have := ih buf (o + s.len) (by omega)
    cases hp : s.pad <;> simp [sectionWrites, hp, this]
    omega

theorem totalLen_eq_total (secs : List FSec) : totalLen secs = total (secs.map FSec.toSec) := by
  simp [totalLen, total, FSec.toSec, List.map_map, Function.comp_def]

end Rain.PW
