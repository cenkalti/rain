import RainModel.Lemmas.LoopDispatch
/-!
What the handlers do to the bookkeeping lists — the connected peers, the piece downloads and the metadata downloads
— stated once: they close entries and update them in place (`Shrinks`).  The exceptions are `acceptPeer`, which
connects a peer, the extension handshake, which may start PEX, and (outside `step`) `reconcile` / `reconcileIdl`,
which adopt the downloads the implementation started.  Every predicate that holds of each entry by itself and does
not look at what is updated survives: `Shrinks.noPex`, `Shrinks.idlAll`, `Shrinks.queueOK`, "no peers stay no peers"
(`Shrinks.peers_nil`), and the three list clauses of `WFrame` (`Shrinks.dls`, `.widls`, `.wq`).
-/
namespace Rain.Loop

theorem find?_none_filter {α} (l : List α) (p : α → Bool) (h : l.find? p = none) :
    l.filter (fun x => !p x) = l := by
  rw [List.find?_eq_none] at h
  rw [List.filter_eq_self]
  intro a ha
  simpa using h a ha

theorem closePeer_peers_eq (s : St) (k : Nat) : (s.closePeer k).peers = s.peers.filter (fun q => !decide (q.k = k)) := by
  unfold St.closePeer
  split
  · next h =>
    unfold St.findPeer at h
    exact (find?_none_filter _ _ h).symm
  · dsimp only
    split <;> simp only [(startDls_writes _).peers, (closeDl_writes s k).peers, decide_not]

theorem closePeer_peers_subset (s : St) (k : Nat) : ∀ q ∈ (s.closePeer k).peers, q ∈ s.peers := fun _ hq =>
  (List.mem_filter.1 (closePeer_peers_eq s k ▸ hq)).1

theorem foldl_closePeer_peers (l : List Peer) (t : St) :
    (l.foldl (fun s p => s.closePeer p.k) t).peers = t.peers.filter (fun q => l.all fun p => !decide (q.k = p.k)) := by
  induction l generalizing t with
  | nil =>
    simp only [List.foldl_nil, List.all_nil]
    exact (List.filter_eq_self.2 (fun _ _ => rfl)).symm
  | cons a l ih =>
    simp only [List.foldl_cons, ih, closePeer_peers_eq, List.filter_filter, List.all_cons]
    congr 1
    funext q
    rw [Bool.and_comm]

theorem stopPeers_peers (s : St) : (stopPeers s).peers = [] := by
  unfold stopPeers
  rw [foldl_closePeer_peers, List.filter_eq_nil_iff]
  intro q hq
  simp only [List.all_eq_true, Bool.not_eq_eq_eq_not, Bool.not_true, decide_eq_false_iff_not]
  intro hall
  exact hall q hq rfl

theorem stopAlloc_allocator (s : St) : (stopAlloc s).allocator = false := by
  unfold stopAlloc
  split
  · rfl
  · next h => simpa using h

theorem stopVer_verifier (s : St) : (stopVer s).verifier = false := by
  unfold stopVer
  split
  · rfl
  · next h => simpa using h

/-- What `stopRun s e` leaves in `t`: everything released, the error recorded, a requested verification withdrawn on
an error. -/
structure StopFields (s : St) (e : Bool) (t : St) : Prop where
  stopAnn : t.stopAnn = true
  allocator : t.allocator = false
  verifier : t.verifier = false
  loaded : t.loaded = false
  acceptor : t.acceptor = false
  openFiles : t.openFiles = []
  peers : t.peers = []
  dls : t.dls = []
  idls : t.idls = []
  mayStart : t.mayStart = []
  lastErr : t.lastErr = e
  doVerify : t.doVerify = (s.doVerify && !e)

theorem stopRun_fields (s : St) (e : Bool) : StopFields s e (stopRun s e) := by
  -- what `stopRun` writes from `stopAlloc`, from `stopWB`, from `stopClear` and from `stopPeers` on
  have h1 := fun x => (stopAlloc_writes x).trans ((stopVer_writes _).trans (stopFin_writes _))
  have h2 := fun x => ((stopWB_writes x).trans (closeData_writes _)).trans (h1 _)
  have h3 := fun x => (stopClear_writes x).trans (h2 _)
  have h4 := fun x => (stopPeers_writes x).trans (h3 _)
  exact ⟨rfl, (stopFin_writes _).allocator.trans ((stopVer_writes _).allocator.trans (stopAlloc_allocator _)),
    (stopFin_writes _).verifier.trans (stopVer_verifier _), (h1 _).loaded, (h4 _).acceptor, (h1 _).openFiles,
    (h3 _).peers.trans (stopPeers_peers _), (h2 _).dls, (h2 _).idls, (h2 _).mayStart, (h4 _).lastErr, (h4 _).doVerify⟩

/-- `q` is `p` updated in place: PEX as it was, and what has been queued since needs the metadata. -/
structure Peer.Kept (p q : Peer) : Prop where
  pexOn : q.pexOn = p.pexOn
  queued : ∀ msg ∈ q.queued, msg ∈ p.queued ∨ needsInfo msg = true

theorem Peer.Kept.of_eq {p q : Peer} (h1 : q.pexOn = p.pexOn) (h2 : q.queued = p.queued) : p.Kept q :=
  ⟨h1, fun _ h => .inl (h2 ▸ h)⟩

theorem Peer.Kept.trans {p q r : Peer} (a : p.Kept q) (b : q.Kept r) : p.Kept r :=
  ⟨b.pexOn.trans a.pexOn, fun m h => (b.queued m h).elim (a.queued m) .inr⟩

theorem Peer.Kept.enqueue (p : Peer) {msg : Msg} (h : needsInfo msg = true) :
    p.Kept { p with queued := p.queued ++ [msg] } :=
  ⟨rfl, fun _ hm => (List.mem_append.1 hm).imp_right fun hm => by rw [List.mem_singleton.1 hm]; exact h⟩

/-- Every element of `l'` comes by `R` from one of `l`: `l'` is `l` with elements removed and updated in place. -/
def ListShrinks {α} (R : α → α → Prop) (l l' : List α) : Prop := ∀ y ∈ l', ∃ x ∈ l, R x y

namespace ListShrinks
variable {α} {R : α → α → Prop} {l₀ l l' : List α}

theorem sub (h : ListShrinks R l₀ l) (hs : ∀ y ∈ l', y ∈ l) : ListShrinks R l₀ l' := fun y hy => h y (hs y hy)

/-- The elements are updated in place, each to the `R`-successor of some element. -/
theorem map (h : ListShrinks R l₀ l) (hT : ∀ {x y z}, R x y → R y z → R x z) {f : α → α}
    (hf : ∀ x ∈ l, ∃ d ∈ l, R d (f x)) : ListShrinks R l₀ (l.map f) := fun y hy => by
  obtain ⟨x, hx, rfl⟩ := List.mem_map.1 hy
  obtain ⟨d, hd, e⟩ := hf x hx
  exact (h d hd).imp fun r hr => ⟨hr.1, hT hr.2 e⟩

theorem nil (h : ListShrinks R l l') (hl : l = []) : l' = [] :=
  List.eq_nil_iff_forall_not_mem.2 fun y hy => let ⟨_, hx, _⟩ := h y hy; nomatch hl ▸ hx

end ListShrinks

/-- `s'` comes from `s` by closing peers, piece downloads and metadata downloads and by updating them in place: every
peer of `s'` is one of `s` (`Peer.Kept`), every download one of `s` for the same piece, every metadata download one of
`s` for the same size. -/
structure Shrinks (s s' : St) : Prop where
  peers : ListShrinks Peer.Kept s.peers s'.peers
  dls : ListShrinks (fun d d' => d.piece = d'.piece) s.dls s'.dls
  idls : ListShrinks (fun d d' => d.size = d'.size) s.idls s'.idls

variable {s₀ s s' : St}

theorem Shrinks.refl (s : St) : Shrinks s s :=
  ⟨fun q hq => ⟨q, hq, .of_eq rfl rfl⟩, fun d hd => ⟨d, hd, rfl⟩, fun e he => ⟨e, he, rfl⟩⟩

theorem Shrinks.of_sub (h : Shrinks s₀ s) (hp : ∀ q ∈ s'.peers, q ∈ s.peers) (hd : ∀ d ∈ s'.dls, d ∈ s.dls)
    (hi : ∀ e ∈ s'.idls, e ∈ s.idls) : Shrinks s₀ s' :=
  ⟨h.peers.sub hp, h.dls.sub hd, h.idls.sub hi⟩

theorem Shrinks.of_eq (h : Shrinks s₀ s) (hp : s'.peers = s.peers) (hd : s'.dls = s.dls) (hi : s'.idls = s.idls) :
    Shrinks s₀ s' :=
  ⟨hp ▸ h.peers, hd ▸ h.dls, hi ▸ h.idls⟩

/-- `s'` comes from `s` by record updates of other fields (`t`, checked by `rfl`) and then a handler that writes none
of the three lists. -/
theorem Shrinks.of_writes {w : List Fld} {t : St} (h : Shrinks s₀ s) (hW : Writes w t s')
    (hw : Fld.peers ∉ w ∧ Fld.dls ∉ w ∧ Fld.idls ∉ w := by decide) (hp : t.peers = s.peers := by rfl)
    (hd : t.dls = s.dls := by rfl) (hi : t.idls = s.idls := by rfl) : Shrinks s₀ s' :=
  h.of_eq ((hW.peers hw.1).trans hp) ((hW.dls hw.2.1).trans hd) ((hW.idls hw.2.2).trans hi)

/-- `ite_inv`, for dot notation. -/
theorem Shrinks.ite {α} {f : α → St} {c : Prop} [Decidable c] {a b : α} (ha : Shrinks s₀ (f a)) (hb : Shrinks s₀ (f b)) :
    Shrinks s₀ (f (if c then a else b)) :=
  ite_inv ha hb

theorem Shrinks.map {f : Peer → Peer} (h : Shrinks s₀ s) (hp : s'.peers = s.peers.map f)
    (hf : ∀ p : Peer, p.Kept (f p)) (hd : s'.dls = s.dls := by rfl) (hi : s'.idls = s.idls := by rfl) :
    Shrinks s₀ s' :=
  ⟨hp ▸ h.peers.map Peer.Kept.trans fun p hp => ⟨p, hp, hf p⟩, hd ▸ h.dls, hi ▸ h.idls⟩

theorem Shrinks.updPeer (h : Shrinks s₀ s) (k : Nat) (f : Peer → Peer) (hf : ∀ p : Peer, p.Kept (f p)) :
    Shrinks s₀ (s.updPeer k f) :=
  h.map rfl fun p => by
    split
    · exact hf p
    · exact .of_eq rfl rfl

theorem Shrinks.mapDls {f : Dl → Dl} (h : Shrinks s₀ s) (hd : s'.dls = s.dls.map f)
    (hf : ∀ x ∈ s.dls, ∃ d ∈ s.dls, d.piece = (f x).piece) (hp : s'.peers = s.peers := by rfl)
    (hi : s'.idls = s.idls := by rfl) : Shrinks s₀ s' :=
  ⟨hp ▸ h.peers, hd ▸ h.dls.map Eq.trans hf, hi ▸ h.idls⟩

theorem Shrinks.updDl (h : Shrinks s₀ s) (k : Nat) (f : Dl → Dl) (hf : ∀ d, (f d).piece = d.piece) :
    Shrinks s₀ { s with dls := s.dls.map fun x => if x.k = k then f x else x } :=
  h.mapDls rfl fun x hx => ⟨x, hx, by
    split
    · exact (hf x).symm
    · rfl⟩

theorem Shrinks.mapIdls {f : IDl → IDl} (h : Shrinks s₀ s) (hi : s'.idls = s.idls.map f)
    (hf : ∀ x ∈ s.idls, ∃ d ∈ s.idls, d.size = (f x).size) (hp : s'.peers = s.peers := by rfl)
    (hd : s'.dls = s.dls := by rfl) : Shrinks s₀ s' :=
  ⟨hp ▸ h.peers, hd ▸ h.dls, hi ▸ h.idls.map Eq.trans hf⟩

theorem Shrinks.closeDl (h : Shrinks s₀ s) (k : Nat) : Shrinks s₀ (s.closeDl k) :=
  ite_ind (P := Shrinks s₀) (fun _ => h.of_sub (fun _ hq => hq) (fun _ hd => (List.mem_filter.1 hd).1) fun _ he => he)
    fun _ => h

theorem closePeer_dls_idls_subset (s : St) (k : Nat) :
    (∀ d ∈ (s.closePeer k).dls, d ∈ s.dls) ∧ ∀ e ∈ (s.closePeer k).idls, e ∈ s.idls := by
  unfold St.closePeer
  split
  · exact ⟨fun _ h => h, fun _ h => h⟩
  · refine ⟨fun d hd => ?_, fun e he => ?_⟩
    · have : d ∈ (s.closeDl k).dls := by
        dsimp only at hd
        split at hd <;> simpa only [(startDls_writes _).dls] using hd
      unfold St.closeDl at this
      split at this
      · exact (List.mem_filter.1 this).1
      · exact this
    · have : e ∈ s.idls.filter (·.k ≠ k) := by
        dsimp only at he
        split at he <;> simpa only [startDls_idls, closeDl_idls] using he
      exact (List.mem_filter.1 this).1

theorem Shrinks.closePeer (h : Shrinks s₀ s) (k : Nat) : Shrinks s₀ (s.closePeer k) :=
  h.of_sub (closePeer_peers_subset s k) (closePeer_dls_idls_subset s k).1 (closePeer_dls_idls_subset s k).2

/-- `stop`, after record updates of other fields (`t`, checked by `rfl`): nothing, or nothing is left. -/
theorem Shrinks.stop {t : St} (h : Shrinks s₀ s) (e : Bool) (hp : t.peers = s.peers := by rfl)
    (hd : t.dls = s.dls := by rfl) (hi : t.idls = s.idls := by rfl) : Shrinks s₀ (t.stop e) :=
  stop_cases t e (h.of_eq hp hd hi) fun _ =>
    have F := stopRun_fields t e
    h.of_sub (fun _ hq => nomatch F.peers ▸ hq) (fun _ hq => nomatch F.dls ▸ hq) fun _ hq => nomatch F.idls ▸ hq

theorem checkCompletion_shrinks (s : St) (h : Shrinks s₀ s) : Shrinks s₀ s.checkCompletion.1 := by
  unfold St.checkCompletion
  refine ite_inv (f := fun x : St × Bool => x.1) h ?_
  cases s.bf with
  | none => exact h.of_writes (crash_writes ..)
  | some b =>
    refine ite_inv (f := fun x : St × Bool => x.1) h (foldl_inv _ _ (fun t a ht => ht.closeDl _) _ _
      (foldl_inv _ _ (fun t a ht => ite_ind (fun _ => ht.closePeer _) fun _ => ht) _ _ ?_))
    exact (ite_ind (P := Shrinks s₀) (fun _ => h.of_writes (crash_writes ..)) fun _ => h).of_eq rfl rfl rfl

theorem updateInterested_shrinks (m : M) (k : Nat) (h : Shrinks s₀ m.1) : Shrinks s₀ (updateInterested m k).1 := by
  have hi (v : Bool) : Shrinks s₀ (onSt m (·.updPeer k fun p => { p with clientInterested := v })).1 :=
    h.updPeer k _ fun _ => .of_eq rfl rfl
  unfold updateInterested
  refine .ite h ?_
  split
  · exact .ite (hi true) (.ite (hi false) h)
  · exact h

theorem haveOne_shrinks (m : M) (k i : Nat) (h : Shrinks s₀ m.1) : Shrinks s₀ (haveOne m k i).1 :=
  .ite (h.updPeer k _ fun _ => .of_eq rfl rfl) h

theorem handlePieceMessage_shrinks (m : M) (k i b l : Nat) (g : Bool) (h : Shrinks s₀ m.1) :
    Shrinks s₀ (handlePieceMessage m k i b l g).1 := by
  have hc : Shrinks s₀ (closePeerM m k).1 := h.closePeer k
  unfold handlePieceMessage
  refine .ite hc (.ite hc ?_)
  split
  · exact h
  · next d hd =>
    -- the block is recorded in the download of peer `k`; with the last block the download is closed
    let m1 : M := onSt m fun s => { s with dls := s.dls.map fun x =>
      if x.k = k then ({ d with doneBlocks := b :: d.doneBlocks, good := d.good && g } : Dl) else x }
    have h1 : Shrinks s₀ m1.1 := h.mapDls rfl fun x hx => by
      split
      · exact ⟨d, List.mem_of_find?_eq_some hd, rfl⟩
      · exact ⟨x, hx, rfl⟩
    exact .ite h (.ite hc (.ite h (.ite h1 ((h1.closeDl k).of_writes (t := m1.1.closeDl k)
      (Writes.intro (w₀ := [.panicked, .wflag, .mayStart, .writing]) (by frame; rfl))))))

theorem handlePeerMessage_shrinks (m : M) (k : Nat) (msg : Msg) (h : Shrinks s₀ m.1) :
    Shrinks s₀ (handlePeerMessage m k msg).1 := by
  have hc : Shrinks s₀ (closePeerM m k).1 := h.closePeer k
  have hu {f : Peer → Peer} (hf : ∀ p : Peer, p.Kept (f p)) : Shrinks s₀ (onSt m (·.updPeer k f)).1 := h.updPeer k f hf
  -- the bits of the peer are set, then its interest is updated and the picker asked
  have hb {x : M} (hx : Shrinks s₀ x.1) : Shrinks s₀ (onSt (updateInterested x k) (·.startDlFor k)).1 :=
    (updateInterested_shrinks x k hx).of_writes (startDlFor_writes ..)
  cases msg <;> simp only [handlePeerMessage]
  case «have» i => exact .ite (hu fun p => .enqueue p rfl) (.ite hc (hb (haveOne_shrinks m k i h)))
  case bitfield bits nb =>
    exact .ite (hu fun p => .enqueue p rfl) (.ite h (.ite hc (hb
      (foldl_inv (fun x : M => Shrinks s₀ x.1) _ (fun x i hx => .ite (haveOne_shrinks x k i hx) hx) _ _ h))))
  case haveAll =>
    exact .ite (hu fun p => .enqueue p rfl)
      (hb (foldl_inv (fun x : M => Shrinks s₀ x.1) _ (fun x i => haveOne_shrinks x k i) _ _ h))
  case haveNone => exact h
  case allowedFast i => exact .ite (hu fun p => .enqueue p rfl) (.ite hc (.ite (hu fun _ => .of_eq rfl rfl) h))
  case unchoke =>
    have hp := hu (f := fun p => { p with peerChoking := false }) fun _ => .of_eq rfl rfl
    split
    · exact hp.of_writes (startDlFor_writes ..)
    · exact .ite hp (hp.updDl k (fun x => { x with choked := false }) fun _ => rfl)
  case choke =>
    have hp := hu (f := fun p => { p with peerChoking := true }) fun _ => .of_eq rfl rfl
    split
    · exact hp
    · exact .ite hp ((hp.updDl k (fun x => { x with choked := true, snub := false }) fun _ => rfl).of_writes (startDls_writes _))
  case interested =>
    have hi := hu (f := fun p => { p with peerInterested := true }) fun _ => .of_eq rfl rfl
    split
    · exact hi
    · have hc := hi.updPeer k (fun p => { p with clientChoking := false }) fun _ => .of_eq rfl rfl
      exact .ite (hc.of_eq rfl rfl rfl) (.ite (hc.of_eq rfl rfl rfl) hi)
  case notInterested => exact hu fun _ => .of_eq rfl rfl
  case request i b l =>
    refine .ite hc (.ite hc (.ite hc ?_))
    split
    · exact h
    · exact .ite h (.ite (.ite (.ite (.ite h (hu fun _ => .of_eq rfl rfl)) h) h) (.ite h (hu fun _ => .of_eq rfl rfl)))
  case reject i b l =>
    refine .ite hc (.ite hc ?_)
    split
    · exact h
    · exact .ite h (.ite hc h)
  case cancel i b l =>
    refine .ite hc (.ite h ?_)
    split
    · exact .ite h h
    · exact h
  case piece i b l g => exact handlePieceMessage_shrinks m k i b l g h

theorem processQueued_shrinks (m : M) (h : Shrinks s₀ m.1) : Shrinks s₀ (processQueued m).1 := by
  unfold processQueued
  dsimp only
  refine foldl_inv (fun x : M => Shrinks s₀ x.1) _ (fun x k hx => ?_) _ _ h
  split
  · exact hx
  · exact foldl_inv (fun y : M => Shrinks s₀ y.1) _ (fun y msg hy => .ite (handlePeerMessage_shrinks y k msg hy) hy) _ _
      (hx.updPeer k _ fun _ => ⟨rfl, nofun⟩)

theorem hadInstall_shrinks (m : M) (h : Shrinks s₀ m.1) : Shrinks s₀ (hadInstall m).1 :=
  h.map rfl fun _ => .of_eq rfl rfl

theorem hadReady_shrinks (m : M) (h : Shrinks s₀ m.1) : Shrinks s₀ (hadReady m).1 :=
  (processQueued_shrinks m h).of_writes (startDls_writes _)

theorem hadCheck_shrinks (m : M) (h : Shrinks s₀ m.1) : Shrinks s₀ (hadCheck m).1 :=
  hadCheck_cases (P := fun x => Shrinks s₀ x.1) m (fun _ => onSt_stop _ _ _ ((checkCompletion_shrinks _ h).stop _))
    (hadReady_shrinks _ (checkCompletion_shrinks _ h))

theorem hadFresh_shrinks (m : M) (h : Shrinks s₀ m.1) : Shrinks s₀ (hadFresh m).1 :=
  have h0 : Shrinks s₀ (hadFreshInstall m).1 := h.of_writes (hadFreshInstall_writes m)
  hadFresh_cases (P := fun x => Shrinks s₀ x.1) m (fun _ => onSt_stop _ _ _ (h0.stop _)) fun _ => hadCheck_shrinks _ h0

theorem handleAllocationDone_shrinks (m : M) (ex mi : Bool) (h : Shrinks s₀ m.1) :
    Shrinks s₀ (handleAllocationDone m ex mi).1 :=
  have h0 : Shrinks s₀ (hadForget (hadInstall m) mi).1 := (hadInstall_shrinks m h).of_writes (hadForget_writes ..)
  handleAllocationDone_cases (P := fun x => Shrinks s₀ x.1) m ex mi
    (fun _ _ _ => hadCheck_shrinks _ (h0.of_writes (markPaddingPieces_writes _))) (fun _ _ => hadFresh_shrinks _ h0)
    fun _ _ => h0.of_eq rfl rfl rfl

theorem allocatorRun_shrinks (m : M) (h : Shrinks s₀ m.1) : Shrinks s₀ (allocatorRun m).1 :=
  allocatorRun_cases (P := fun x => Shrinks s₀ x.1) m
    (fun _ => onSt_stop _ _ _
      (((h.of_writes (allocFailOpen_writes m)).of_writes (hadForget_writes (allocFailOpen m) _)).stop _))
    fun _ => handleAllocationDone_shrinks _ _ _ (h.of_writes (allocOkOpen_writes m))

theorem hvdHaves_shrinks (m : M) (h : Shrinks s₀ m.1) : Shrinks s₀ (hvdHaves m).1 := by
  refine foldl_inv (fun x : M => Shrinks s₀ x.1) _ (fun x p hx => updateInterested_shrinks _ _ ?_) _ _ h
  refine foldl_inv (fun y : M => Shrinks s₀ y.1) _ (fun y i hy => ?_) _ _ hx
  exact hy

theorem handleVerificationDone_shrinks (m : M) (h : Shrinks s₀ m.1) : Shrinks s₀ (handleVerificationDone m).1 :=
  have h0 : Shrinks s₀ (hvdInstall m).1 := h.of_writes (hvdInstall_writes m)
  handleVerificationDone_cases (P := fun x => Shrinks s₀ x.1) m (fun _ => onSt_stop _ _ _ (h0.stop _))
    fun _ => hadCheck_shrinks _ (hvdHaves_shrinks _ h0)

theorem pwdBan_shrinks (m : M) (w : WriteJob) (h : Shrinks s₀ m.1) : Shrinks s₀ (pwdBan m w).1 :=
  (h.closePeer w.src).of_writes (startDls_writes _)

theorem pwdOthers_shrinks (m : M) (w : WriteJob) (h : Shrinks s₀ m.1) : Shrinks s₀ (pwdOthers m w).1 :=
  foldl_inv (fun x : M => Shrinks s₀ x.1) _ (fun x k hx => (hx.closeDl k).of_writes (startDlFor_writes ..)) _ _ h

theorem pwdHaves_shrinks (m : M) (w : WriteJob) (h : Shrinks s₀ m.1) : Shrinks s₀ (pwdHaves m w).1 := by
  refine foldl_inv (fun x : M => Shrinks s₀ x.1) _ (fun x p hx => ?_) _ _ h
  dsimp only
  exact .ite (updateInterested_shrinks x p.k hx) (updateInterested_shrinks x p.k hx)

theorem pwdFinish_shrinks (m : M) (h : Shrinks s₀ m.1) : Shrinks s₀ (pwdFinish m).1 :=
  have h1 := checkCompletion_shrinks _ h
  have h2 : Shrinks s₀ m.1.checkCompletion.1.writeBitfield := h1.of_writes (writeBitfield_writes _)
  pwdFinish_cases (P := fun x => Shrinks s₀ x.1) m (fun _ => h1) (fun _ => h2) fun _ => onSt_stop _ _ _ (h2.stop _)

theorem handlePieceWriteDone_shrinks (m : M) (w : WriteJob) (e : Bool) (h : Shrinks s₀ m.1) :
    Shrinks s₀ (handlePieceWriteDone m w e).1 :=
  have h0 : Shrinks s₀ (pwdReset m w).1 := h.of_writes (pwdReset_writes ..)
  have h1 : Shrinks s₀ (pwdDone (pwdReset m w) w).1 := h0.of_writes (pwdDone_writes ..)
  handlePieceWriteDone_cases (P := fun x => Shrinks s₀ x.1) m w e (fun _ => pwdBan_shrinks _ w h0) (fun _ _ => h0)
    (fun _ _ _ _ => onSt_stop _ _ _ (h0.stop _)) (fun _ _ _ _ _ => h1.of_writes (crash_writes ..))
    fun b _ _ _ _ _ => pwdFinish_shrinks _ (pwdHaves_shrinks _ _ (pwdOthers_shrinks _ _ (h1.of_writes (pwdSet_writes ..))))

theorem writerRun_shrinks (m : M) (w : WriteJob) (h : Shrinks s₀ m.1) : Shrinks s₀ (writerRun m w).1 :=
  writerRun_job (P := fun x => Shrinks s₀ x.1) m w
    (fun _ _ _ _ _ => handlePieceWriteDone_shrinks _ _ _ (h.of_eq rfl rfl rfl)) fun _ _ => h.of_eq rfl rfl rfl

theorem runWorkers_shrinks (fuel : Nat) (m : M) (h : Shrinks s₀ m.1) : Shrinks s₀ (runWorkers fuel m).1 :=
  runWorkers_inv (P := fun x => Shrinks s₀ x.1) (fun m _ _ hm => hm.of_writes (handleStopped_writes m))
    (fun m _ => allocatorRun_shrinks m) (fun m _ => handleVerificationDone_shrinks m)
    (fun m w _ _ => handlePieceWriteDone_shrinks m w false) (fun m w _ => writerRun_shrinks m w) fuel m h

theorem hmdStart_shrinks (m : M) (h : Shrinks s₀ m.1) : Shrinks s₀ (hmdStart m).1 :=
  hmdStart_cases (P := fun x => Shrinks s₀ x.1) m (fun _ => onSt_stop _ _ _ (h.stop _)) fun _ =>
    ite_ind (P := Shrinks s₀) (fun _ => h.of_writes (crash_writes ..)) fun _ => h.of_eq rfl rfl rfl

theorem hmdAdopt_shrinks (m : M) (h : Shrinks s₀ m.1) : Shrinks s₀ (hmdAdopt m).1 :=
  have h0 : Shrinks s₀ ({ m.1 with idls := [] } : St) := h.of_sub (fun _ hq => hq) (fun _ hd => hd) nofun
  hmdAdopt_cases (P := fun x => Shrinks s₀ x.1) m (fun _ => onSt_stop _ _ _ (h0.stop _)) fun _ _ => hmdStart_shrinks _ (h0.of_eq rfl rfl rfl)

theorem handleMetadataData_shrinks (m : M) (k i len : Nat) (g : Bool) (h : Shrinks s₀ m.1) :
    Shrinks s₀ (handleMetadataData m k i len g).1 := by
  rw [handleMetadataData_eq]
  split
  · exact h
  · next d hd =>
    -- storing a block replaces the download of peer `k` by one of the same size
    have hs : Shrinks s₀ ({ m.1 with idls := m.1.idls.map fun x =>
        if x.k = k then { d with pending := d.pending - 1, blocks := d.blocks.set i (some g) } else x } : St) :=
      h.mapIdls rfl fun x hx => by
        split
        · exact ⟨d, List.mem_of_find?_eq_some hd, rfl⟩
        · exact ⟨x, hx, rfl⟩
    have hcl {x : M} (hx : Shrinks s₀ x.1) :
        Shrinks s₀ (onSt (closePeerM x k) fun s => { s with mayStartI := !s.info }).1 := (hx.closePeer k).of_eq rfl rfl rfl
    exact .ite (hcl h) (.ite (hcl h) (.ite (hcl h) (.ite (hs.updPeer k _ fun _ => .of_eq rfl rfl)
      (.ite (hcl hs) (hmdAdopt_shrinks _ hs)))))

theorem handleMetadataReject_shrinks (m : M) (k : Nat) (h : Shrinks s₀ m.1) :
    Shrinks s₀ (handleMetadataReject m k).1 :=
  .ite ((h.closePeer k).of_eq rfl rfl rfl) h

theorem handlePeerSnubbed_shrinks (m : M) (k : Nat) (h : Shrinks s₀ m.1) : Shrinks s₀ (handlePeerSnubbed m k).1 := by
  have hu := h.updPeer k (fun p => { p with snubbed := true }) fun _ => .of_eq rfl rfl
  unfold handlePeerSnubbed
  split
  · exact .ite h ((hu.updDl k (fun x => { x with snub := true }) fun _ => rfl).of_writes (startDls_writes _))
  · refine .ite (hu.mapIdls rfl fun x hx => ⟨x, hx, ?_⟩) h
    split <;> rfl
  · exact h

theorem handleVerifyCommand_shrinks (m : M) (h : Shrinks s₀ m.1) : Shrinks s₀ (handleVerifyCommand m).1 :=
  handleVerifyCommand_cases (P := fun x => Shrinks s₀ x.1) m (fun _ => h.of_writes (startCore_writes _)) fun _ => onSt_stop _ _ _ (h.stop _)

/-- `reconcile` (outside `step`) starts downloads; all it does to the peers is to clear `snubbed` of those that start
one. -/
theorem reconcile_peers_kept (s : St) (impl : List ImplDl) : ∀ q ∈ (reconcile s impl).1.peers, ∃ p ∈ s.peers, p.Kept q :=
  ((Shrinks.refl s).map (s' := { s with peers := (reconcile s impl).1.peers }) rfl fun p => by
    split <;> exact .of_eq rfl rfl).peers

/-- What survives shrinking survives the handler of every op except the two that do not shrink: the admission of a
peer and the extension handshake (which may start PEX). -/
theorem handle_of_shrinks {P : St → Prop} (hP : ∀ {t t'}, Shrinks t t' → P t → P t') (s : St) (p : Parked)
    (kn : Nat → Bool) (op : Op) (h : P s)
    (haccept : ∀ k ip fast ext bad, P (acceptPeer (s, []) k ip fast ext bad false).1.1)
    (hexths : ∀ k hm sz hp, P (handleExtHandshake (s, []) k hm sz hp).1) : P (handle s p kn op).1.1 :=
  have r := Shrinks.refl s
  handle_arms s p kn op (fun t _ _ _ _ _ _ _ _ _ _ => hP ((Shrinks.refl t).of_eq rfl rfl rfl)) h
    (hP (r.of_writes (start_writes _)) h) (hP (r.stop _) h)
    (fun _ => hP (handleVerifyCommand_shrinks _ (r.of_eq rfl rfl rfl)) h)
    (fun _ _ _ _ _ => hP (r.of_writes (mutate_writes ..)) h) (fun k ip fast ext bad _ => haccept k ip fast ext bad)
    (fun k i b l g _ _ => hP (handlePieceMessage_shrinks (s, []) k i b l g r) h)
    (fun k msg _ _ => hP (handlePeerMessage_shrinks (s, []) k msg r) h) (fun k hm sz hp _ => hexths k hm sz hp)
    (fun k i len g _ _ => hP (handleMetadataData_shrinks (s, []) k i len g r) h)
    (fun k _ => hP (handleMetadataReject_shrinks (s, []) k r) h) (fun _ _ => hP (r.of_writes (handlePex_writes ..)) h)
    (fun _ => hP (r.of_writes (handleDhtPeers_writes ..)) h) (fun k _ => hP (r.closePeer k) h)
    fun k _ => hP (handlePeerSnubbed_shrinks (s, []) k r) h

/-- After the handler a step only shrinks. -/
theorem step_of_shrinks {P : St → Prop} (hP : ∀ {t t'}, Shrinks t t' → P t → P t') (s : St) (p : Parked)
    (kn : Nat → Bool) (op : Op)
    (h : P (handle s.opStart p kn op).1.1) :
    P (step s p kn op).1.st :=
  step_inv s p kn op h (fun m => hP (runWorkers_shrinks 12 m (.refl _)))
    fun m k i b l g hm _ => hP (handlePieceMessage_shrinks m k i b l g (.refl _)) hm

theorem Shrinks.peers_nil (a : Shrinks s s') (h : s.peers = []) : s'.peers = [] := a.peers.nil h

theorem Shrinks.dls_nil (a : Shrinks s s') (h : s.dls = []) : s'.dls = [] := a.dls.nil h

/-- Only messages that need the metadata are queued (`QueueOK`, `LoopNoPanic`). -/
theorem Shrinks.queueOK (a : Shrinks s s') (h : ∀ p ∈ s.peers, ∀ msg ∈ p.queued, needsInfo msg = true) :
    ∀ p ∈ s'.peers, ∀ msg ∈ p.queued, needsInfo msg = true := fun q hq msg hm =>
  let ⟨p, hp, e⟩ := a.peers q hq
  (e.queued msg hm).elim (h p hp msg) id

/-! The three list clauses of `WFrame` (`LoopWInv`). -/

theorem Shrinks.widls (a : Shrinks s s') (h : s.idls = []) : s'.idls = [] := a.idls.nil h

theorem Shrinks.wq (a : Shrinks s s') :
    ∀ p' ∈ s'.peers, ∀ msg ∈ p'.queued, needsInfo msg = true ∨ ∃ p ∈ s.peers, msg ∈ p.queued := fun q hq msg hm =>
  let ⟨p, hp, e⟩ := a.peers q hq
  (e.queued msg hm).elim (fun h => .inr ⟨p, hp, h⟩) .inl

end Rain.Loop
