import RainModel.Model.AddrList
import RainModel.Lemmas.ListFacts
/-!
Helper lemmas for `Model/AddrList`: the representation invariant and its preservation by
`pushOne`, the post-sort part of `Push`, `Pop` and `Reset`.

`St.entries` is what the structure holds; under `Inv` the tree is its key list up to order
(`Inv.perm`) and under `Counts` the source counts are its counts.  The operations change
`peerByTime` in three ways only: a slot is overwritten (`Inv.write`: `Pop`, the eviction, the replace
branch of `Push`), a slot is appended (in `pushOne_inv`), or the whole list is rebuilt from the entries
in some order (`inv_of_list`: after the sort, after `filterNils`).
-/
namespace Rain.AddrList

def keys (l : List PA) : List Nat := l.map (·.prio)

def cnt (l : List PA) (x : Nat) : Int := ((l.filter (fun p => p.src = x)).length : Int)

/-- Representation invariant: the btree holds exactly the priorities of the non-nil slots, each
once, and every object's `index` is its position in `peerByTime`. -/
structure Inv (s : St) : Prop where
  sorted : s.tree.Pairwise (· < ·)
  mem : ∀ k, k ∈ s.tree ↔ k ∈ keys s.entries
  nodup : (keys s.entries).Nodup
  idx : ∀ (i : Nat) (p : PA), s.byTime[i]? = some (some p) → p.index = i

/-- `countBySource` is exact, up to the additions of the running `Push` (`off`). -/
def Counts (s : St) (off : Nat → Int) : Prop := ∀ x, s.counts x + off x = cnt s.entries x

theorem pairwise_lt_nodup {l : List Nat} (h : l.Pairwise (· < ·)) : l.Nodup :=
  h.imp (fun hab => Nat.ne_of_lt hab)

/-- The proofs below use the invariant in this form. -/
theorem Inv.perm {s : St} (h : Inv s) : s.tree.Perm (keys s.entries) :=
  (List.perm_ext_iff_of_nodup (pairwise_lt_nodup h.sorted) h.nodup).2 h.mem

theorem Inv.of_perm {s : St} (hs : s.tree.Pairwise (· < ·)) (hp : s.tree.Perm (keys s.entries))
    (hi : ∀ (i : Nat) (p : PA), s.byTime[i]? = some (some p) → p.index = i) : Inv s :=
  ⟨hs, fun _ => hp.mem_iff, hp.nodup_iff.1 (pairwise_lt_nodup hs), hi⟩

theorem len_eq_of {t : List Nat} {l : List PA} (hp : t.Perm (keys l)) : t.length = l.length := by
  rw [hp.length_eq]; simp [keys]

theorem set_of_getElem? {α : Type} {l : List α} {i : Nat} {a : α} (h : l[i]? = some a) :
    ∃ l1 l2, l = l1 ++ a :: l2 ∧ ∀ b, l.set i b = l1 ++ b :: l2 := by
  obtain ⟨hi, rfl⟩ := List.getElem?_eq_some_iff.1 h
  exact ⟨l.take i, l.drop (i + 1), by rw [List.getElem_cons_drop, List.take_append_drop],
    fun b => by rw [List.set_eq_take_append_cons_drop, if_pos hi]⟩

theorem mem_entries_iff {bt : List (Option PA)} {p : PA} :
    p ∈ bt.filterMap id ↔ ∃ i : Nat, bt[i]? = some (some p) := by
  rw [List.mem_filterMap]
  simp [List.mem_iff_getElem?]

theorem idx_set {bt : List (Option PA)} (h : ∀ (i : Nat) (p : PA), bt[i]? = some (some p) → p.index = i)
    {n : Nat} {v : Option PA} (hv : ∀ q, v = some q → q.index = n) :
    ∀ (i : Nat) (p : PA), (bt.set n v)[i]? = some (some p) → p.index = i := by
  intro i p hp
  rw [List.getElem?_set] at hp
  split at hp
  · rename_i e
    split at hp
    · exact e ▸ hv p (Option.some.inj hp)
    · cases hp
  · exact h i p hp

theorem keys_middle (e1 e2 : List PA) (p : PA) : (keys (e1 ++ p :: e2)).Perm (p.prio :: keys (e1 ++ e2)) :=
  List.perm_middle.map _

theorem mem_remove_middle {e1 e2 : List PA} {p : PA} (hn : (keys (e1 ++ p :: e2)).Nodup) (q : PA) :
    q ∈ e1 ++ e2 ↔ q ∈ e1 ++ p :: e2 ∧ q ≠ p := by
  have hp := (List.nodup_cons.1 ((keys_middle e1 e2 p).nodup_iff.1 hn)).1
  rw [List.perm_middle.mem_iff, List.mem_cons]
  exact ⟨fun hq => ⟨Or.inr hq, fun e => hp (e ▸ List.mem_map_of_mem hq)⟩, fun ⟨h, hne⟩ => h.resolve_left hne⟩

def ind (a x : Nat) : Int := if a = x then 1 else 0

theorem cnt_cons (p : PA) (l : List PA) (x : Nat) : cnt (p :: l) x = ind p.src x + cnt l x := by
  simp only [cnt, ind, List.filter_cons]
  by_cases h : p.src = x
  · simp only [h, decide_true, if_true, List.length_cons]; omega
  · simp only [h, decide_false, if_false]; simp

theorem cnt_append (l1 l2 : List PA) (x : Nat) : cnt (l1 ++ l2) x = cnt l1 x + cnt l2 x := by
  simp [cnt, List.filter_append]

theorem cnt_perm {l1 l2 : List PA} (h : l1.Perm l2) (x : Nat) : cnt l1 x = cnt l2 x := by
  simp only [cnt]
  rw [(h.filter _).length_eq]

theorem cnt_middle (e1 e2 : List PA) (p : PA) (x : Nat) :
    cnt (e1 ++ p :: e2) x = cnt (e1 ++ e2) x + ind p.src x := by
  rw [cnt_append, cnt_cons, cnt_append]
  omega

/-- Additions of the running `Push` not yet written to `countBySource`. -/
def off (src added : Nat) : Nat → Int := fun x => if src = x then (added : Int) else 0

theorem bump_ind (c : Nat → Int) (s : Nat) (d : Int) (x : Nat) : bump c s d x = c x + d * ind s x := by
  unfold bump ind
  by_cases h : x = s
  · subst h; simp
  · have : ¬ s = x := fun e => h e.symm
    simp [h, this]

theorem off_ind (src added x : Nat) : off src added x = added * ind src x := by
  unfold off ind
  split <;> simp

theorem off_succ (src added x : Nat) : off src (added + 1) x = off src added x + ind src x := by
  unfold off ind
  split <;> simp

theorem counts_add {c : Nat → Int} {src added : Nat} {e1 e2 : List PA} {p : PA}
    (h : ∀ x, c x + off src added x = cnt (e1 ++ e2) x) (hp : p.src = src) (x : Nat) :
    c x + off src (added + 1) x = cnt (e1 ++ p :: e2) x := by
  rw [cnt_middle, off_succ, hp, ← h x]
  omega

theorem Inv.deref {s : St} (hI : Inv s) {k : Nat} (hk : k ∈ s.tree) :
    ∃ p, deref s.byTime k = some p ∧ p.prio = k ∧ s.byTime[p.index]? = some (some p) := by
  obtain ⟨p, hd, hpk, hpm⟩ := find?_of_mem_map PA.prio ((hI.mem _).1 hk)
  obtain ⟨i, hi⟩ := mem_entries_iff.1 hpm
  exact ⟨p, hd, hpk, (hI.idx i p hi).symm ▸ hi⟩

/-- A slot write (`Pop`, the eviction, the replace branch of `Push`): `v` is nil or an object with `index = i`; the
counts afterwards are those of the entries without `v`. -/
theorem Inv.write {s : St} (hI : Inv s) {o : Nat → Int} (hC : Counts s o) {i : Nat} {p : PA}
    (hp : s.byTime[i]? = some (some p)) {v : Option PA} (hv : ∀ q, v = some q → q.index = i)
    {t' : List Nat} (hs : t'.Pairwise (· < ·)) (ht : (keys v.toList ++ s.tree).Perm (p.prio :: t')) :
    ∃ e1 e2, s.entries = e1 ++ p :: e2 ∧
      St.entries ⟨s.byTime.set i v, t', bump s.counts p.src (-1)⟩ = e1 ++ (v.toList ++ e2) ∧
      Inv ⟨s.byTime.set i v, t', bump s.counts p.src (-1)⟩ ∧
      ∀ x, bump s.counts p.src (-1) x + o x = cnt (e1 ++ e2) x := by
  obtain ⟨l1, l2, hl, hset⟩ := set_of_getElem? hp
  have hent0 : s.entries = l1.filterMap id ++ p :: l2.filterMap id := by
    simp [St.entries, hl, List.filterMap_append]
  have hent : St.entries ⟨s.byTime.set i v, t', bump s.counts p.src (-1)⟩ =
      l1.filterMap id ++ (v.toList ++ l2.filterMap id) := by
    show (s.byTime.set i v).filterMap id = _
    rw [hset]
    cases v <;> simp [List.filterMap_append]
  refine ⟨_, _, hent0, hent, .of_perm hs ?_ (idx_set hI.idx hv), fun x => ?_⟩
  · -- `p.prio :: t' ~ keys v ++ tree ~ keys v ++ p.prio :: keys (e1 ++ e2) ~ p.prio :: keys (e1 ++ v ++ e2)`
    have h1 := (hI.perm.trans (hent0 ▸ keys_middle _ _ p)).append_left (keys v.toList)
    have h2 := (ht.symm.trans (h1.trans List.perm_middle)).cons_inv
    rw [hent]
    cases v with
    | none => exact h2
    | some q => exact h2.trans (keys_middle _ _ q).symm
  · have := hC x
    rw [hent0, cnt_middle] at this
    rw [bump_ind]
    omega

theorem insertKey_spec (k : Nat) : ∀ (t : List Nat), t.Pairwise (· < ·) →
    (insertKey k t).1.Pairwise (· < ·) ∧ ((insertKey k t).2 = true ↔ k ∈ t) ∧
    (insertKey k t).1.Perm (if k ∈ t then t else k :: t) := by
  intro t
  induction t with
  | nil => intro _; simp [insertKey]
  | cons a t ih =>
    intro ht
    rw [List.pairwise_cons] at ht
    obtain ⟨i1, i2, i3⟩ := ih ht.2
    unfold insertKey
    by_cases h1 : k < a
    · have hk : k ∉ a :: t := by
        intro h
        rcases List.mem_cons.1 h with rfl | h
        · omega
        · have := ht.1 k h; omega
      simp only [h1, if_true, hk, if_false]
      refine ⟨List.pairwise_cons.2 ⟨?_, List.pairwise_cons.2 ht⟩, by simp, List.Perm.refl _⟩
      intro b hb
      rcases List.mem_cons.1 hb with rfl | hb
      · exact h1
      · exact Nat.lt_trans h1 (ht.1 b hb)
    · by_cases h2 : k = a
      · subst h2
        simp only [Nat.lt_irrefl, if_false, if_true, List.mem_cons_self]
        exact ⟨List.pairwise_cons.2 ht, by simp, List.Perm.refl _⟩
      · have hk : k ∈ a :: t ↔ k ∈ t := by simp [h2]
        simp only [h1, h2, if_false, hk]
        refine ⟨List.pairwise_cons.2 ⟨?_, i1⟩, i2, ?_⟩
        · intro b hb
          have hb := i3.mem_iff.1 hb
          split at hb
          · exact ht.1 b hb
          · rcases List.mem_cons.1 hb with rfl | hb
            · omega
            · exact ht.1 b hb
        · split
          · rename_i h; rw [if_pos h] at i3; exact i3.cons a
          · rename_i h; rw [if_neg h] at i3; exact (i3.cons a).trans (List.Perm.swap k a t)

theorem dropLast_spec {t : List Nat} {k : Nat} (hs : t.Pairwise (· < ·)) (hl : t.getLast? = some k) :
    (∀ x ∈ t, x ≤ k) ∧ t.dropLast.Pairwise (· < ·) ∧ t.Perm (k :: t.dropLast) := by
  obtain ⟨ys, rfl⟩ := List.getLast?_eq_some_iff.1 hl
  rw [List.pairwise_append] at hs
  obtain ⟨h1, _, h3⟩ := hs
  simp only [List.dropLast_concat]
  refine ⟨?_, h1, List.perm_append_singleton k ys⟩
  intro x hx
  rcases List.mem_append.1 hx with hx | hx
  · exact Nat.le_of_lt (h3 x hx k (by simp))
  · simp at hx; omega

theorem reindexFrom_length (i : Nat) (l : List PA) : (reindexFrom i l).length = l.length := by
  induction l generalizing i with
  | nil => rfl
  | cons a t ih => simp [reindexFrom, ih]

theorem map_reindexFrom {β : Type} (f : PA → β) (hf : ∀ p i, f { p with index := i } = f p) (i : Nat)
    (l : List PA) : (reindexFrom i l).map f = l.map f := by
  induction l generalizing i with
  | nil => rfl
  | cons a t ih => simp [reindexFrom, hf, ih]

theorem keys_reindexFrom (i : Nat) (l : List PA) : keys (reindexFrom i l) = keys l :=
  map_reindexFrom _ (fun _ _ => rfl) i l

theorem cnt_reindexFrom (i : Nat) (l : List PA) (x : Nat) : cnt (reindexFrom i l) x = cnt l x := by
  induction l generalizing i with
  | nil => rfl
  | cons a t ih => simp only [reindexFrom, cnt_cons, ih]

theorem reindexFrom_idx (n : Nat) (l : List PA) : ∀ i p, (reindexFrom n l)[i]? = some p → p.index = n + i := by
  induction l generalizing n with
  | nil => intro i p h; simp [reindexFrom] at h
  | cons a t ih =>
    intro i p h
    cases i with
    | zero => simp [reindexFrom] at h; subst h; rfl
    | succ j =>
      simp [reindexFrom] at h
      have := ih (n + 1) j p h
      omega

theorem stamps_reindexFrom (i : Nat) (l : List PA) :
    (reindexFrom i l).map (·.stamp) = l.map (·.stamp) :=
  map_reindexFrom _ (fun _ _ => rfl) i l

theorem forall_reindexFrom {P : PA → Prop} (hb : ∀ q i, P q → P { q with index := i }) {l : List PA}
    (h : ∀ q ∈ l, P q) (i : Nat) : ∀ q ∈ reindexFrom i l, P q := by
  induction l generalizing i with
  | nil => nofun
  | cons a t ih =>
    simp only [reindexFrom, List.forall_mem_cons] at h ⊢
    exact ⟨hb _ _ h.1, ih h.2 _⟩

/-- The length equation is the sync check of `Push`. -/
theorem inv_of_list {t : List Nat} {l : List PA} {c : Nat → Int} (hs : t.Pairwise (· < ·))
    (hp : t.Perm (keys l)) :
    Inv ⟨(reindexFrom 0 l).map some, t, c⟩ ∧ ((reindexFrom 0 l).map some).length = t.length ∧
      St.entries ⟨(reindexFrom 0 l).map some, t, c⟩ = reindexFrom 0 l := by
  have hent : St.entries ⟨(reindexFrom 0 l).map some, t, c⟩ = reindexFrom 0 l :=
    List.filterMap_map.trans List.filterMap_some
  refine ⟨.of_perm hs ?_ ?_, ?_, hent⟩
  · rw [hent, keys_reindexFrom]
    exact hp
  · intro i p h
    simp only [List.getElem?_map, Option.map_eq_some_iff] at h
    obtain ⟨q, hq, hqp⟩ := h
    have e : q = p := by simpa using hqp
    rw [← e]
    have := reindexFrom_idx 0 l i q hq
    omega
  · rw [List.length_map, reindexFrom_length, len_eq_of hp]

/-- The entries afterwards are old ones or the object made from `a`, said as an induction principle: what holds of
the old entries and of that object (whatever its `index`) holds of the new entries. -/
theorem pushOne_inv (env : Env) (src now : Nat) (s : St) (added : Nat) (a : Cand)
    (hI : Inv s) (hC : Counts s (off src added)) :
    ∃ s' added', pushOne env src now (s, added) a = .ok (s', added') ∧ Inv s' ∧
      Counts s' (off src added') ∧ ∀ P : PA → Prop, (∀ q ∈ s.entries, P q) →
        (filtered env a = false → ∀ i, P ⟨a.ip, a.port, src, a.prio, now, i⟩) → ∀ q ∈ s'.entries, P q := by
  by_cases hf : filtered env a = true
  · exact ⟨s, added, by simp [pushOne, hf], hI, hC, fun _ hP _ => hP⟩
  · have hf' : filtered env a = false := by simpa using hf
    obtain ⟨i2, i1, i3⟩ := insertKey_spec a.prio s.tree hI.sorted
    rcases hik : insertKey a.prio s.tree with ⟨t', b⟩
    rw [hik] at i1 i2 i3
    simp only at i1 i2 i3
    cases b with
    | false =>
      rw [if_neg (fun h => nomatch i1.2 h)] at i3
      let p : PA := ⟨a.ip, a.port, src, a.prio, now, s.byTime.length⟩
      have hent : ({ s with byTime := s.byTime ++ [some p], tree := t' } : St).entries = s.entries ++ [p] := by
        simp [St.entries, List.filterMap_append]
      refine ⟨{ s with byTime := s.byTime ++ [some p], tree := t' }, added + 1, ?_, .of_perm i2 ?_ ?_, ?_, ?_⟩
      · simp only [pushOne, hf', hik]
        rfl
      · show t'.Perm (keys _)
        rw [hent, keys, List.map_append]
        exact (i3.trans (hI.perm.cons _)).trans (List.perm_append_singleton _ _).symm
      · intro i q h
        simp only [List.getElem?_append] at h
        split at h
        · exact hI.idx i q h
        · rw [List.getElem?_singleton] at h
          split at h
          · cases h
            show s.byTime.length = i
            omega
          · cases h
      · intro x
        rw [hent]
        exact counts_add (src := src) (e2 := []) (by rw [List.append_nil]; exact hC) rfl x
      · intro P hP hnew
        rw [hent]
        exact List.forall_mem_append.2 ⟨hP, fun q hq => List.mem_singleton.1 hq ▸ hnew hf' _⟩
    | true =>
      have hk : a.prio ∈ s.tree := i1.1 rfl
      rw [if_pos hk] at i3
      obtain ⟨prev, hd, hpk, hslot⟩ := hI.deref hk
      obtain ⟨e1, e2, hent0, hent, hI', hC'⟩ := hI.write hC hslot
        (v := some ⟨a.ip, a.port, src, a.prio, now, prev.index⟩) (fun q h => by cases h; rfl) i2
        (by rw [hpk]; exact i3.symm.cons _)
      refine ⟨_, added + 1, ?_, hI', ?_, ?_⟩
      · simp only [pushOne, hf', hik, hd, (List.getElem?_eq_some_iff.1 hslot).1]
        rfl
      · intro x
        rw [hent]
        exact counts_add hC' rfl x
      · intro P hP hnew
        rw [hent]
        have ⟨h1, h2⟩ := List.forall_mem_append.1 (hent0 ▸ hP)
        exact List.forall_mem_append.2 ⟨h1, List.forall_mem_cons.2 ⟨hnew hf' _, (List.forall_mem_cons.1 h2).2⟩⟩

theorem pushLoop_inv (env : Env) (src now : Nat) : ∀ (addrs : List Cand) (s : St) (added : Nat),
    Inv s → Counts s (off src added) →
    ∃ s' added', pushLoop env src now addrs (s, added) = .ok (s', added') ∧ Inv s' ∧
      Counts s' (off src added') ∧ ∀ P : PA → Prop, (∀ q ∈ s.entries, P q) →
        (∀ a ∈ addrs, filtered env a = false → ∀ i, P ⟨a.ip, a.port, src, a.prio, now, i⟩) →
        ∀ q ∈ s'.entries, P q := by
  intro addrs
  induction addrs with
  | nil => exact fun s added hI hC => ⟨s, added, rfl, hI, hC, fun _ hP _ => hP⟩
  | cons a as ih =>
    intro s added hI hC
    obtain ⟨s1, a1, h1, hI1, hC1, hP1⟩ := pushOne_inv env src now s added a hI hC
    obtain ⟨s2, a2, h2, hI2, hC2, hP2⟩ := ih s1 a1 hI1 hC1
    exact ⟨s2, a2, by simp only [pushLoop, h1, h2], hI2, hC2, fun P hP hnew =>
      hP2 P (hP1 P hP (hnew a List.mem_cons_self)) fun c hc => hnew c (List.mem_cons_of_mem _ hc)⟩

theorem removeExcess_spec {o : Nat → Int} : ∀ (n i : Nat) (s : St), Inv s → Counts s o →
    (∀ j, i ≤ j → j < i + n → ∃ p, s.byTime[j]? = some (some p)) →
    ∃ s', removeExcess n i s = .ok s' ∧ Inv s' ∧ Counts s' o ∧ s'.tree.length + n = s.tree.length ∧
      ∀ q ∈ s'.entries, q ∈ s.entries := by
  intro n
  induction n with
  | zero => exact fun i s hI hC _ => ⟨s, rfl, hI, hC, rfl, fun _ h => h⟩
  | succ n ih =>
    intro i s hI hC hfull
    obtain ⟨x, hx⟩ := hfull i (Nat.le_refl _) (by omega)
    have hk : x.prio ∈ s.tree := (hI.mem _).2 (List.mem_map_of_mem (mem_entries_iff.2 ⟨i, hx⟩))
    obtain ⟨e1, e2, hent0, hent, hI', hC'⟩ := hI.write hC hx (v := none) nofun
      (hI.sorted.sublist List.erase_sublist) (List.perm_cons_erase hk)
    obtain ⟨s', h1, h2, h3, h4, h5⟩ := ih (i + 1) _ hI' (fun y => hent ▸ hC' y) fun j _ _ => by
      rw [List.getElem?_set_ne (by omega)]
      exact hfull j (by omega) (by omega)
    refine ⟨s', by simp only [removeExcess, hx]; exact h1, h2, h3, ?_, fun q hq => ?_⟩
    · have h4 : s'.tree.length + n = (s.tree.erase x.prio).length := h4
      rw [List.length_erase_of_mem hk] at h4
      have := List.length_pos_of_mem hk
      omega
    · have := h5 q hq
      rw [hent] at this
      rw [hent0]
      exact ((List.sublist_cons_self x e2).append_left e1).subset this

theorem pushFinish_spec (env : Env) (src : Nat) (s1 : St) (added : Nat) (sorted : List PA)
    (hI : Inv s1) (hC : Counts s1 (off src added)) (hA : Admissible (filterNils s1.byTime) sorted) :
    ∃ s3, pushFinish env src s1 sorted added = .ok s3 ∧ Inv s3 ∧ Counts s3 (fun _ => 0) ∧
      s3.tree.length ≤ env.maxItems ∧ s3.byTime.length = s3.tree.length ∧
      ∀ P : PA → Prop, (∀ q i, P q → P { q with index := i }) → (∀ q ∈ s1.entries, P q) →
        ∀ q ∈ s3.entries, P q := by
  have hperm : sorted.Perm (reindexFrom 0 s1.entries) := hA.1
  -- the sorted list, re-indexed, is a state of its own
  obtain ⟨hI2, hl2, hent2⟩ := inv_of_list (l := sorted) (c := bump s1.counts src added) hI.sorted
    (hI.perm.trans (by rw [← keys_reindexFrom 0 s1.entries]; exact (hperm.map _).symm))
  have hC2 : Counts ⟨(reindexFrom 0 sorted).map some, s1.tree, bump s1.counts src added⟩ (fun _ => 0) := by
    intro x
    rw [hent2, cnt_reindexFrom, cnt_perm hperm, cnt_reindexFrom, ← hC x]
    show bump s1.counts src added x + 0 = _
    rw [bump_ind, off_ind]
    omega
  have hP2 : ∀ P : PA → Prop, (∀ q i, P q → P { q with index := i }) → (∀ q ∈ s1.entries, P q) →
      ∀ q ∈ St.entries ⟨(reindexFrom 0 sorted).map some, s1.tree, bump s1.counts src added⟩, P q :=
    fun P hb hP => hent2.symm ▸
      forall_reindexFrom hb (fun q hq => forall_reindexFrom hb hP 0 q (hperm.subset hq)) 0
  unfold pushFinish
  simp only
  by_cases hd : s1.tree.length - env.maxItems > 0
  · rw [if_pos hd]
    obtain ⟨s2, h1, hI3, hC3, hl3, hsub⟩ := removeExcess_spec (s1.tree.length - env.maxItems) 0 _ hI2 hC2
      fun j _ hj => by
        have : j < ((reindexFrom 0 sorted).map some).length := by rw [hl2]; omega
        exact ⟨_, by rw [List.getElem?_eq_getElem this, List.getElem_map]⟩
    rw [h1]
    -- `filterNils` once more
    obtain ⟨hI4, hl4, hent4⟩ := inv_of_list (c := s2.counts) hI3.sorted hI3.perm
    simp only
    split
    · exact absurd hl4 ‹_›
    refine ⟨⟨(reindexFrom 0 s2.entries).map some, s2.tree, s2.counts⟩, rfl, hI4, fun x => ?_, ?_, hl4, ?_⟩
    · rw [hent4, cnt_reindexFrom]
      exact hC3 x
    · show s2.tree.length ≤ _
      have : s2.tree.length + (s1.tree.length - env.maxItems) = s1.tree.length := hl3
      omega
    · intro P hb hP
      rw [hent4]
      exact forall_reindexFrom hb (fun q hq => hP2 P hb hP q (hsub q hq)) 0
  · rw [if_neg hd]
    simp only
    rw [if_neg (fun h => h hl2)]
    exact ⟨_, rfl, hI2, hC2, by show s1.tree.length ≤ _; omega, hl2, hP2⟩

theorem pop_spec (s : St) (hI : Inv s) (hC : Counts s (fun _ => 0)) :
    ∃ r s', pop s = .ok (r, s') ∧ Inv s' ∧ Counts s' (fun _ => 0) ∧
      s'.byTime.length = s.byTime.length ∧ s'.tree.length ≤ s.tree.length ∧
      (r = none → s.tree = [] ∧ s' = s) ∧
      (∀ p, r = some p → p ∈ s.entries ∧ (∀ q ∈ s.entries, q.prio ≤ p.prio) ∧
        (∀ q, q ∈ s'.entries ↔ q ∈ s.entries ∧ q ≠ p) ∧ s'.tree.length + 1 = s.tree.length) := by
  unfold pop
  cases hl : s.tree.getLast? with
  | none =>
    refine ⟨none, s, rfl, hI, hC, rfl, Nat.le_refl _, fun _ => ⟨?_, rfl⟩, fun p h => by cases h⟩
    simpa using hl
  | some k =>
    obtain ⟨hmax, hdl, hdp⟩ := dropLast_spec hI.sorted hl
    have hlen : s.tree.dropLast.length + 1 = s.tree.length := hdp.length_eq.symm
    obtain ⟨p, hd, hpk, hslot⟩ := hI.deref (hdp.mem_iff.2 List.mem_cons_self)
    obtain ⟨e1, e2, hent0, hent, hI', hC'⟩ := hI.write hC hslot (v := none) nofun hdl
      (by rw [hpk]; exact hdp)
    refine ⟨some p, _, ?_, hI', fun x => hent ▸ hC' x, List.length_set,
      Nat.le_of_succ_le (Nat.le_of_eq hlen), (fun h => absurd h (by simp)), ?_⟩
    · simp [hd, (List.getElem?_eq_some_iff.1 hslot).1]
    · intro p' hp'
      cases hp'
      refine ⟨mem_entries_iff.2 ⟨_, hslot⟩, fun q hq => ?_, fun q => ?_, hlen⟩
      · have := hmax _ ((hI.mem _).2 (List.mem_map_of_mem hq))
        omega
      · rw [hent, hent0]
        exact mem_remove_middle (hent0 ▸ hI.nodup) q

theorem inv_empty : Inv ({} : St) := by
  refine ⟨by simp, by simp [St.entries, keys], by simp [St.entries, keys], ?_⟩
  intro i p h; simp at h

theorem counts_empty : Counts ({} : St) (fun _ => 0) := by
  intro x; simp [St.entries, cnt]

/-! ### the default sort is admissible -/

theorem insertByStamp_perm (p : PA) (l : List PA) : (insertByStamp p l).Perm (p :: l) := by
  induction l with
  | nil => exact List.Perm.refl _
  | cons q qs ih =>
    unfold insertByStamp
    split
    · exact List.Perm.refl _
    · exact (List.Perm.cons q ih).trans (List.Perm.swap p q qs)

theorem insertByStamp_sorted (p : PA) (l : List PA) (h : l.Pairwise (fun a b => a.stamp ≤ b.stamp)) :
    (insertByStamp p l).Pairwise (fun a b => a.stamp ≤ b.stamp) := by
  induction l with
  | nil => simp [insertByStamp]
  | cons q qs ih =>
    unfold insertByStamp
    rw [List.pairwise_cons] at h
    split
    · rename_i hlt
      refine List.pairwise_cons.2 ⟨?_, List.pairwise_cons.2 h⟩
      intro b hb
      rcases List.mem_cons.1 hb with rfl | hb
      · omega
      · have := h.1 b hb; omega
    · rename_i hge
      refine List.pairwise_cons.2 ⟨?_, ih h.2⟩
      intro b hb
      rcases List.mem_cons.1 ((insertByStamp_perm p qs).mem_iff.1 hb) with rfl | hb
      · omega
      · exact h.1 b hb

theorem foldl_insert_admissible : ∀ (l acc : List PA), acc.Pairwise (fun a b => a.stamp ≤ b.stamp) →
    (l.foldl (fun acc p => insertByStamp p acc) acc).Perm (l ++ acc) ∧
    (l.foldl (fun acc p => insertByStamp p acc) acc).Pairwise (fun a b => a.stamp ≤ b.stamp) := by
  intro l
  induction l with
  | nil => intro acc h; exact ⟨List.Perm.refl _, h⟩
  | cons p ps ih =>
    intro acc h
    obtain ⟨h1, h2⟩ := ih (insertByStamp p acc) (insertByStamp_sorted p acc h)
    refine ⟨h1.trans ?_, h2⟩
    have := (insertByStamp_perm p acc).append_left ps
    exact this.trans (List.perm_middle)

theorem stableSort_admissible (l : List PA) : Admissible l (stableSort l) := by
  obtain ⟨h1, h2⟩ := foldl_insert_admissible l [] (by simp)
  exact ⟨by simpa [stableSort] using h1, h2⟩

end Rain.AddrList
