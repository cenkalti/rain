import RainModel.Lemmas.PieceDownloader
import RainModel.Lemmas.LoopWInv
/-!
`CfgWF` for configurations whose block lists are computed from the piece layout by `calcBlocks` (M-BLK) —
which is how the driver's `parseNew` builds them: a piece for which `calcBlocks` returns no block has no
data section, because the blocks tile exactly the non-padding bytes (`Rain.PD.calcBlocks_mask_iff`).
-/
namespace Rain.Loop
open Rain.Blocks Rain.PD

/-- The block lists of a layout, as the driver computes them: `calcBlocks` (16 KiB) over the sections of
every piece (`Driver/Suites/Loop.lean`, `parseNew`). -/
def cfgBlocks (c : Cfg) : List (List (Nat × Nat)) :=
  (List.range c.n).map fun i =>
    let secs := (c.sections i).map fun sc => ({ len := sc.len, pad := c.fpads.getD sc.file false } : Rain.Blocks.Sec)
    match Rain.Blocks.calcBlocks 16384 secs with
    | some bl => bl.map fun b => (b.b, b.l)
    | none => []

theorem npAll_length (flens : List Nat) (pl length : Nat) (k : Nat) (c : NPCur) :
    (npAll flens pl length k c).length = k := by
  induction k generalizing c with
  | zero => rfl
  | succ k ih => unfold npAll; simp [ih]

theorem sections_of_ge (c : Cfg) (i : Nat) (h : c.n ≤ i) : c.sections i = [] := by
  unfold Cfg.sections
  rw [List.getD_eq_getElem?_getD, List.getElem?_eq_none (by rw [npAll_length]; exact h)]
  rfl

/-- No block ⇒ no data byte (`calcBlocks` tiles the non-padding bytes). -/
theorem calcBlocks_nil (secs : List Sec) (h : calcBlocks 16384 secs = some []) :
    ∀ s ∈ secs, s.len = 0 ∨ s.pad = true := by
  intro s hs
  by_cases hl : s.len = 0
  · exact .inl hl
  · cases hp : s.pad with
    | true => exact .inr rfl
    | false =>
      -- a data byte of `s` would be covered by a block
      have hmem : true ∈ secMask secs :=
        List.mem_flatMap.2 ⟨s, hs, List.mem_replicate.2 ⟨hl, by rw [hp]; rfl⟩⟩
      obtain ⟨i, hi⟩ := List.mem_iff_getElem?.1 hmem
      obtain ⟨b, hb, _⟩ := (calcBlocks_mask_iff (by decide) h i).1 hi
      cases hb

theorem cfgWF_of_blocks (c : Cfg) (h : c.blocks = cfgBlocks c) : CfgWF c := by
  intro i hi sc hsc
  by_cases hlt : i < c.n
  · rw [h] at hi
    unfold cfgBlocks at hi
    rw [List.getD_eq_getElem?_getD, List.getElem?_map, List.getElem?_range hlt] at hi
    simp only [Option.map_some, Option.getD_some] at hi
    split at hi
    · next bl hbl =>
      have hnil : bl = [] := by simpa using hi
      subst hnil
      have := calcBlocks_nil _ hbl { len := sc.len, pad := c.fpads.getD sc.file false }
        (List.mem_map.2 ⟨sc, hsc, rfl⟩)
      unfold Cfg.isData
      rcases this with h0 | hp
      · have h0' : sc.len = 0 := h0
        simp [h0']
      · have hp' : c.fpads.getD sc.file false = true := hp
        rw [hp']; rfl
    · next hnone =>
      -- `calcBlocks` refuses only an empty section list
      unfold calcBlocks at hnone
      split at hnone
      · next he =>
        have : c.sections i = [] := by simpa using he
        rw [this] at hsc; cases hsc
      · cases hnone
  · rw [sections_of_ge c i (Nat.le_of_not_lt hlt)] at hsc
    cases hsc

/-- A block ⇒ a data byte: the first byte of a block `calcBlocks` returns lies in a section that is not padding. -/
theorem calcBlocks_cons (secs : List Sec) (bl : List Block) (h : calcBlocks 16384 secs = some bl) (hne : bl ≠ []) :
    ∃ s ∈ secs, s.pad = false := by
  obtain ⟨b, hb⟩ := List.exists_mem_of_ne_nil bl hne
  have hpos := (calcBlocks_wf (by decide) h).pos b hb
  have hi := (calcBlocks_mask_iff (by decide) h b.b).2 ⟨b, hb, Nat.le_refl _, by omega⟩
  obtain ⟨s, hs, hm⟩ := List.mem_flatMap.1 (List.mem_of_getElem? hi)
  exact ⟨s, hs, by simpa using (List.mem_replicate.1 hm).2.symm⟩

theorem blocksHaveData_of_blocks (c : Cfg) (h : c.blocks = cfgBlocks c) : c.blocksHaveData = true := by
  unfold Cfg.blocksHaveData
  rw [List.all_eq_true]
  intro i hi
  have hlt : i < c.n := List.mem_range.1 hi
  rw [Bool.or_eq_true]
  by_cases he : (c.blocks.getD i []).isEmpty = true
  · exact Or.inl he
  · right
    rw [h] at he
    unfold cfgBlocks at he
    rw [List.getD_eq_getElem?_getD, List.getElem?_map, List.getElem?_range hlt] at he
    simp only [Option.map_some, Option.getD_some] at he
    split at he
    · next bl hbl =>
      have hne : bl ≠ [] := by
        intro hnil; subst hnil; simp at he
      obtain ⟨s, hs, hp⟩ := calcBlocks_cons _ bl hbl hne
      obtain ⟨sc, hsc, rfl⟩ := List.mem_map.1 hs
      rw [List.any_eq_true]
      exact ⟨sc, hsc, by simpa using hp⟩
    · simp at he

end Rain.Loop
