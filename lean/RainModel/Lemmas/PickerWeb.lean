import RainModel.Lemmas.Picker
/-! Web-seed bookkeeping of M-PICK.  The loops over a range have closed forms (`webSt`).  What the operations change are
`RequestedWebseed` fields and sources (`setWeb`), and the two web-seed clauses of the invariant (together `owner_iff`)
are carried through by `PickCore.updSrc`; `PickCore.shrinkSrc` is its instance for a source that gives up the end of its
range (`CloseWebseedDownloader`, `WebseedStopAt`, the downloader moving on).  Then `handlePieceWriteDone` (`cancelAll`). -/
namespace Rain.Picker

/-- Pieces `[lo, hi)` with `RequestedWebseed` set to `w`. -/
def webSt (s : State) (w : Option Nat) (lo hi : Nat) : State :=
  { s with pieces := fun j => if lo ≤ j ∧ j < hi then { s.pieces j with webseed := w } else s.pieces j }

@[simp] theorem webSt_pieces (s : State) (w : Option Nat) (lo hi j : Nat) :
    (webSt s w lo hi).pieces j = if lo ≤ j ∧ j < hi then { s.pieces j with webseed := w } else s.pieces j := rfl
@[simp] theorem webSt_n (s : State) (w : Option Nat) (lo hi : Nat) : (webSt s w lo hi).n = s.n := rfl
@[simp] theorem webSt_np (s : State) (w : Option Nat) (lo hi : Nat) : (webSt s w lo hi).np = s.np := rfl
@[simp] theorem webSt_ns (s : State) (w : Option Nat) (lo hi : Nat) : (webSt s w lo hi).ns = s.ns := rfl
@[simp] theorem webSt_peers (s : State) (w : Option Nat) (lo hi : Nat) : (webSt s w lo hi).peers = s.peers := rfl
@[simp] theorem webSt_srcs (s : State) (w : Option Nat) (lo hi : Nat) : (webSt s w lo hi).srcs = s.srcs := rfl
@[simp] theorem webSt_maxDup (s : State) (w : Option Nat) (lo hi : Nat) : (webSt s w lo hi).maxDup = s.maxDup := rfl
@[simp] theorem webSt_maxWeb (s : State) (w : Option Nat) (lo hi : Nat) : (webSt s w lo hi).maxWeb = s.maxWeb := rfl
@[simp] theorem webSt_available (s : State) (w : Option Nat) (lo hi : Nat) : (webSt s w lo hi).available = s.available := rfl
@[simp] theorem webSt_endgame (s : State) (w : Option Nat) (lo hi : Nat) : (webSt s w lo hi).endgame = s.endgame := rfl
@[simp] theorem webSt_sequential (s : State) (w : Option Nat) (lo hi : Nat) : (webSt s w lo hi).sequential = s.sequential := rfl

theorem webSt_empty (s : State) (w : Option Nat) (lo hi : Nat) (h : hi ≤ lo) : webSt s w lo hi = s := by
  unfold webSt
  have : (fun j => if lo ≤ j ∧ j < hi then { s.pieces j with webseed := w } else s.pieces j) = s.pieces := by
    funext j; split
    · omega
    · rfl
  rw [this]

theorem webSt_step (s : State) (w : Option Nat) (i hi : Nat) (h : i < hi) :
    webSt (setPiece s i { s.pieces i with webseed := w }) w (i + 1) hi = webSt s w i hi := by
  unfold webSt setPiece
  congr 1
  funext j
  by_cases h1 : j = i
  · subst h1; simp [h]
  · have : i + 1 ≤ j ∧ j < hi ↔ i ≤ j ∧ j < hi := by omega
    simp [h1, this]

/-- The loops run up to a fixed end `hi`: that it lies inside the torrent and what holds of the pieces below it does not
change on the way. -/
theorem clearRange_eq (k : Nat) (deref : Bool) {hi : Nat} : ∀ (fuel i : Nat) (s : State), i + fuel = hi → hi ≤ s.n →
    (∀ j, i ≤ j → j < hi → (s.pieces j).webseed = some k) → clearRange k deref fuel i s = .ok (webSt s none i hi)
  | 0, i, s, e, _, _ => by rw [clearRange, webSt_empty _ _ _ _ (Nat.le_of_eq e.symm : hi ≤ i)]
  | fuel + 1, i, s, e, hn, h => by
    have hlt : i < hi := by omega
    simp only [clearRange, Nat.lt_of_lt_of_le hlt hn, h i (Nat.le_refl _) hlt, if_true]
    rw [clearRange_eq k deref (hi := hi) fuel (i + 1) _ (by omega) (by exact hn), webSt_step _ _ _ _ hlt]
    intro j h1 h2
    simpa [Nat.ne_of_gt h1] using h j (Nat.le_of_succ_le h1) h2

theorem markRange_eq (k : Nat) {hi : Nat} : ∀ (fuel i : Nat) (s : State), i + fuel = hi → hi ≤ s.n →
    (∀ j, i ≤ j → j < hi → (s.pieces j).webseed = none) → markRange k fuel i s = .ok (webSt s (some k) i hi)
  | 0, i, s, e, _, _ => by rw [markRange, webSt_empty _ _ _ _ (Nat.le_of_eq e.symm : hi ≤ i)]
  | fuel + 1, i, s, e, hn, h => by
    have hlt : i < hi := by omega
    simp only [markRange, Nat.lt_of_lt_of_le hlt hn, h i (Nat.le_refl _) hlt, if_true, Option.isSome_none]
    simp only [Bool.false_eq_true, if_false]
    rw [markRange_eq k (hi := hi) fuel (i + 1) _ (by omega) (by exact hn), webSt_step _ _ _ _ hlt]
    intro j h1 h2
    simpa [Nat.ne_of_gt h1] using h j (Nat.le_of_succ_le h1) h2

def setWeb (s : State) (w : Nat → Option Nat) (srcs : Nat → Option Dl) : State :=
  { s with pieces := fun j => { s.pieces j with webseed := w j }, srcs := srcs }

/-- The clauses of `PickCore` that read neither unfold to the same statements about `s`, `WebOwner` and `SrcOk` to
statements about the two maps. -/
theorem PickCore.updWeb {s : State} (h : PickCore s) {w : Nat → Option Nat} {srcs : Nat → Option Dl}
    (hw : ∀ i, i < s.n → ∀ k ∈ w i, k < s.ns ∧ ∃ d ∈ srcs k, d.b ≤ i ∧ i < d.e)
    (hs : ∀ k, k < s.ns → ∀ d ∈ srcs k, d.b ≤ d.c ∧ d.c < d.e ∧ d.e ≤ s.n ∧ ∀ i, i < d.e → d.b ≤ i → w i = some k) :
    PickCore (setWeb s w srcs) :=
  ⟨h.nodup, h.reqSubHaving, h.stalled, h.dupLimit, h.reqDl, h.chokedOk, h.havingOpen, hw, h.dlReq,
   h.closedIdle, h.afRange, hs, h.avail, h.maxWeb⟩

theorem webSt_eq (s : State) (w : Option Nat) (lo hi : Nat) :
    webSt s w lo hi = setWeb s (fun j => if lo ≤ j ∧ j < hi then w else (s.pieces j).webseed) s.srcs := by
  unfold webSt setWeb
  congr 1
  funext j
  by_cases hc : lo ≤ j ∧ j < hi <;> simp [hc]

/-- `s1` differs from `s` at most in the end-game flag and the web-seed bookkeeping. -/
def SamePeers (s s1 : State) : Prop :=
  s1.n = s.n ∧ s1.np = s.np ∧ s1.peers = s.peers ∧ s1.maxDup = s.maxDup ∧ s1.sequential = s.sequential ∧
  ∀ j, (s1.pieces j).having = (s.pieces j).having ∧ (s1.pieces j).requested = (s.pieces j).requested ∧
    (s1.pieces j).done = (s.pieces j).done ∧ (s1.pieces j).writing = (s.pieces j).writing

theorem SamePeers.refl (s : State) : SamePeers s s := ⟨rfl, rfl, rfl, rfl, rfl, fun _ => ⟨rfl, rfl, rfl, rfl⟩⟩

theorem owner_iff {s : State} (ho : WebOwner s) (hs : SrcOk s) {i k : Nat} (hi : i < s.n) (hk : k < s.ns) :
    (s.pieces i).webseed = some k ↔ ∃ d ∈ s.srcs k, d.b ≤ i ∧ i < d.e :=
  ⟨fun hw => (ho i hi k hw).2, fun ⟨d, hd, h1, h2⟩ => (hs k hk d hd).2.2.2 i h2 h1⟩

/-- `hother`: the callers say what the pieces they change named before; that ranges of different sources are disjoint is
not needed. -/
theorem PickCore.updSrc {s : State} (h : PickCore s) {k : Nat} (hk : k < s.ns) {y : Option Dl} {w : Nat → Option Nat}
    (hy : ∀ d ∈ y, d.b ≤ d.c ∧ d.c < d.e ∧ d.e ≤ s.n ∧ ∀ i, i < d.e → d.b ≤ i → w i = some k)
    (hk' : ∀ i, i < s.n → w i = some k → ∃ d ∈ y, d.b ≤ i ∧ i < d.e)
    (hother : ∀ i, i < s.n → ∀ k', k' ≠ k → (w i = some k' ↔ (s.pieces i).webseed = some k')) :
    PickCore (setWeb s w fun j => if j = k then y else s.srcs j) := by
  refine h.updWeb (fun i hi k' hw => ?_) (fun k' hlt d hd => ?_) <;> by_cases e : k' = k
  · subst e; rw [if_pos rfl]; exact ⟨hk, hk' i hi hw⟩
  · rw [if_neg e]; exact h.webOwner i hi k' ((hother i hi k' e).mp hw)
  · subst e; rw [if_pos rfl] at hd; exact hy d hd
  · rw [if_neg e] at hd
    have := h.srcOk k' hlt d hd
    exact ⟨this.1, this.2.1, this.2.2.1, fun i h1 h2 =>
      (hother i (Nat.lt_of_lt_of_le h1 this.2.2.1) k' e).mpr (this.2.2.2 i h1 h2)⟩

/-- Source `k`, downloading `d`, gives up the pieces `[lo, d.e)` and goes on at piece `c` of the rest, or stops
(`c = none`) having given up its whole range. -/
theorem PickCore.shrinkSrc {s : State} (h : PickCore s) {k : Nat} (hk : k < s.ns) {d : Dl} (hd : s.srcs k = some d)
    {lo : Nat} (hle : lo ≤ d.e) {c : Option Nat} (hnone : c = none → lo = d.b) (hsome : ∀ x ∈ c, d.b ≤ x ∧ x < lo) :
    ∃ w srcs, setSrc (webSt s none lo d.e) k (c.map (⟨d.b, lo, ·⟩)) = setWeb s w srcs ∧ PickCore (setWeb s w srcs) ∧
      (∀ j, j ≠ k → srcs j = s.srcs j) ∧ ∀ j, lo ≤ j → j < d.e → w j = none := by
  rw [webSt_eq]
  refine ⟨_, _, rfl, ?_, fun j hj => if_neg hj, fun j h1 h2 => if_pos ⟨h1, h2⟩⟩
  have hen := (h.srcOk k hk d hd).2.2.1
  have hown : ∀ i, i < s.n → ((s.pieces i).webseed = some k ↔ d.b ≤ i ∧ i < d.e) := fun i hi =>
    (owner_iff h.webOwner h.srcOk hi hk).trans (by simp [hd])
  have hblo : d.b ≤ lo := by
    cases c with
    | none => exact Nat.le_of_eq (hnone rfl).symm
    | some x => exact Nat.le_of_lt (Nat.lt_of_le_of_lt (hsome x rfl).1 (hsome x rfl).2)
  refine h.updSrc hk (fun x hx => ?_) (fun i hin hi => ?_) (fun i hin k' hne => ?_)
  · obtain ⟨c0, hc0, rfl⟩ := Option.map_eq_some_iff.mp hx
    refine ⟨(hsome c0 hc0).1, (hsome c0 hc0).2, Nat.le_trans hle hen, fun i hi hbi => ?_⟩
    have hie := Nat.lt_of_lt_of_le hi hle
    rw [if_neg fun hc => Nat.lt_irrefl _ (Nat.lt_of_lt_of_le hi hc.1)]
    exact (hown i (Nat.lt_of_lt_of_le hie hen)).mpr ⟨hbi, hie⟩
  · -- a piece that still names `k` lies in `[d.b, lo)`, so the source goes on
    split at hi
    · cases hi
    · rename_i hc
      have := (hown i hin).mp hi
      cases c with
      | none => exact absurd ⟨hnone rfl ▸ this.1, this.2⟩ hc
      | some x => exact ⟨⟨d.b, lo, x⟩, rfl, this.1, Nat.lt_of_not_le fun hl => hc ⟨hl, this.2⟩⟩
  · -- the pieces given up named `k`, nobody else
    split
    · rename_i hc
      simp [(hown i hin).mpr ⟨Nat.le_trans hblo hc.1, hc.2⟩, hne.symm]
    · rfl

theorem step_wadv_inv (legacy : Bool) (s : State) (k : Nat) (h : PickInv s) : AllInv (step legacy s (.wadv k)) := by
  simp only [step]
  split
  · rename_i hk
    split
    · rename_i d hd
      split
      · rename_i hlt
        obtain ⟨w, srcs, e, hc, -⟩ := h.core.shrinkSrc hk hd (Nat.le_refl _) (c := some (d.c + 1)) nofun
          (by rintro _ ⟨⟩; exact ⟨Nat.le_succ_of_le (h.srcOk k hk d hd).1, hlt⟩)
        rw [webSt_empty _ _ _ _ (Nat.le_refl _)] at e
        exact .single (e ▸ hc.inv h.doneIdle)
      · exact .single h
    · exact .single h
  · exact .single h

/-- The state after `CloseWebseedDownloader(src)` for a downloading source. -/
def closeSt (s : State) (k : Nat) (d : Dl) : State := setSrc (webSt s none d.b d.e) k none

theorem closeWebseed_eq (s : State) (k : Nat) (d : Dl) (hd : s.srcs k = some d) (hbe : d.b ≤ d.e) (hen : d.e ≤ s.n)
    (hown : ∀ j, j < d.e → d.b ≤ j → (s.pieces j).webseed = some k) : closeWebseed s k = .ok (closeSt s k d) := by
  unfold closeWebseed closeSt
  simp only [hd]
  rw [clearRange_eq k false (d.e - d.b) d.b s (by omega) hen fun j h1 h2 => hown j h2 h1]
  rfl

/-- The state after `WebseedStopAt(src, i)` (`closed = decide (d.c ≥ i)`): the source goes on with `[d.b, i)`,
or is closed if it has got that far already. -/
def stopSt (s : State) (k : Nat) (d : Dl) (i : Nat) : State :=
  if d.c ≥ i then closeSt s k d else setSrc (webSt s none i d.e) k (some { d with e := i })

theorem closeSt_stop (s : State) (k : Nat) (d : Dl) (i : Nat) (hbi : d.b ≤ i) (hie : i ≤ d.e) :
    closeSt (setSrc (webSt s none i d.e) k (some { d with e := i })) k { d with e := i } = closeSt s k d := by
  unfold closeSt webSt setSrc
  congr 1 <;> funext j
  · by_cases h : d.b ≤ j ∧ j < i
    · have h1 : ¬(i ≤ j ∧ j < d.e) := fun h' => Nat.lt_irrefl _ (Nat.lt_of_lt_of_le h.2 h'.1)
      simp only [if_pos h, if_neg h1, if_pos (And.intro h.1 (Nat.lt_of_lt_of_le h.2 hie))]
    · by_cases h1 : i ≤ j ∧ j < d.e
      · simp only [if_neg h, if_pos h1, if_pos (And.intro (Nat.le_trans hbi h1.1) h1.2)]
      · have h2 : ¬(d.b ≤ j ∧ j < d.e) := by omega
        simp only [if_neg h, if_neg h1, if_neg h2]
  · by_cases h : j = k <;> simp [h]

theorem webseedStopAt_eq (s : State) (k : Nat) (d : Dl) (i : Nat) (hs : SrcOk s) (hk : k < s.ns)
    (hd : s.srcs k = some d) (hbi : d.b ≤ i) (hie : i ≤ d.e) :
    webseedStopAt s k i = .ok (stopSt s k d i, decide (d.c ≥ i)) := by
  obtain ⟨hbc, hce, hen, hown⟩ := hs k hk d hd
  unfold webseedStopAt stopSt
  simp only [hd]
  rw [clearRange_eq k true (d.e - i) i s (by omega) hen fun j h1 h2 => hown j h2 (Nat.le_trans hbi h1)]
  simp only [bind, Except.bind, pure, Except.pure]
  split
  · rename_i hci
    rw [closeWebseed_eq _ k { d with e := i } (by simp) hbi (by exact Nat.le_trans hie hen), closeSt_stop s k d i hbi hie]
    · simp [hci]
    · intro j h2 h1
      have : ¬ (i ≤ j ∧ j < d.e) := fun h => Nat.lt_irrefl _ (Nat.lt_of_lt_of_le h2 h.1)
      simpa [this] using hown j (Nat.lt_of_lt_of_le h2 hie) h1
  · rename_i hci; simp [hci]

theorem stopSt_spec {s : State} (h : PickCore s) {k : Nat} (hk : k < s.ns) {d : Dl} (hd : s.srcs k = some d) {i : Nat}
    (hie : i ≤ d.e) : ∃ w srcs, stopSt s k d i = setWeb s w srcs ∧ PickCore (setWeb s w srcs) ∧
      (∀ j, j ≠ k → srcs j = s.srcs j) ∧ ∀ j, i ≤ j → d.b ≤ j → j < d.e → w j = none := by
  have hb := h.srcOk k hk d hd
  unfold stopSt closeSt
  split
  · obtain ⟨w, srcs, e, hc, hne, hcl⟩ := h.shrinkSrc hk hd (Nat.le_trans hb.1 (Nat.le_of_lt hb.2.1)) (c := none)
      (fun _ => rfl) nofun
    exact ⟨w, srcs, e, hc, hne, fun j _ => hcl j⟩
  · rename_i hci
    obtain ⟨w, srcs, e, hc, hne, hcl⟩ := h.shrinkSrc hk hd hie (c := some d.c) nofun
      (by rintro _ ⟨⟩; exact ⟨hb.1, Nat.lt_of_not_le hci⟩)
    exact ⟨w, srcs, e, hc, hne, fun j h1 _ => hcl j h1⟩

theorem step_closeweb_inv (legacy : Bool) (s : State) (k : Nat) (h : PickInv s) :
    AllInv (step legacy s (.closeweb k)) := by
  simp only [step]
  split
  · rename_i hk
    cases hd : s.srcs k with
    | none => simp only [closeWebseed, hd]; exact .single h
    | some d =>
      obtain ⟨hbc, hce, hen, hown⟩ := h.srcOk k hk d hd
      rw [closeWebseed_eq s k d hd (by omega) hen hown]
      obtain ⟨w, srcs, e, hc, -⟩ := h.core.shrinkSrc hk hd (by omega) (c := none) (fun _ => rfl) nofun
      have := e ▸ hc.inv h.doneIdle
      exact .single this
  · exact .single h

theorem cancelState_peers_ne (s : State) (p q : Nat) (h : q ≠ p) : (cancelState s p).peers q = s.peers q := by
  unfold cancelState; split <;> simp [h]

theorem cancelState_requested (s : State) (p : Nat) (h : PickCore s) (hp : p < s.np) (j : Nat) (hj : j < s.n) :
    ∀ q ∈ ((cancelState s p).pieces j).requested, q ∈ (s.pieces j).requested ∧ q ≠ p := by
  intro q hq
  refine ⟨?_, fun e => ?_⟩
  · unfold cancelState at hq
    split at hq
    · exact hq
    · simp only [setPeer_pieces, setPiece_pieces] at hq
      split at hq
      · rename_i e; subst e; exact List.mem_of_mem_erase hq
      · exact hq
  · -- `p` has no downloader any more
    have := (cancelState_core s p h hp).reqDl j (by rw [cancelState_n]; exact hj) q hq
    rw [e, cancelState_dl] at this; cases this

/-- `DoneIdle` for every piece but `i`: the state inside `handlePieceWriteDone`. -/
def DoneIdleBut (s : State) (i : Nat) : Prop :=
  ∀ j, j < s.n → j ≠ i → (s.pieces j).done = true → (s.pieces j).requested = []

/-- `handlePieceWriteDone` closes the downloaders of the peers in `Requested i` one after the other (`l`: those still
to go): in the end `Requested i` is empty, which restores `DoneIdle`. -/
theorem cancelAll_inv {i : Nat} : ∀ (l : List Nat) (s : State), PickCore s → i < s.n → DoneIdleBut s i → l.Nodup →
    (∀ p ∈ l, p < s.np ∧ (s.peers p).dl ≠ none) → (∀ q ∈ (s.pieces i).requested, q ∈ l) →
    ∃ s', cancelAll s l = .ok s' ∧ PickInv s'
  | [], s, h, _, hd, _, _, hsub => ⟨s, rfl, h.inv fun j hj hdj => by
      by_cases e : j = i
      · exact List.eq_nil_iff_forall_not_mem.mpr fun q hq => nomatch hsub q (e ▸ hq)
      · exact hd j hj e hdj⟩
  | p :: rest, s, h, hi, hd, hnd, hl, hsub => by
    have hp := hl p (by simp)
    have hnd' := List.nodup_cons.mp hnd
    have hreq := cancelState_requested s p h hp.1
    simp only [cancelAll]
    cases hdl : (s.peers p).dl with
    | none => exact absurd hdl hp.2
    | some x =>
      simp only []
      rw [cancelPeer_eq s p h.dlReq hp.1]
      refine cancelAll_inv rest (cancelState s p) (cancelState_core s p h hp.1) (cancelState_n s p ▸ hi)
        (fun j hj hji hdj => ?_) hnd'.2
        (fun q hq => ?_) (fun q hq => ?_)
      · -- `Requested` only shrinks
        rw [cancelState_n] at hj
        rw [cancelState_done] at hdj
        refine List.eq_nil_iff_forall_not_mem.mpr fun q hq => ?_
        have := (hreq j hj q hq).1
        rw [hd j hj hji hdj] at this; cases this
      · rw [cancelState_peers_ne s p q fun e => hnd'.1 (e ▸ hq), cancelState_np]
        exact hl q (List.mem_cons_of_mem _ hq)
      · have := hreq i hi q hq
        exact (List.mem_cons.mp (hsub q this.1)).resolve_left this.2

theorem cancelAll_requested_inv {s : State} (h : PickCore s) {i : Nat} (hi : i < s.n) (hd : DoneIdleBut s i) :
    ∃ s', cancelAll s (s.pieces i).requested = .ok s' ∧ PickInv s' :=
  cancelAll_inv _ s h hi hd (h.nodup i hi).2.1 (fun p hp =>
    ⟨(h.havingOpen i hi p (h.reqSubHaving i hi p hp)).1, fun hnone => by
      have := h.reqDl i hi p hp
      rw [hnone] at this; cases this⟩) fun _ hq => hq

theorem step_wok_inv (legacy : Bool) (s : State) (i : Nat) (web : Bool) (h : PickInv s) :
    AllInv (step legacy s (.wok i web)) := by
  simp only [step]
  split
  · rename_i hpre
    -- the flags are set first: everything but `DoneIdle` for piece `i` survives
    have hc1 := setFlags_core h.core hpre.1 false true
    have hd1 : DoneIdleBut (setPiece s i { s.pieces i with writing := false, done := true }) i := by
      intro j hj hji
      simp only [setPiece_pieces, hji, if_false]
      exact h.doneIdle j hj
    have hi1 : i < (setPiece s i { s.pieces i with writing := false, done := true }).n := hpre.1
    generalize setPiece s i { s.pieces i with writing := false, done := true } = s1 at hc1 hd1 hi1 ⊢
    split
    · -- `WebseedStopAt`: the piece belonged to a web seed and was written by a peer
      rename_i k hk
      obtain ⟨hkn, d, hd, hbi, hie⟩ := hc1.webOwner i hi1 k hk
      rw [webseedStopAt_eq s1 k d i hc1.srcOk hkn hd hbi (Nat.le_of_lt hie)]
      obtain ⟨w, srcs, e, hc, -⟩ := stopSt_spec hc1 hkn hd (Nat.le_of_lt hie)
      obtain ⟨s', he, hI⟩ := cancelAll_requested_inv hc (i := i) hi1 hd1
      simp only [Except.map, Except.bind]
      rw [e, he]; exact .single hI
    · obtain ⟨s', he, hI⟩ := cancelAll_requested_inv hc1 hi1 hd1
      simp only [Except.bind]
      rw [he]; exact .single hI
  · exact .single h

end Rain.Picker
