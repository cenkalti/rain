import RainModel.Model.Geometry
/-! Helper lemmas for `newPieces_tiles`, `newPieces_steps_le` (C02). -/
namespace Rain.Geometry

theorem bytesOf_zero (i off : Nat) : bytesOf i off 0 = [] := by simp [bytesOf]

theorem bytesOf_add (i off a b : Nat) : bytesOf i off (a + b) = bytesOf i off a ++ bytesOf i (off + a) b := by
  unfold bytesOf
  rw [List.range_add, List.map_append, List.map_map]
  congr 1
  apply List.map_congr_left
  intro k _
  simp [Nat.add_assoc]

theorem length_bytesOf (i off n : Nat) : (bytesOf i off n).length = n := by simp [bytesOf]

theorem length_fileStreamFrom : ∀ (i : Nat) (fs : List FileEnt), (fileStreamFrom i fs).length = totalLen fs
  | _, [] => rfl
  | i, f :: fs => by simp [fileStreamFrom, totalLen, length_bytesOf, length_fileStreamFrom (i + 1) fs]

theorem secMetaOK_iff {files : List FileEnt} {s : Sec} : secMetaOK files s = true ↔
    ∃ f, files[s.file]? = some f ∧ s.pad = f.pad ∧ s.name = f.name ∧ s.off + s.len ≤ f.len := by
  unfold secMetaOK
  cases files[s.file]? <;> simp [and_assoc]

def remLen (c : Cur) : Nat := (c.cur.len - c.foff) + totalLen c.rest

/-- The `(file, offset)` stream still to be assigned at cursor `c`. -/
def rem (c : Cur) : List (Nat × Nat) :=
  bytesOf c.fi c.foff (c.cur.len - c.foff) ++ fileStreamFrom (c.fi + 1) c.rest

structure Inv (files : List FileEnt) (L : Nat) (c : Cur) : Prop where
  drop : files.drop c.fi = c.cur :: c.rest
  foff_le : c.foff ≤ c.cur.len
  total : c.total + remLen c = L

theorem length_rem (c : Cur) : (rem c).length = remLen c := by
  simp [rem, remLen, length_bytesOf, length_fileStreamFrom]

/-- `q` is where a cursor at `p` can be after moving on without emitting a byte. -/
def Reach (p q : Nat × Nat) : Prop := q = p ∨ (p.1 < q.1 ∧ q.2 = 0)

theorem Reach.refl (p : Nat × Nat) : Reach p p := Or.inl rfl

theorem Reach.trans {p q r : Nat × Nat} (h1 : Reach p q) (h2 : Reach q r) : Reach p r := by
  rcases h1 with rfl | ⟨h1, h1'⟩
  · exact h2
  · rcases h2 with rfl | ⟨h2, h2'⟩
    · exact Or.inr ⟨h1, h1'⟩
    · exact Or.inr ⟨by omega, h2'⟩

/-- The sections walk the files: each starts where the previous one ended or at offset 0 of a
later file; `q` is reachable from the end of the last. -/
def walkTo : Nat × Nat → List Sec → Nat × Nat → Prop
  | p, [], q => Reach p q
  | p, s :: r, q => Reach p (s.file, s.off) ∧ walkTo (s.file, s.off + s.len) r q

theorem walkTo_append : ∀ (a b : List Sec) (p r : Nat × Nat),
    walkTo p (a ++ b) r ↔ ∃ q, walkTo p a q ∧ walkTo q b r
  | [], b, p, r => ⟨fun h => ⟨p, Reach.refl p, h⟩, fun ⟨q, h1, h2⟩ => by
      cases b with
      | nil => exact Reach.trans h1 h2
      | cons s t => exact ⟨Reach.trans h1 h2.1, h2.2⟩⟩
  | s :: a, b, p, r => by
    simp only [List.cons_append, walkTo, walkTo_append a b, and_assoc, exists_and_left]

theorem Outcome.map_eq_ok {α β} (f : α → β) (o : Outcome α) (a : α) (h : o = .ok a) : o.map f = .ok (f a) := by
  subst h; rfl

@[simp] theorem totalLen_cons (f : FileEnt) (r : List FileEnt) : totalLen (f :: r) = f.len + totalLen r := by
  simp [totalLen]

@[simp] theorem totalLen_nil : totalLen [] = 0 := rfl

theorem allSecs_cons (p : Piece) (ps : List Piece) : allSecs (p :: ps) = p.secs ++ allSecs ps := by
  simp [allSecs]

theorem secStream_append (a b : List Sec) : secStream (a ++ b) = secStream a ++ secStream b := by
  simp [secStream]

/-- `ss` are the sections emitted on the way from cursor `c` to cursor `c'`. -/
structure Covers (files : List FileEnt) (c : Cur) (ss : List Sec) (c' : Cur) : Prop where
  stream : secStream ss ++ rem c' = rem c
  metas : ∀ s ∈ ss, secMetaOK files s = true
  walk : walkTo (c.fi, c.foff) ss (c'.fi, c'.foff)

theorem Covers.refl (files : List FileEnt) (c : Cur) : Covers files c [] c := ⟨rfl, nofun, Reach.refl _⟩

theorem Covers.trans {files : List FileEnt} {a b c : Cur} {x y : List Sec} (h1 : Covers files a x b)
    (h2 : Covers files b y c) : Covers files a (x ++ y) c where
  stream := by rw [secStream_append, List.append_assoc, h2.stream, h1.stream]
  metas := List.forall_mem_append.2 ⟨h1.metas, h2.metas⟩
  walk := (walkTo_append ..).2 ⟨_, h1.walk, h2.walk⟩

theorem length_secStream (ss : List Sec) : (secStream ss).length = secsLen ss := by
  simp [secStream, secsLen, List.length_flatMap, length_bytesOf]

theorem Covers.len {files : List FileEnt} {c c' : Cur} {ss : List Sec} (h : Covers files c ss c') :
    remLen c' + secsLen ss = remLen c := by
  rw [← length_rem, ← length_rem, ← h.stream, List.length_append, length_secStream, Nat.add_comm]

theorem Inv.move {files : List FileEnt} {L : Nat} {c c' : Cur} {ss : List Sec} (h : Inv files L c)
    (hc : Covers files c ss c') (hd : files.drop c'.fi = c'.cur :: c'.rest) (hf : c'.foff ≤ c'.cur.len)
    (ht : c'.total = c.total + secsLen ss) : Inv files L c' :=
  ⟨hd, hf, by have := h.total; have := hc.len; omega⟩

theorem fillPiece_left_zero (L fuel : Nat) (c : Cur) : fillPiece L (fuel + 1) 0 c = .ok ([], c, 0) := rfl

theorem secsLen_cons (s : Sec) (r : List Sec) : secsLen (s :: r) = s.len + secsLen r := by simp [secsLen]

/-- What one run of the inner loop does. On every input the fuel `rest.length + 2` is enough, because every iteration
but the last of a piece moves on to the next file (`st + |rest'| ≤ |rest| + 1`), and the only panic is `nextFile()` past
the last file, which the invariant excludes; under the invariant the sections cover what lies between the cursors. -/
theorem fillPiece_run {files : List FileEnt} {L : Nat} : ∀ (fuel left : Nat) (c : Cur),
    (left = 0 → 1 ≤ fuel) → (left ≠ 0 → c.rest.length + 2 ≤ fuel) →
    (fillPiece L fuel left c = .panic ∧ ¬ Inv files L c) ∨
    ∃ ss c' st, fillPiece L fuel left c = .ok (ss, c', st) ∧ st + c'.rest.length ≤ c.rest.length + 1 ∧
      (Inv files L c → Inv files L c' ∧ Covers files c ss c' ∧ secsLen ss ≤ left ∧ (secsLen ss = left ∨ remLen c' = 0)) := by
  intro fuel
  induction fuel with
  | zero =>
    intro left c h0 h1
    by_cases h : left = 0
    · exact absurd (h0 h) (by omega)
    · exact absurd (h1 h) (by omega)
  | succ fuel ih =>
    intro left c h0 h1
    unfold fillPiece
    by_cases hl : left = 0
    · rw [if_pos hl]
      exact .inr ⟨[], c, 0, rfl, by omega, fun hinv => ⟨hinv, Covers.refl files c, by simp [hl, secsLen]⟩⟩
    · rw [if_neg hl]
      have hfuel := h1 hl
      obtain ⟨fi, cur, rest, foff, total⟩ := c
      simp only [] at hfuel ⊢
      generalize hn : min left (cur.len - foff) = n
      have hnle : n ≤ cur.len - foff := by omega
      have hnl : n ≤ left := by omega
      have hfull : cur.len - (foff + n) ≠ 0 → n = left := by omega
      -- the section this iteration emits
      have hstep : Inv files L ⟨fi, cur, rest, foff, total⟩ →
          Covers files ⟨fi, cur, rest, foff, total⟩ [⟨fi, foff, n, cur.pad, cur.name⟩]
            ⟨fi, cur, rest, foff + n, total + n⟩ := by
        intro ⟨hdrop, hfoff, _⟩
        simp only [] at hdrop hfoff
        refine ⟨?_, List.forall_mem_singleton.2 ?_, Reach.refl _, Reach.refl _⟩
        · simp only [rem, secStream, List.flatMap_cons, List.flatMap_nil, List.append_nil]
          rw [Nat.sub_add_eq, ← List.append_assoc, ← bytesOf_add, Nat.add_sub_of_le hnle]
        · exact secMetaOK_iff.2 ⟨cur, by rw [← List.head?_drop, hdrop]; rfl, rfl, rfl, by simp only; omega⟩
      have hinv1 : Inv files L ⟨fi, cur, rest, foff, total⟩ → Inv files L ⟨fi, cur, rest, foff + n, total + n⟩ :=
        fun h => h.move (hstep h) h.drop (by have := h.foff_le; simp only [] at this ⊢; omega) rfl
      by_cases hbrk : total + n = L
      · -- break
        rw [if_pos hbrk]
        refine .inr ⟨_, _, 1, rfl, by simp only; omega, fun hinv => ⟨hinv1 hinv, hstep hinv, ?_⟩⟩
        have := (hinv1 hinv).total
        rw [hbrk] at this
        exact ⟨hnl, .inr (Nat.add_eq_left.1 this)⟩
      · rw [if_neg hbrk]
        by_cases hfl : cur.len - (foff + n) = 0
        · rw [if_pos hfl]
          -- nextFile(): under the invariant the rest cannot be empty; moving to its head emits nothing
          cases rest with
          | nil => exact .inl ⟨rfl, fun hinv => by have := hinv.total; simp [remLen] at this; omega⟩
          | cons f r =>
            simp only [List.length_cons] at hfuel ⊢
            have hmove : Covers files ⟨fi, cur, f :: r, foff + n, total + n⟩ [] ⟨fi + 1, f, r, 0, total + n⟩ :=
              ⟨by simp [rem, hfl, bytesOf_zero, fileStreamFrom, secStream], nofun, Or.inr ⟨by simp, rfl⟩⟩
            have hnext : Inv files L ⟨fi, cur, f :: r, foff, total⟩ → Inv files L ⟨fi + 1, f, r, 0, total + n⟩ :=
              fun hinv => (hinv1 hinv).move hmove (by rw [List.drop_add_one_eq_tail_drop, hinv.drop]; rfl) (Nat.zero_le _) rfl
            rcases ih (left - n) ⟨fi + 1, f, r, 0, total + n⟩ (by intro _; omega) (by intro _; simp only; omega) with
              ⟨hp, hni⟩ | ⟨ss, c', st, hrun, hst, hcor⟩
            · exact .inl ⟨by rw [hp]; rfl, fun hinv => hni (hnext hinv)⟩
            · refine .inr ⟨_, c', st + 1, Outcome.map_eq_ok _ _ _ hrun, by simp only [] at hst; omega, fun hinv => ?_⟩
              obtain ⟨hinv', hcov, hle, hend⟩ := hcor (hnext hinv)
              exact ⟨hinv', (hstep hinv).trans (hmove.trans hcov), Nat.add_le_of_le_sub' hnl hle,
                hend.imp (fun h => by rw [secsLen_cons, h]; exact Nat.add_sub_cancel' hnl) id⟩
        · rw [if_neg hfl]
          -- the file is not finished, so the piece is, and the recursive call returns at once
          obtain ⟨g, rfl⟩ : ∃ g, fuel = g + 1 := ⟨fuel - 1, by omega⟩
          rw [show left - n = 0 by rw [hfull hfl, Nat.sub_self], fillPiece_left_zero]
          exact .inr ⟨_, _, _, rfl, by simp only; omega, fun hinv => ⟨hinv1 hinv, hstep hinv, hnl, .inl (hfull hfl)⟩⟩

theorem fillPiece_spec {files : List FileEnt} {L : Nat} (pl : Nat) (c : Cur) (hinv : Inv files L c) :
    ∃ ss c' st, fillPiece L (c.rest.length + 2) pl c = .ok (ss, c', st) ∧ Inv files L c' ∧ Covers files c ss c' ∧
      secsLen ss ≤ pl ∧ (secsLen ss = pl ∨ remLen c' = 0) := by
  rcases fillPiece_run (files := files) (L := L) (c.rest.length + 2) pl c (by intro; omega) (by intro; omega) with
    ⟨_, hni⟩ | ⟨ss, c', st, hrun, _, hcor⟩
  · exact absurd hinv hni
  · exact ⟨ss, c', st, hrun, hcor hinv⟩

/-- The outer loop under the invariant: `k` pieces, where `k` is what is left divided by `pl` and rounded up, consume
exactly what is left. -/
theorem pieces_spec {files : List FileEnt} {L pl : Nat} : ∀ (k : Nat) (c : Cur), Inv files L c →
    remLen c ≤ k * pl → k * pl < remLen c + pl →
    ∃ ps st c', pieces pl L k c = .ok (ps, st) ∧ ps.length = k ∧
      Covers files c (allSecs ps) c' ∧ remLen c' = 0 ∧
      (∀ p ∈ ps, p.len = secsLen p.secs) ∧
      (0 < k → lensOK pl ps = true) ∧
      (ps.map (·.len)).sum = remLen c := by
  intro k
  induction k with
  | zero =>
    intro c _ h0 _
    have h0 : remLen c = 0 := by omega
    exact ⟨[], 0, c, rfl, rfl, Covers.refl files c, h0, nofun, by simp, by simp [h0]⟩
  | succ k ih =>
    intro c hinv hhi hlo
    rw [Nat.succ_mul] at hhi hlo
    obtain ⟨ss, c', st, hrun, hinv', hcov, hle, hend⟩ := fillPiece_spec pl c hinv
    have hrem := hcov.len
    obtain ⟨ps, st', c'', hrun', hlen, hcov', hz, hall, hlens, hsum'⟩ := ih c' hinv' (by omega) (by omega)
    refine ⟨{ len := secsLen ss, secs := ss } :: ps, st + st', c'', ?_, by simp [hlen],
      allSecs_cons _ _ ▸ hcov.trans hcov', hz, List.forall_mem_cons.2 ⟨rfl, hall⟩, ?_, ?_⟩
    · simp only [pieces, hrun, hrun']; rfl
    · -- the last piece takes what is left, every other one `pl` bytes
      intro _
      cases ps with
      | nil =>
        subst hlen
        simpa only [lensOK, Bool.and_eq_true, decide_eq_true_eq] using (⟨by omega, hle⟩ : 0 < secsLen ss ∧ _)
      | cons p r =>
        obtain ⟨j, rfl⟩ : ∃ j, k = j + 1 := ⟨r.length, hlen.symm⟩
        rw [Nat.succ_mul] at hlo
        simp only [lensOK, Bool.and_eq_true, beq_iff_eq]
        exact ⟨by omega, hlens (Nat.succ_pos j)⟩
    · simp only [List.map_cons, List.sum_cons, hsum']; omega

/-! ### termination and work bound, for every input (no well-formedness needed) -/

theorem Outcome.map_cases {α β} (f : α → β) (o : Outcome α) :
    (o = .panic ∧ o.map f = .panic) ∨ (o = .fuel ∧ o.map f = .fuel) ∨ ∃ a, o = .ok a ∧ o.map f = .ok (f a) := by
  cases o with
  | ok a => exact Or.inr (Or.inr ⟨a, rfl, rfl⟩)
  | panic => exact Or.inl ⟨rfl, rfl⟩
  | fuel => exact Or.inr (Or.inl ⟨rfl, rfl⟩)

theorem pieces_steps (pl L : Nat) : ∀ (k : Nat) (c : Cur),
    pieces pl L k c = .panic ∨ ∃ ps st, pieces pl L k c = .ok (ps, st) ∧ st ≤ c.rest.length + k := by
  intro k
  induction k with
  | zero => intro c; exact Or.inr ⟨[], 0, rfl, by omega⟩
  | succ k ih =>
    intro c
    rcases fillPiece_run (files := []) (L := L) (c.rest.length + 2) pl c (by intro; omega) (by intro; omega) with
      ⟨hp, _⟩ | ⟨ss, c', st, hrun, hst, _⟩
    · left; simp only [pieces, hp]
    · rcases ih c' with hp' | ⟨ps, st', hrun', hst'⟩
      · left; simp only [pieces, hrun, hp']
      · right
        exact ⟨{ len := (ss.map (·.len)).sum, secs := ss } :: ps, st + st', by simp only [pieces, hrun, hrun'], by omega⟩

theorem mem_allSecs {ps : List Piece} {s : Sec} : s ∈ allSecs ps ↔ ∃ p ∈ ps, s ∈ p.secs := List.mem_flatMap

theorem tilesFiles_iff {files : List FileEnt} {pl n L : Nat} {ps : List Piece} :
    TilesFiles files pl n L ps = true ↔
      ps.length = n ∧ secStream (allSecs ps) = fileStreamFrom 0 files ∧ (∀ p ∈ ps, p.len = secsLen p.secs) ∧
      lensOK pl ps = true ∧ (ps.map (·.len)).sum = L ∧ ∀ s ∈ allSecs ps, secMetaOK files s = true := by
  simp only [TilesFiles, Bool.and_eq_true, beq_iff_eq, List.all_eq_true, secsLen, and_assoc]

theorem newPieces_spec (files : List FileEnt) (pl n L : Nat) (h : WF files pl n L) :
    ∃ ps st, newPieces files pl n L = .ok (ps, st) ∧ TilesFiles files pl n L ps = true ∧
      ∃ q, walkTo (0, 0) (allSecs ps) q := by
  obtain ⟨hne, hsum, _, _, hn, hlo, hhi⟩ := h
  cases files with
  | nil => exact absurd rfl hne
  | cons f r =>
    have hinv : Inv (f :: r) L { fi := 0, cur := f, rest := r, foff := 0, total := 0 } :=
      ⟨rfl, by simp, by simpa [remLen] using hsum⟩
    have hrl : remLen { fi := 0, cur := f, rest := r, foff := 0, total := 0 } = L := by
      simpa [remLen] using hsum
    obtain ⟨m, rfl⟩ : ∃ m, n = m + 1 := ⟨n - 1, by omega⟩
    rw [Nat.add_sub_cancel] at hlo
    obtain ⟨ps, st, c', hrun, hlen, hcov, hz, hall, hlens, hsum'⟩ :=
      pieces_spec (files := f :: r) (L := L) (pl := pl) (m + 1) _ hinv (hrl ▸ hhi) (by rw [hrl, Nat.succ_mul]; omega)
    refine ⟨ps, st, hrun, tilesFiles_iff.2 ⟨hlen, ?_, hall, hlens hn, by rw [hsum', hrl], hcov.metas⟩, _, hcov.walk⟩
    rw [← List.append_nil (secStream _), ← List.eq_nil_of_length_eq_zero ((length_rem c').trans hz), hcov.stream]
    simp [rem, fileStreamFrom]

end Rain.Geometry
