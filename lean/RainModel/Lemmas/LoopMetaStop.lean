import RainModel.Lemmas.LoopHmd
import RainModel.Lemmas.LoopVerify
/-!
What the completion of a metadata download leaves behind (C04, C06, C13): a refused info dictionary
(`Config.MaxPieces`, private) and `StopAfterMetadata` end in `stop`; otherwise the allocator is started.
Also: `startPieceDownloaders` (`St.startDls`) does nothing at all while no pieces are loaded (the scenario of finding
C08-F5), and `closePeer` then grants no permission to start a download.
-/
namespace Rain.Loop

theorem stop_running_status (s : St) (e : Bool) (hr : Running s) : (s.stop e).status = .stopping :=
  (status_stopping_iff _).2 ⟨(stop_writes s e).errC.trans hr.1, stop_stopAnn_of_errC s e hr.1⟩

/-- **Refused** (more pieces than `Config.MaxPieces`, or private): `info` keeps its value, the torrent is
stopping with the error recorded, everything released. -/
theorem hmdAdopt_refused_fields (m : M) (h : m.1.cfg.n > m.1.cfg.maxPieces ∨ m.1.cfg.isPrivate = true)
    (hr : Running m.1) :
    (hmdAdopt m).1.info = m.1.info ∧ (hmdAdopt m).1.metaDone = m.1.metaDone ∧
    (hmdAdopt m).1.status = .stopping ∧ (hmdAdopt m).1.lastErr = true ∧
    (hmdAdopt m).1.allocator = false ∧ (hmdAdopt m).1.verifier = false ∧ (hmdAdopt m).1.loaded = false ∧
    (hmdAdopt m).1.peers = [] ∧ (hmdAdopt m).1.dls = [] ∧ (hmdAdopt m).1.idls = [] ∧
    (hmdAdopt m).1.panicked = m.1.panicked := by
  have hr' : Running ({ m.1 with idls := [] } : St) := hr
  have F := stopRun_fields ({ m.1 with idls := [] } : St) true
  rw [← hr'.stop_eq] at F
  rw [hmdAdopt_refused m h]
  refine ⟨(stop_writes _ _).info, (stop_writes _ _).metaDone, stop_running_status _ _ hr', F.lastErr, F.allocator,
    F.verifier, F.loaded, F.peers, F.dls, F.idls, ?_⟩
  rw [stop_panicked]

/-- **Accepted with `StopAfterMetadata`**: the metadata is adopted and the torrent is stopping without error;
no allocator, nothing loaded, no peers, no downloads. -/
theorem hmdAdopt_stopAfter_fields (m : M) (hn : m.1.cfg.n ≤ m.1.cfg.maxPieces) (hp : m.1.cfg.isPrivate = false)
    (hs : m.1.cfg.stopAfterMeta = true) (hr : Running m.1) :
    (hmdAdopt m).1.info = true ∧ (hmdAdopt m).1.metaDone = true ∧
    (hmdAdopt m).1.status = .stopping ∧ (hmdAdopt m).1.lastErr = false ∧
    (hmdAdopt m).1.allocator = false ∧ (hmdAdopt m).1.verifier = false ∧ (hmdAdopt m).1.loaded = false ∧
    (hmdAdopt m).1.peers = [] ∧ (hmdAdopt m).1.dls = [] ∧ (hmdAdopt m).1.idls = [] ∧
    (hmdAdopt m).1.mayStart = [] ∧ (hmdAdopt m).1.panicked = m.1.panicked := by
  have hr' : Running ({ m.1 with idls := [], info := true, metaDone := true } : St) := hr
  have F := stopRun_fields ({ m.1 with idls := [], info := true, metaDone := true } : St) false
  rw [← hr'.stop_eq] at F
  have heq : (hmdAdopt m).1 = ({ m.1 with idls := [], info := true, metaDone := true } : St).stop false := by
    rw [hmdAdopt_accepted m hn hp]
    unfold hmdStart
    have : (onSt m fun s => { s with idls := [], info := true, metaDone := true }).1.cfg.stopAfterMeta = true := hs
    rw [if_pos this]; rfl
  rw [heq]
  refine ⟨(stop_writes _ _).info, (stop_writes _ _).metaDone, stop_running_status _ _ hr', F.lastErr, F.allocator,
    F.verifier, F.loaded, F.peers, F.dls, F.idls, F.mayStart, ?_⟩
  rw [stop_panicked]

/-- **Accepted without `StopAfterMetadata`**: the metadata is adopted and the allocator is started (this is
the only outcome in which it is); `crash "allocator exists"` only if one was already running. -/
theorem hmdAdopt_started_fields (m : M) (hn : m.1.cfg.n ≤ m.1.cfg.maxPieces) (hp : m.1.cfg.isPrivate = false)
    (hs : m.1.cfg.stopAfterMeta = false) (hr : Running m.1) (ha : m.1.allocator = false) :
    (hmdAdopt m).1.info = true ∧ (hmdAdopt m).1.allocator = true ∧ (hmdAdopt m).1.status = .allocating ∧
    (hmdAdopt m).1.panicked = m.1.panicked := by
  rw [hmdAdopt_accepted m hn hp]
  exact hmdStart_cases (P := fun x => x.1.info = true ∧ x.1.allocator = true ∧ x.1.status = .allocating ∧
    x.1.panicked = m.1.panicked) _ (fun h => Bool.noConfusion (hs.symm.trans h)) fun _ => by
    simp [St.status, ha, hr.1, hr.2]

theorem hmdAdopt_allocator_only_if (m : M) (hr : Running m.1)
    (h : (hmdAdopt m).1.allocator = true) :
    m.1.cfg.n ≤ m.1.cfg.maxPieces ∧ m.1.cfg.isPrivate = false ∧ m.1.cfg.stopAfterMeta = false := by
  by_cases hn : m.1.cfg.n ≤ m.1.cfg.maxPieces
  · cases hp : m.1.cfg.isPrivate
    · cases hs : m.1.cfg.stopAfterMeta
      · exact ⟨hn, rfl, rfl⟩
      · have := (hmdAdopt_stopAfter_fields m hn hp hs hr).2.2.2.2.1
        rw [this] at h; cases h
    · have := (hmdAdopt_refused_fields m (Or.inr hp) hr).2.2.2.2.1
      rw [this] at h; cases h
  · have := (hmdAdopt_refused_fields m (Or.inl (by omega)) hr).2.2.2.2.1
    rw [this] at h; cases h

theorem handle_metadata_eq (s : St) (p : Parked) (kn : Nat → Bool) (k i len : Nat) (good : Bool)
    (hk : (s.findPeer k).isSome = true) :
    (handle s p kn (.metadata k i len good)).1 = handleMetadataData (s, []) k i len good := by
  unfold handle
  have : ¬ (s.findPeer k).isNone = true := by
    cases hf : s.findPeer k <;> simp [hf] at hk ⊢
  simp only [this]
  rfl

/-- The step in which a metadata download completes with the right hash and the handler stops the torrent
(info dictionary refused, or `StopAfterMetadata`): afterwards the torrent is stopped (or stopping behind a
hanging tracker), `info` is what the handler left, no verify is pending. -/
theorem step_metadata_ends (s : St) (p : Parked) (kn : Nat → Bool) (d : IDl) (k i len : Nat) (good : Bool)
    (h : Life s) (hpan : s.panicked = none) (hdv : s.doVerify = false)
    (hk : (s.findPeer k).isSome = true) (hc : HmdComplete (s, []) d k i len good)
    (hcase : (s.cfg.n > s.cfg.maxPieces ∨ s.cfg.isPrivate = true) ∨
      (s.cfg.n ≤ s.cfg.maxPieces ∧ s.cfg.isPrivate = false ∧ s.cfg.stopAfterMeta = true)) :
    Ends s.stopHang false (step s p kn (.metadata k i len good)).1.st ∧
    (step s p kn (.metadata k i len good)).1.st.info =
      (if s.cfg.n > s.cfg.maxPieces ∨ s.cfg.isPrivate = true then s.info else true) := by
  have hr : Running (hmdStored (s.opStart, []) d k i good).1 := h.running_of_peer hk
  have heq := handle_metadata_eq s.opStart p kn k i len good hk
  rw [handleMetadataData_complete (s.opStart, []) d k i len good hc] at heq
  -- the handler leaves the torrent stopping, unpanicked, with `info` as the outcome says
  have key : (hmdAdopt (hmdStored (s.opStart, []) d k i good)).1.panicked = none ∧
      (hmdAdopt (hmdStored (s.opStart, []) d k i good)).1.stopAnn = true ∧
      (hmdAdopt (hmdStored (s.opStart, []) d k i good)).1.info =
        (if s.cfg.n > s.cfg.maxPieces ∨ s.cfg.isPrivate = true then s.info else true) := by
    rcases hcase with hc1 | ⟨hn, hp, hs⟩
    · obtain ⟨f1, _, f3, _, _, _, _, _, _, _, f11⟩ := hmdAdopt_refused_fields _ hc1 hr
      exact ⟨f11.trans hpan, ((status_stopping_iff _).1 f3).2, by rw [f1, if_pos hc1]; rfl⟩
    · obtain ⟨f1, _, f3, _, _, _, _, _, _, _, _, f12⟩ := hmdAdopt_stopAfter_fields _ hn hp hs hr
      exact ⟨f12.trans hpan, ((status_stopping_iff _).1 f3).2,
        by rw [f1, if_neg fun h1 => h1.elim (Nat.not_lt.2 hn) fun h1 => Bool.noConfusion (hp.symm.trans h1)]⟩
  have hl := handle_life _ p kn (.metadata k i len good) h.opStart
  have hw : Winding (handle s.opStart p kn (.metadata k i len good)).1.1 := by
    rw [heq] at hl ⊢
    exact .of_quiet hl key.1 (hmdAdopt_doVerify_false _ hdv) (.inr key.2.1)
  refine ⟨?_, by rw [step_st_quiet s p kn _ hl (runWorkers_winds 8 _ hw).not_running, runWorkers_info, heq, key.2.2]⟩
  have he := step_winds s p kn _ hw
  rwa [heq, hmdAdopt_doVerify_false _ hdv, Bool.and_false,
    show (hmdAdopt (hmdStored (s.opStart, []) d k i good)).1.stopHang = s.stopHang by simp [hmdStored, St.opStart]] at he

/-- Between events a torrent whose pieces are not loaded is never `Downloading`. -/
theorem Life.not_downloading_unloaded {s : St} (h : Life s) (hl : s.loaded = false) : s.status ≠ .downloading :=
  fun hs => Bool.noConfusion (hl.symm.trans (h.files_of_running (.inl hs)).1)

/-- `startPieceDownloaders` does nothing unless the status is `Downloading`… -/
theorem startDls_noop_of_status (s : St) (h : s.status ≠ .downloading) : s.startDls = s := by
  unfold St.startDls
  simp [h]

/-- … nor while nothing is loaded, in ANY state (the guard `piecePicker == nil`, fix for finding C08-F5). -/
theorem startDls_noop_of_unloaded (s : St) (h : s.loaded = false) : s.startDls = s := by
  unfold St.startDls
  simp [h]

/-- Closing a peer (which ends with `startPieceDownloaders`, fix C10-F1) while the status is not `Downloading`
grants no permission to start a piece download.  (`closePeer_dls_idls_subset`, `Lemmas/LoopShrink.lean`: it never
creates a download in any state — in the model downloads only come from `reconcile`, and `admissibleStart`
demands loaded pieces.) -/
theorem closePeer_mayStart_of_status (s : St) (k : Nat) (h : s.status ≠ .downloading) :
    ∀ x ∈ (s.closePeer k).mayStart, x ∈ s.mayStart := by
  unfold St.closePeer
  split
  · exact fun x hx => hx
  · dsimp only
    intro x hx
    rw [startDls_noop_of_status] at hx
    · have h1 : x ∈ (s.closeDl k).mayStart.filter (fun y => decide (y ≠ k)) := by
        split at hx <;> exact hx
      have h2 := (List.mem_filter.1 h1).1
      rwa [(closeDl_writes s k).mayStart] at h2
    · intro hs
      have hs' : (s.closeDl k).status = .downloading := hs
      rw [(closeDl_writes s k).status] at hs'
      exact h hs'

end Rain.Loop
