import RainModel.Model.Admission
import RainModel.Lemmas.AddrList
/-!
Helper lemmas for `Model/Admission`: the loop of `dialAddresses`.
-/
namespace Rain.Admission
open Rain.AddrList

/-- `Good` of `Props/C18` (which imports this file) without its bound on the slots of `peerByTime`. -/
structure QGood (max : Nat) (q : St) : Prop where
  inv : Inv q
  counts : Counts q (fun _ => 0)
  bound : q.tree.length ≤ max

theorem ite_skip {α : Type} {c1 c2 c3 : Prop} [Decidable c1] [Decidable c2] [Decidable c3] {x y : α}
    (h : c1 ∨ c2 ∨ c3) : (if c1 then x else if c2 then x else if c3 then x else y) = x := by
  by_cases h1 : c1
  · rw [if_pos h1]
  · by_cases h2 : c2
    · rw [if_neg h1, if_pos h2]
    · rw [if_neg h1, if_neg h2, if_pos (h.resolve_left h1 |>.resolve_left h2)]

/-- What `dialAddresses` does between `s` and `s'` when it hands `new` to outgoing handshakers. -/
structure Dialled (cfg : Cfg) (blocked : Nat → Bool) (s s' : State) (new : List Addr) : Prop where
  banned : s'.banned = s.banned
  connected : ∀ x, x ∈ s'.connected ↔ x ∈ s.connected ∨ x ∈ new.map (·.1)
  admitted : ∀ a ∈ new, (∃ q ∈ s.queue.entries, q.ip = a.1 ∧ q.port = a.2) ∧ a.1 ∉ s.connected ∧
    (cfg.checkBan = true → a.1 ∉ s.banned) ∧
    (cfg.recheckBlocklist = true → cfg.blOutgoing = true → blocked a.1 = false)
  nodup : (new.map (·.1)).Nodup
  cap : s.outgoing.length ≤ cfg.maxPeerDial → s'.outgoing.length ≤ cfg.maxPeerDial
  slots : s'.queue.byTime.length = s.queue.byTime.length
  connNodup : s.connected.Nodup → s'.connected.Nodup

theorem Dialled.refl {cfg : Cfg} {blocked : Nat → Bool} {s s' : State} (hq : s'.queue = s.queue)
    (hb : s'.banned = s.banned) (hc : s'.connected = s.connected) (ho : s'.outgoing = s.outgoing) :
    Dialled cfg blocked s s' [] :=
  ⟨hb, by simp [hc], nofun, List.nodup_nil, by simp [ho], by rw [hq], by simp [hc]⟩

theorem dialLoop_spec (cfg : Cfg) (blocked : Nat → Bool) (max : Nat) :
    ∀ (fuel : Nat) (s : State) (d : List Addr), QGood max s.queue → s.queue.len < fuel →
    ∃ s' new, dialLoop cfg blocked fuel s d = .ok (s', d ++ new) ∧ QGood max s'.queue ∧
      Dialled cfg blocked s s' new := by
  intro fuel
  induction fuel with
  | zero => intro s d _ h; omega
  | succ f ih =>
    intro s d hg hf
    unfold dialLoop
    by_cases hcap : s.outgoing.length < cfg.maxPeerDial
    · rw [if_pos hcap]
      obtain ⟨r, q', hp, hI', hC', hslots, hle, hn, hs⟩ := pop_spec s.queue hg.inv hg.counts
      have hg' : QGood max q' := ⟨hI', hC', Nat.le_trans hle hg.bound⟩
      rw [hp]
      cases r with
      | none => exact ⟨{ s with queue := q', needMore := true }, [], by simp, hg', .refl (hn rfl).2 rfl rfl rfl⟩
      | some a =>
        obtain ⟨ha, _, hem, hlen⟩ := hs a rfl
        have hsub : ∀ x ∈ q'.entries, x ∈ s.queue.entries := fun x hx => ((hem x).1 hx).1
        have hf' : q'.len < f := by simp only [St.len] at hf ⊢; omega
        simp only
        by_cases hskip : s.connected.contains a.ip = true ∨ (cfg.checkBan && s.banned.contains a.ip) = true ∨
            (cfg.recheckBlocklist && cfg.blOutgoing && blocked a.ip) = true
        · -- one of the three `continue` branches: go on from the state with the popped queue
          rw [ite_skip hskip]
          obtain ⟨s', new, h1, h2, h⟩ := ih { s with queue := q' } d hg' hf'
          exact ⟨s', new, h1, h2, h.banned, h.connected,
            fun b hb => (h.admitted b hb).imp_left fun ⟨q, hq, e⟩ => ⟨q, hsub q hq, e⟩,
            h.nodup, h.cap, h.slots.trans hslots, h.connNodup⟩
        · obtain ⟨hc, hskip⟩ := not_or.1 hskip
          obtain ⟨hb, hbl⟩ := not_or.1 hskip
          rw [if_neg hc, if_neg hb, if_neg hbl]
          have hc' : a.ip ∉ s.connected := by simpa using hc
          obtain ⟨s', new, h1, h2, h⟩ :=
            ih { s with queue := q', outgoing := s.outgoing ++ [(a.ip, a.port)],
                        connected := a.ip :: s.connected } (d ++ [(a.ip, a.port)]) hg' hf'
          refine ⟨s', (a.ip, a.port) :: new, ?_, h2, h.banned, ?_, ?_, ?_, ?_,
            h.slots.trans hslots, fun hn => h.connNodup (List.nodup_cons.2 ⟨hc', hn⟩)⟩
          · rw [h1]; simp
          · intro x
            rw [h.connected x]
            simp only [List.mem_cons, List.map_cons]
            exact or_assoc.trans or_left_comm
          · intro b hb'
            rcases List.mem_cons.1 hb' with rfl | hb'
            · exact ⟨⟨a, ha, rfl, rfl⟩, hc', fun hcb hm => hb (by simp [hcb, hm]), fun h1 h2 => by simpa [h1, h2] using hbl⟩
            · obtain ⟨⟨q, hq, e⟩, r2, r3, r4⟩ := h.admitted b hb'
              refine ⟨⟨q, hsub q hq, e⟩, ?_, r3, r4⟩
              intro hm; exact r2 (List.mem_cons_of_mem _ hm)
          · simp only [List.map_cons]
            refine List.nodup_cons.2 ⟨?_, h.nodup⟩
            intro hm
            obtain ⟨b, hb', e⟩ := List.mem_map.1 hm
            have := (h.admitted b hb').2.1
            apply this
            rw [e]; simp
          · intro _
            apply h.cap
            simp; omega
    · rw [if_neg hcap]
      exact ⟨s, [], by simp, hg, .refl rfl rfl rfl rfl⟩

theorem dialAddresses_spec (cfg : Cfg) (blocked : Nat → Bool) {max : Nat} (s : State) (hg : QGood max s.queue) :
    ∃ s' new, dialAddresses cfg blocked s = .ok (s', new) ∧ QGood max s'.queue ∧ Dialled cfg blocked s s' new ∧
      (s.completed = true → new = []) := by
  unfold dialAddresses
  by_cases hc : s.completed = true
  · rw [if_pos hc]
    exact ⟨s, [], rfl, hg, .refl rfl rfl rfl rfl, fun _ => rfl⟩
  · rw [if_neg hc]
    obtain ⟨s', new, h1, h2, h⟩ := dialLoop_spec cfg blocked max (s.queue.len + 1) s [] hg (Nat.lt_succ_self _)
    exact ⟨s', new, h1, h2, h, fun h => absurd h hc⟩

theorem handleNewConnection_cases (cfg : Cfg) (blocked : Nat → Bool) (s : State) (ip : Nat) :
    (∃ v, handleNewConnection cfg blocked s ip = (s, v) ∧ v ≠ .accept ∧
      (cfg.maxPeerAccept ≤ s.incoming.length ∨ (cfg.blIncoming = true ∧ blocked ip = true) ∨
        ip ∈ s.connected ∨ ip ∈ s.banned)) ∨
    (s.incoming.length < cfg.maxPeerAccept ∧ ¬ (cfg.blIncoming = true ∧ blocked ip = true) ∧
      ip ∉ s.connected ∧ ip ∉ s.banned ∧ handleNewConnection cfg blocked s ip =
        ({ s with incoming := s.incoming ++ [ip], connected := ip :: s.connected }, .accept)) := by
  unfold handleNewConnection
  by_cases h1 : s.incoming.length ≥ cfg.maxPeerAccept
  · rw [if_pos h1]; exact Or.inl ⟨.limit, rfl, nofun, Or.inl h1⟩
  · rw [if_neg h1]
    by_cases h2 : (cfg.blIncoming && blocked ip) = true
    · rw [if_pos h2]; exact Or.inl ⟨.blocked, rfl, nofun, Or.inr (Or.inl (by simpa using h2))⟩
    · rw [if_neg h2]
      by_cases hc : s.connected.contains ip = true
      · rw [if_pos hc]; exact Or.inl ⟨.duplicate, rfl, nofun, Or.inr (Or.inr (Or.inl (by simpa using hc)))⟩
      · rw [if_neg hc]
        by_cases hb : s.banned.contains ip = true
        · rw [if_pos hb]; exact Or.inl ⟨.banned, rfl, nofun, Or.inr (Or.inr (Or.inr (by simpa using hb)))⟩
        · rw [if_neg hb]
          exact Or.inr ⟨Nat.lt_of_not_ge h1, by simpa using h2, by simpa using hc, by simpa using hb, rfl⟩

end Rain.Admission
