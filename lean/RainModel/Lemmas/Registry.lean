import RainModel.Model.Registry
import RainModel.Lemmas.ListFacts
/-!
For C14: lookups in the registry and the database, and the inductive invariant of the registry machine, `Inv` with
`DInv` for the records that do not load, with what it implies (preserved by every `tame` step: `good_step` in
`RegistryDead.lean`).
-/
namespace Rain.Registry
open List

theorem find?_key_of_mem {α β : Type} [DecidableEq β] (f : α → β) {l : List α} {a : α} (hn : (l.map f).Nodup)
    (ha : a ∈ l) : l.find? (fun x => f x == f a) = some a := by
  obtain ⟨b, h, hb, hm⟩ := find?_of_mem_map f (List.mem_map_of_mem (f := f) ha)
  rw [h, eq_of_nodup_map f hn hm ha hb]

theorem perm_cons_filter_ne {α β : Type} [DecidableEq β] (f : α → β) :
    ∀ (l : List α) (t : α), (l.map f).Nodup → t ∈ l → l.Perm (t :: l.filter (fun x => f x != f t))
  | [], _, _, h => by cases h
  | a :: l, t, hn, h => by
    rw [List.map_cons, List.nodup_cons] at hn
    rw [List.filter_cons]
    by_cases hat : a = t
    · subst hat
      simp only [bne_self_eq_false, Bool.false_eq_true, if_false]
      rw [filter_ne_of_notMem f l (f a) hn.1]
    · have htl : t ∈ l := (List.mem_cons.1 h).resolve_left (Ne.symm hat)
      have hne : f a ≠ f t := fun e => hn.1 (e ▸ List.mem_map_of_mem (f := f) htl)
      simp only [bne_iff_ne, ne_eq, hne, not_false_eq_true, if_true]
      exact ((perm_cons_filter_ne f l t hn.2 htl).cons a).trans (List.Perm.swap t a _)

theorem map_filter_key {α β : Type} [DecidableEq β] (f : α → β) (l : List α) (b : β) :
    (l.filter (fun x => f x != b)).map f = (l.map f).filter (· != b) :=
  (List.filter_map (f := f) (p := (· != b))).symm

theorem map_ite_map {α β : Type} (l : List α) (c : α → Prop) [DecidablePred c] (u : α → α) (pr : α → β)
    (h : ∀ a, pr (u a) = pr a) : (l.map fun a => if c a then u a else a).map pr = l.map pr := by
  simp only [List.map_map, Function.comp_def, apply_ite pr, h, ite_self]

theorem regPut_of_notMem (reg : List Torrent) (t : Torrent) (h : t.id ∉ reg.map (·.id)) :
    regPut reg t = t :: reg := by
  unfold regPut
  rw [filter_ne_of_notMem (·.id) reg t.id h]

theorem dbPut_of_notMem (db : List (String × Fields)) (id : String) (r : Fields) (h : id ∉ db.map (·.1)) :
    dbPut db id r = (id, r) :: db := by
  unfold dbPut
  rw [filter_ne_of_notMem (·.1) db id h]

theorem regGet_some {reg : List Torrent} {id : String} {t : Torrent} (h : regGet reg id = some t) :
    t ∈ reg ∧ t.id = id := by
  unfold regGet at h
  exact ⟨List.mem_of_find?_eq_some h, by simpa using List.find?_some h⟩

theorem regGet_none {reg : List Torrent} {id : String} (h : regGet reg id = none) : id ∉ reg.map (·.id) := by
  unfold regGet at h
  rw [List.find?_eq_none] at h
  intro hm
  obtain ⟨t, ht, rfl⟩ := List.mem_map.1 hm
  exact h t ht (by simp)

theorem regGet_eq_none {reg : List Torrent} {id : String} (h : id ∉ reg.map (·.id)) : regGet reg id = none := by
  unfold regGet
  rw [List.find?_eq_none]
  intro t ht hc
  have : t.id = id := by simpa using hc
  exact h (this ▸ List.mem_map_of_mem (f := (·.id)) ht)

theorem regGet_of_mem {reg : List Torrent} {t : Torrent} (hn : (reg.map (·.id)).Nodup) (ht : t ∈ reg) :
    regGet reg t.id = some t :=
  find?_key_of_mem (fun x : Torrent => x.id) hn ht

theorem dbGet_of_mem {db : List (String × Fields)} {k : String} {r : Fields} (hn : (db.map (·.1)).Nodup)
    (h : (k, r) ∈ db) : dbGet db k = some r := by
  unfold dbGet
  rw [find?_key_of_mem (fun e : String × Fields => e.1) hn h]
  rfl

theorem dbGet_some_mem {db : List (String × Fields)} {k : String} {r : Fields} (h : dbGet db k = some r) :
    (k, r) ∈ db := by
  unfold dbGet at h
  cases hf : db.find? (fun e => e.1 == k) with
  | none => simp [hf] at h
  | some e =>
    simp [hf] at h
    have hk : e.1 = k := by simpa using List.find?_some hf
    have := List.mem_of_find?_eq_some hf
    cases e; simp_all

theorem dbModify_map {β : Type} (db : List (String × Fields)) (id : String) (g : Fields → Fields)
    (pr : String × Fields → β) (h : ∀ k r, pr (k, g r) = pr (k, r)) : (dbModify db id g).map pr = db.map pr :=
  map_ite_map db (·.1 = id) _ pr fun e => h e.1 e.2

theorem mem_dbModify {db : List (String × Fields)} {id : String} {g : Fields → Fields} {k : String} {r : Fields}
    (h : (k, r) ∈ db) : (k, if k = id then g r else r) ∈ dbModify db id g := by
  unfold dbModify
  refine List.mem_map.2 ⟨(k, r), h, ?_⟩
  by_cases hk : k = id <;> simp [hk]

theorem mem_regModify {reg : List Torrent} {id : String} {g : Fields → Fields} {t : Torrent}
    (h : t ∈ regModify reg id g) : ∃ t0 ∈ reg, t = if t0.id = id then { t0 with f := g t0.f } else t0 := by
  unfold regModify at h
  obtain ⟨t0, h0, rfl⟩ := List.mem_map.1 h
  exact ⟨t0, h0, rfl⟩

theorem regModify_map {β : Type} (reg : List Torrent) (id : String) (g : Fields → Fields) (pr : Torrent → β)
    (h : ∀ t : Torrent, pr { t with f := g t.f } = pr t) : (regModify reg id g).map pr = reg.map pr :=
  map_ite_map reg (·.id = id) _ pr h

/-- Pendings whose record is already in the database. -/
def written (p : List Pending) : List Pending := p.filter (fun q => q.stage == .written)

structure Inv (s : State) : Prop where
  /-- every port of the range is free, owned by one registered torrent, or held by one add in flight -/
  ports : (s.free ++ s.reg.map (·.f.port) ++ s.pending.map (·.port)).Perm s.range
  /-- ids of registered torrents and of adds in flight are pairwise different -/
  ids : (s.regIds ++ s.pendIds).Nodup
  /-- the database holds exactly the registered torrents and the adds that have written, with their ports -/
  dbsig : (s.db.map fun e => (e.1, e.2.port)).Perm
            (s.reg.map (fun t => (t.id, t.f.port)) ++ (written s.pending).map (fun q => (q.id, q.port)))
  /-- the info-hash index lists exactly the registered torrents -/
  idx : s.idx.Perm (s.reg.map fun t => (t.f.infoHash, t.id))
  /-- every registered torrent has a record that describes it -/
  synced : ∀ t ∈ s.reg, ∃ r, (t.id, r) ∈ s.db ∧ describes r t.f = true
  /-- the record of an add that has written is the one it will be inserted with -/
  pendrec : ∀ q ∈ s.pending, q.stage = .written → (q.id, freshFields q.m q.o q.port) ∈ s.db

/-- The part of the invariant about records that did not load (histories that are `tame`). -/
structure DInv (s : State) : Prop where
  deadNodup : s.deadIds.Nodup
  invNodup : s.invalid.Nodup
  /-- a record that did not load is listed as invalid -/
  deadInv : ∀ id ∈ s.deadIds, id ∈ s.invalid
  /-- an invalid id still has its dead record, or an add in flight has just written a new record under it
  (and will take it off the list when it inserts the torrent) -/
  invSrc : ∀ id ∈ s.invalid, id ∈ s.deadIds ∨ ∃ q ∈ s.pending, q.id = id ∧ q.stage = .written
  /-- no registered torrent has an invalid id -/
  fresh : ∀ id ∈ s.invalid, id ∉ s.regIds
  /-- an add that has written has replaced the dead record of its id -/
  wdead : ∀ q ∈ s.pending, q.stage = .written → q.id ∉ s.deadIds

theorem Inv.dbIds_perm {s : State} (h : Inv s) :
    s.dbIds.Perm (s.regIds ++ (written s.pending).map (·.id)) := by
  have := h.dbsig.map Prod.fst
  simpa [State.dbIds, State.regIds, List.map_map, Function.comp_def] using this

theorem Inv.regIds_nodup {s : State} (h : Inv s) : s.regIds.Nodup := (List.nodup_append.1 h.ids).1
theorem Inv.pendIds_nodup {s : State} (h : Inv s) : s.pendIds.Nodup := (List.nodup_append.1 h.ids).2.1
theorem Inv.disjoint {s : State} (h : Inv s) {a : String} (h1 : a ∈ s.regIds) (h2 : a ∈ s.pendIds) : False :=
  (List.nodup_append.1 h.ids).2.2 a h1 a h2 rfl

theorem written_sublist (p : List Pending) : (written p).Sublist p := List.filter_sublist

theorem Inv.dbIds_nodup {s : State} (h : Inv s) : s.dbIds.Nodup := by
  rw [h.dbIds_perm.nodup_iff]
  have hsub : (s.regIds ++ (written s.pending).map (·.id)).Sublist (s.regIds ++ s.pendIds) :=
    List.Sublist.append (List.Sublist.refl _) ((written_sublist _).map _)
  exact hsub.nodup h.ids

theorem Inv.dbId_src {s : State} (h : Inv s) {id : String} (hid : id ∈ s.dbIds) :
    id ∈ s.regIds ∨ ∃ q ∈ s.pending, q.id = id ∧ q.stage = .written := by
  rcases List.mem_append.1 ((h.dbIds_perm.mem_iff).1 hid) with h1 | h1
  · exact Or.inl h1
  · obtain ⟨q, hq, rfl⟩ := List.mem_map.1 h1
    have := List.mem_filter.1 hq
    exact Or.inr ⟨q, this.1, rfl, by simpa using this.2⟩

theorem mem_pendIds {s : State} {q : Pending} (h : q ∈ s.pending) : q.id ∈ s.pendIds :=
  List.mem_map_of_mem (f := (·.id)) h

theorem pend_id_not_db {s : State} (h : Inv s) {q : Pending} (hq : q ∈ s.pending) (hnw : q.stage ≠ .written) :
    q.id ∉ s.dbIds := by
  intro hc
  rcases h.dbId_src hc with h1 | ⟨q2, hq2, he, hw⟩
  · exact h.disjoint h1 (mem_pendIds hq)
  · rw [eq_of_nodup_map (fun x : Pending => x.id) h.pendIds_nodup hq2 hq he] at hw
    exact hnw hw

theorem Inv.regPorts_nodup {s : State} (h : Inv s) : (s.reg.map (·.f.port)).Nodup := by
  have hn : s.range.Nodup := List.nodup_range' (step := 1)
  have := (h.ports.nodup_iff).2 hn
  exact (List.nodup_append.1 (List.nodup_append.1 this).1).2.1

theorem Inv.regPort_mem_range {s : State} (h : Inv s) {t : Torrent} (ht : t ∈ s.reg) : t.f.port ∈ s.range := by
  apply (h.ports.mem_iff).1
  exact List.mem_append_left _ (List.mem_append_right _ (List.mem_map_of_mem (f := (·.f.port)) ht))

theorem Inv.dbsig_quiet {s : State} (h : Inv s) (hp : s.pending = []) :
    (s.db.map fun e => (e.1, e.2.port)).Perm (s.reg.map fun t => (t.id, t.f.port)) := by
  simpa [hp, written] using h.dbsig

theorem Inv.dbIds_quiet {s : State} (h : Inv s) (hp : s.pending = []) : s.dbIds.Perm s.regIds := by
  simpa [State.dbIds, State.regIds, List.map_map, Function.comp_def] using (h.dbsig_quiet hp).map Prod.fst

theorem Inv.dbPorts_quiet {s : State} (h : Inv s) (hp : s.pending = []) :
    (s.db.map (·.2.port)).Perm (s.reg.map (·.f.port)) := by
  simpa [List.map_map, Function.comp_def] using (h.dbsig_quiet hp).map Prod.snd

theorem DInv.dead_not_db {s : State} (h : Inv s) (hd : DInv s) {id : String} (hid : id ∈ s.deadIds) : id ∉ s.dbIds := by
  intro hc
  rcases h.dbId_src hc with h1 | ⟨q, hq, rfl, hw⟩
  · exact hd.fresh id (hd.deadInv id hid) h1
  · exact hd.wdead q hq hw hid

theorem DInv.invalid_perm {s : State} (hd : DInv s) (hp : s.pending = []) : s.invalid.Perm s.deadIds := by
  rw [List.perm_ext_iff_of_nodup hd.invNodup hd.deadNodup]
  intro a
  constructor
  · intro ha
    rcases hd.invSrc a ha with h1 | ⟨q, hq, _, _⟩
    · exact h1
    · rw [hp] at hq; cases hq
  · exact hd.deadInv a

/-- The torrents bucket has one sub-bucket per id. -/
theorem bucket_nodup {s : State} (h : Inv s) (hd : DInv s) : ((s.db ++ s.dead).map (·.1)).Nodup := by
  rw [List.map_append]
  refine List.nodup_append.2 ⟨h.dbIds_nodup, hd.deadNodup, ?_⟩
  intro a ha b hb hab
  subst hab
  exact hd.dead_not_db h hb ha

end Rain.Registry
