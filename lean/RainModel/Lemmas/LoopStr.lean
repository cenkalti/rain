import Std.Data.String.ToNat
import RainModel.Lemmas.LoopBase
/-!
The few facts about message strings the soundness corollaries need: `have:i` determines `i`, and no other
string the loop sends is a `have` message.
-/
namespace Rain.Loop

/-- The text of a have message, as the model builds it. -/
def haveMsg (i : Nat) : String := s!"have:{i}"

theorem haveMsg_toList (i : Nat) : (haveMsg i).toList = 'h' :: 'a' :: 'v' :: 'e' :: ':' :: (Nat.repr i).toList := by
  show (toString "have:" ++ toString i).toList = _
  rw [String.toList_append]
  rfl

theorem haveMsg_inj {i j : Nat} (h : haveMsg i = haveMsg j) : i = j := by
  have := congrArg String.toList h
  rw [haveMsg_toList, haveMsg_toList] at this
  simp only [List.cons.injEq, true_and] at this
  exact Nat.repr_inj.1 (String.ext_iff.2 this)

def NotHave (msg : String) : Prop := ∀ i, msg ≠ haveMsg i

theorem notHave_of_prefix (p : String) (rest : List Char) (msg : String) (h : msg.toList = p.toList ++ rest)
    (hp : (5 ≤ p.toList.length ∧ p.toList.take 5 ≠ ['h','a','v','e',':']) := by decide) : NotHave msg := by
  intro i hi
  apply hp.2
  have := congrArg (List.take 5) h
  rw [List.take_append_of_le_length hp.1, hi, haveMsg_toList] at this
  exact this.symm

theorem notHave_lit (msg : String) (hp : msg.toList.take 5 ≠ ['h','a','v','e',':'] := by decide) : NotHave msg := by
  intro i hi
  apply hp
  rw [hi, haveMsg_toList]; rfl

theorem notHave_reject (i b l : Nat) : NotHave s!"reject:{i}:{b}:{l}" :=
  notHave_of_prefix "reject:" _ _ (by
    show (toString "reject:" ++ toString i ++ toString ":" ++ toString b ++ toString ":" ++ toString l).toList = _
    simp only [String.toList_append, List.append_assoc]; rfl)
theorem notHave_piece (i b l : Nat) : NotHave s!"piece:{i}:{b}:{l}:ok" :=
  notHave_of_prefix "piece:" _ _ (by
    show (toString "piece:" ++ toString i ++ toString ":" ++ toString b ++ toString ":" ++ toString l ++ toString ":ok").toList = _
    simp only [String.toList_append, List.append_assoc]; rfl)
theorem notHave_extmeta2 (i : Nat) : NotHave s!"extmeta:type=2:piece={i}" :=
  notHave_of_prefix "extmeta:type=2:piece=" _ _ (by
    show (toString "extmeta:type=2:piece=" ++ toString i).toList = _
    simp only [String.toList_append]; rfl)
theorem notHave_extmeta1 (i : Nat) : NotHave s!"extmeta:type=1:piece={i}:ok" :=
  notHave_of_prefix "extmeta:type=1:piece=" _ _ (by
    show (toString "extmeta:type=1:piece=" ++ toString i ++ toString ":ok").toList = _
    simp only [String.toList_append, List.append_assoc]; rfl)
theorem notHave_bitfield (x : String) : NotHave ("bitfield:" ++ x) :=
  notHave_of_prefix "bitfield:" x.toList _ (by simp only [String.toList_append])
theorem notHave_unchoke : NotHave "unchoke" := notHave_lit _
theorem notHave_haveall : NotHave "haveall" := notHave_lit _
theorem notHave_havenone : NotHave "havenone" := notHave_lit _
theorem notHave_exths : NotHave "exths" := notHave_lit _
theorem notHave_interested : NotHave "interested" := notHave_lit _
theorem notHave_notinterested : NotHave "notinterested" := notHave_lit _

end Rain.Loop
