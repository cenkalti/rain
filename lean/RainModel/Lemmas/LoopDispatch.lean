import RainModel.Lemmas.LoopFrameStep
import RainModel.Lemmas.LoopCases
import RainModel.Lemmas.LoopHmd
/-!
The dispatchers of M-LOOP (`runWorkers`, `writerRun`, `handleMetadataData`, `deliverParked`, `handle`, `step`) as case
principles, and what they write.  A dispatcher calls a handful of handlers under guards and otherwise sets fields no
lifecycle predicate reads; its case analysis is done here, branch by branch through `ite_ind` (`split` on these bodies
re-simplifies the whole body at every branch and is slow to check).  The worker completions are a step relation, `Link`,
which `runWorkers` follows until the workers are quiet or the fuel ends.  `handle_arms` speaks of the state only: a proof
about the messages sent unfolds `handle` itself (`handle_noHave`) and then goes through `step_invM`, `runWorkers_ind` and
`writerRun_cases`, whose motives are on state and messages.  `writerRun_job` is coarser than `writerRun_cases`, for
predicates that hold whatever the storage calls return.
-/
namespace Rain.Loop

/-- `status` is a function of six flags: a statement about it is checked on their 64 values. -/
theorem status_seeding_iff (s : St) : s.status = .seeding ↔
    s.errC = true ∧ s.stopAnn = false ∧ s.allocator = false ∧ s.verifier = false ∧ s.completed = true := by
  unfold St.status
  generalize s.errC = e, s.stopAnn = sa, s.allocator = a, s.verifier = v, s.completed = c, s.info = i
  revert e sa a v c i
  decide

theorem status_downloading_iff (s : St) : s.status = .downloading ↔
    s.errC = true ∧ s.stopAnn = false ∧ s.allocator = false ∧ s.verifier = false ∧ s.completed = false ∧
      s.info = true := by
  unfold St.status
  generalize s.errC = e, s.stopAnn = sa, s.allocator = a, s.verifier = v, s.completed = c, s.info = i
  revert e sa a v c i
  decide

theorem status_stopped_iff (s : St) : s.status = .stopped ↔ s.errC = false := by
  unfold St.status
  generalize s.errC = e, s.stopAnn = sa, s.allocator = a, s.verifier = v, s.completed = c, s.info = i
  revert e sa a v c i
  decide

theorem status_stopping_iff (s : St) : s.status = .stopping ↔ s.errC = true ∧ s.stopAnn = true := by
  unfold St.status
  generalize s.errC = e, s.stopAnn = sa, s.allocator = a, s.verifier = v, s.completed = c, s.info = i
  revert e sa a v c i
  decide

theorem startCore_fields (m : M) :
    (startCore m).1.errC = true ∧ (startCore m).1.stopAnn = false ∧ (startCore m).1.lastErr = false ∧
    (startCore m).1.allocator = (m.1.allocator || (m.1.info && !m.1.loaded)) ∧
    (startCore m).1.verifier = (m.1.verifier || (m.1.info && m.1.loaded && !m.1.bf.isSome)) ∧
    (startCore m).1.acceptor = (m.1.acceptor || !m.1.info || (m.1.loaded && m.1.bf.isSome)) := by
  unfold startCore
  dsimp only [onSt_fst]
  let Q : M → Prop := fun x => x.1.errC = true ∧ x.1.stopAnn = false ∧ x.1.lastErr = false ∧
    x.1.allocator = (m.1.allocator || (m.1.info && !m.1.loaded)) ∧
    x.1.verifier = (m.1.verifier || (m.1.info && m.1.loaded && !m.1.bf.isSome)) ∧
    x.1.acceptor = (m.1.acceptor || !m.1.info || (m.1.loaded && m.1.bf.isSome))
  refine ite_ind (P := Q)
    (fun (hi : m.1.info = true) => ite_ind (P := Q)
      (fun (hl : m.1.loaded = true) => ite_ind (P := Q) (fun (hb : m.1.bf.isSome = true) => ?_)
        fun (hb : ¬m.1.bf.isSome = true) => ?_)
      fun (hl : ¬m.1.loaded = true) => ?_)
    fun (hi : ¬m.1.info = true) => ?_
  · simp [Q, hi, hl, hb]
  · cases hv : m.1.verifier <;> simp [Q, hi, hl, hb, hv]
  · cases ha : m.1.allocator <;> simp [Q, hi, hl, ha]
  · simp [Q, hi]

theorem runWorkers_succ (fuel : Nat) (m : M) : runWorkers (fuel + 1) m =
    if m.1.panicked.isSome then m
    else if m.1.stopAnn && !m.1.stopHang then runWorkers fuel (handleStopped m)
    else if m.1.allocator && !m.1.gateOpen then runWorkers fuel (allocatorRun m)
    else if m.1.verifier && !m.1.gateRead then runWorkers fuel (handleVerificationDone m)
    else
      match m.1.writing with
      | some w =>
        if w.written then (if !m.1.gateWriteDone then runWorkers fuel (handlePieceWriteDone m w false) else m)
        else if !m.1.gateWrite || !w.good then runWorkers fuel (writerRun m w) else m
      | none => m := rfl

/-- A worker completion is pending and no gate holds it (the guards of `runWorkers`). -/
def workersPending (s : St) : Bool :=
  (s.stopAnn && !s.stopHang) || (s.allocator && !s.gateOpen) || (s.verifier && !s.gateRead) ||
  (match s.writing with
   | some w => if w.written then !s.gateWriteDone else (!s.gateWrite || !w.good)
   | none => false)

def workersQuiet (s : St) : Bool := s.panicked.isSome || !workersPending s

theorem runWorkers_of_quiet (n : Nat) (m : M) (h : workersQuiet m.1 = true) : runWorkers n m = m := by
  cases n with
  | zero => rfl
  | succ n =>
    unfold workersQuiet workersPending at h
    unfold runWorkers
    dsimp only
    cases hp : m.1.panicked with
    | some x => simp
    | none =>
      simp only [hp, Option.isSome_none, Bool.false_or, Bool.not_eq_true', Bool.or_eq_false_iff] at h
      obtain ⟨⟨⟨h1, h2⟩, h3⟩, h4⟩ := h
      simp only [Option.isSome_none, Bool.false_eq_true, ↓reduceIte, h1, h2, h3]
      split
      · next w hw =>
        rw [hw] at h4
        simp only at h4
        cases hwr : w.written
        · simp only [hwr, Bool.false_eq_true, ↓reduceIte] at h4 ⊢
          rw [h4]; simp
        · simp only [hwr, ↓reduceIte] at h4 ⊢
          rw [h4]; simp
      · rfl

theorem quiet_of_guards (s : St) (hp : s.panicked = none) (h1 : ¬(s.stopAnn && !s.stopHang) = true)
    (h2 : ¬(s.allocator && !s.gateOpen) = true) (h3 : ¬(s.verifier && !s.gateRead) = true)
    (h4 : ∀ w, s.writing = some w →
      (w.written = true → ¬(!s.gateWriteDone) = true) ∧ (w.written = false → ¬(!s.gateWrite || !w.good) = true)) :
    workersQuiet s = true := by
  unfold workersQuiet workersPending
  simp only [hp, Option.isSome_none, Bool.false_or, Bool.not_eq_true', Bool.or_eq_false_iff]
  refine ⟨⟨⟨by simpa using h1, by simpa using h2⟩, by simpa using h3⟩, ?_⟩
  cases hw : s.writing with
  | none => rfl
  | some w =>
    obtain ⟨a, b⟩ := h4 w hw
    cases hwr : w.written
    · simpa [hwr] using b hwr
    · simpa [hwr] using a hwr

/-- One worker completion, under its guard in `runWorkers` less the harness's gates. -/
inductive Link (m : M) : M → Prop
  | stopped : m.1.stopAnn = true → m.1.stopHang = false → Link m (handleStopped m)
  | alloc : m.1.allocator = true → Link m (allocatorRun m)
  | verify : m.1.verifier = true → Link m (handleVerificationDone m)
  | deliver (w : WriteJob) : m.1.writing = some w → w.written = true → Link m (handlePieceWriteDone m w false)
  | write (w : WriteJob) : m.1.writing = some w → w.written = false → Link m (writerRun m w)

theorem runWorkers_link (m : M) :
    workersQuiet m.1 = true ∨ ∃ m', Link m m' ∧ ∀ n, runWorkers (n + 1) m = runWorkers n m' := by
  by_cases h0 : m.1.panicked.isSome = true
  · exact Or.inl (by unfold workersQuiet; rw [h0]; rfl)
  by_cases h1 : (m.1.stopAnn && !m.1.stopHang) = true
  · refine Or.inr ⟨_, .stopped (Bool.and_eq_true_iff.1 h1).1 (by simpa using (Bool.and_eq_true_iff.1 h1).2), fun n => ?_⟩
    rw [runWorkers_succ, if_neg h0, if_pos h1]
  by_cases h2 : (m.1.allocator && !m.1.gateOpen) = true
  · refine Or.inr ⟨_, .alloc (Bool.and_eq_true_iff.1 h2).1, fun n => ?_⟩
    rw [runWorkers_succ, if_neg h0, if_neg h1, if_pos h2]
  by_cases h3 : (m.1.verifier && !m.1.gateRead) = true
  · refine Or.inr ⟨_, .verify (Bool.and_eq_true_iff.1 h3).1, fun n => ?_⟩
    rw [runWorkers_succ, if_neg h0, if_neg h1, if_neg h2, if_pos h3]
  have hq := quiet_of_guards m.1 (by simpa using h0) h1 h2 h3
  cases hw : m.1.writing with
  | none => exact Or.inl (hq fun w' hw' => by rw [hw] at hw'; cases hw')
  | some w =>
    have he : ∀ n, runWorkers (n + 1) m =
        if w.written then (if !m.1.gateWriteDone then runWorkers n (handlePieceWriteDone m w false) else m)
        else if !m.1.gateWrite || !w.good then runWorkers n (writerRun m w) else m := fun n => by
      rw [runWorkers_succ, if_neg h0, if_neg h1, if_neg h2, if_neg h3, hw]
    cases hwr : w.written
    · by_cases hg : (!m.1.gateWrite || !w.good) = true
      · exact Or.inr ⟨_, .write w hw hwr, fun n => by rw [he, hwr, if_neg Bool.false_ne_true, if_pos hg]⟩
      · refine Or.inl (hq fun w' hw' => ?_)
        cases hw.symm.trans hw'
        exact ⟨fun h => (by rw [hwr] at h; cases h), fun _ => hg⟩
    · by_cases hg : (!m.1.gateWriteDone) = true
      · exact Or.inr ⟨_, .deliver w hw hwr, fun n => by rw [he, hwr, if_pos rfl, if_pos hg]⟩
      · refine Or.inl (hq fun w' hw' => ?_)
        cases hw.symm.trans hw'
        exact ⟨fun _ => hg, fun h => (by rw [hwr] at h; cases h)⟩

theorem runWorkers_add (a b : Nat) (m : M) : runWorkers (a + b) m = runWorkers b (runWorkers a m) := by
  induction a generalizing m with
  | zero => rw [Nat.zero_add]; rfl
  | succ a ih =>
    rw [Nat.add_right_comm]
    rcases runWorkers_link m with hq | ⟨m', _, he⟩
    · rw [runWorkers_of_quiet _ m hq, runWorkers_of_quiet _ m hq, runWorkers_of_quiet _ m hq]
    · rw [he, he, ih]

theorem runWorkers_ind {P : M → Prop} (hL : ∀ m m', Link m m' → P m → P m') (n : Nat) (m : M) (h : P m) :
    P (runWorkers n m) := by
  induction n generalizing m with
  | zero => exact h
  | succ n ih =>
    rcases runWorkers_link m with hq | ⟨m', l, he⟩
    · rwa [runWorkers_of_quiet _ m hq]
    · rw [he]; exact ih m' (hL m m' l h)

theorem runWorkers_inv {P : M → Prop}
    (hS : ∀ m, m.1.stopAnn = true → m.1.stopHang = false → P m → P (handleStopped m))
    (hA : ∀ m, m.1.allocator = true → P m → P (allocatorRun m))
    (hV : ∀ m, m.1.verifier = true → P m → P (handleVerificationDone m))
    (hD : ∀ m w, m.1.writing = some w → w.written = true → P m → P (handlePieceWriteDone m w false))
    (hW : ∀ m w, m.1.writing = some w → P m → P (writerRun m w))
    (fuel : Nat) (m : M) (h : P m) : P (runWorkers fuel m) :=
  runWorkers_ind (fun m _ l => by
    cases l with
    | stopped a b => exact hS m a b
    | alloc a => exact hA m a
    | verify a => exact hV m a
    | deliver w a b => exact hD m w a b
    | write w a _ => exact hW m w a) fuel m h

/-- A job whose hash failed (`hB`) and a piece without stored bytes (`hN`) go straight to the result handler; a stale job
or a failing write reports an error (`hE`); otherwise the bytes are written (`bad` loses the piece) and the result is
held or delivered (`hO`). -/
theorem writerRun_cases {P : M → Prop} (m : M) (w : WriteJob)
    (hB : w.good = false → P (handlePieceWriteDone m w false))
    (hN : ((m.1.cfg.sections w.piece).filter fun sc => !(m.1.cfg.fpads.getD sc.file false)) = [] →
      P (handlePieceWriteDone m { w with good := w.good && m.1.cfg.padOK w.piece } false))
    (hE : ∀ sto, P (handlePieceWriteDone ({ m.1 with sto := sto }, m.2) w true))
    (hO : ∀ sc l sto, ((m.1.cfg.sections w.piece).filter fun sc => !(m.1.cfg.fpads.getD sc.file false)) = sc :: l →
      w.good = true → w.gen = m.1.gen → m.1.loaded = true → m.1.failWrite = false →
      P ({ m.1 with sto := sto, bad := m.1.bad.filter (fun b => b.1 ≠ w.piece),
                    writing := some { w with written := true } }, m.2) ∧
      P (handlePieceWriteDone ({ m.1 with sto := sto, bad := m.1.bad.filter (fun b => b.1 ≠ w.piece) }, m.2) w false)) :
    P (writerRun m w) := by
  unfold writerRun
  dsimp only
  refine ite_ind (fun hg => hB (by simpa using hg)) fun hg => ?_
  cases hs : (m.1.cfg.sections w.piece).filter fun sc => !(m.1.cfg.fpads.getD sc.file false) with
  | nil => exact hN hs
  | cons sc l =>
    refine ite_ind (fun _ => hE _) fun hst => ite_ind (fun _ => hE _) fun hf => ?_
    simp only [Bool.or_eq_true, ne_eq, decide_eq_true_eq, Bool.not_eq_true', not_or, Decidable.not_not,
      Bool.not_eq_false] at hst
    have := hO sc l (m.1.sto ++ (sc :: l).map fun sc => s!"write:{fileName m.1.cfg sc.file}:{sc.off}:{sc.len}:ok") hs
      (by simpa using hg) hst.1 hst.2 (by simpa using hf)
    exact ite_ind (fun _ => this.1) fun _ => this.2

theorem writerRun_job {P : M → Prop} (m : M) (w : WriteJob)
    (hD : ∀ sto bad g e, (g = true → w.good = true) →
      P (handlePieceWriteDone ({ m.1 with sto := sto, bad := bad }, m.2) { w with good := g } e))
    (hH : ∀ sto bad, P ({ m.1 with sto := sto, bad := bad, writing := some { w with written := true } }, m.2)) :
    P (writerRun m w) :=
  writerRun_cases m w (fun _ => hD m.1.sto m.1.bad w.good _ id)
    (fun _ => hD m.1.sto m.1.bad _ _ fun h => (Bool.and_eq_true_iff.1 h).1) (fun _ => hD _ m.1.bad w.good _ id)
    fun _ _ _ _ _ _ _ _ => ⟨hH _ _, hD _ _ w.good _ id⟩

/-- The state an op is handled in: the outputs of the previous step are cleared. -/
def St.opStart (s : St) : St := { s with sto := [], mayStart := [], closedDl := [], mayStartI := false }

theorem step_st (s : St) (p : Parked) (kn : Nat → Bool) (op : Op) :
    (step s p kn op).1.st =
      if p.isSome then
        (deliverParked (runWorkers 12 (handle s.opStart p kn op).1)
          (handle s.opStart p kn op).2.2).1.1
      else (runWorkers 12 (handle s.opStart p kn op).1).1 := by
  unfold step
  dsimp only
  split <;> rfl

theorem deliverParked_inv {P : M → Prop} (m : M) (p : Parked) (h : P m)
    (hM : ∀ k i b l g, m.1.writing = none → (m.1.findPeer k).isSome = true →
      P (runWorkers 12 (handlePieceMessage m k i b l g))) :
    P (deliverParked m p).1 := by
  unfold deliverParked
  match p with
  | none => exact h
  | some (k, i, b, l, g) =>
    dsimp only
    refine ite_ind (P := fun x : M × Parked => P x.1) (fun hc => ?_) fun _ => h
    rw [Bool.and_eq_true, Option.isNone_iff_eq_none, Option.isNone_iff_eq_none] at hc
    exact ite_ind (hM k i b l g hc.1) fun _ => h

theorem step_invM {P : M → Prop} (s : St) (p : Parked) (kn : Nat → Bool) (op : Op)
    (hH : P (handle s.opStart p kn op).1)
    (hR : ∀ m, P m → P (runWorkers 12 m))
    (hM : ∀ m k i b l g, P m → m.1.writing = none → P (handlePieceMessage m k i b l g)) :
    P ((step s p kn op).1.st, (step s p kn op).1.outs) := by
  unfold step
  dsimp only
  exact ite_ind (P := fun x : M × Parked => P (x.1.1, x.1.2))
    (fun _ => deliverParked_inv _ _ (hR _ hH) fun k i b l g hw _ => hR _ (hM _ k i b l g (hR _ hH) hw))
    fun _ => hR _ hH

theorem step_inv {P : St → Prop} (s : St) (p : Parked) (kn : Nat → Bool) (op : Op)
    (hH : P (handle s.opStart p kn op).1.1)
    (hR : ∀ m, P m.1 → P (runWorkers 12 m).1)
    (hM : ∀ m k i b l g, P m.1 → m.1.writing = none → P (handlePieceMessage m k i b l g).1) :
    P (step s p kn op).1.st :=
  step_invM (P := fun m => P m.1) s p kn op hH hR hM

/-- `hG`: besides calling a handler, `handle` sets the harness's gates, `stopHang` and `persisted`.  The verify command
and `mutate` come with the op that calls them, for the predicates that one of them breaks. -/
theorem handle_arms {P : St → Prop} (s : St) (p : Parked) (kn : Nat → Bool) (op : Op)
    (hG : ∀ (t : St) (sh : Bool) (pe : Option (List Bool)) (go gw gr fw fo : Bool) (fa : Nat) (gwd : Bool),
      pe = t.persisted ∨ pe = t.bf → P t →
      P { t with stopHang := sh, persisted := pe, gateOpen := go, gateWrite := gw, gateRead := gr, failWrite := fw,
                 failOpen := fo, failAt := fa, gateWriteDone := gwd })
    (h : P s)
    (hstart : P (start (s, [])).1)
    (hstop : P (({ s with doVerify := false }).stop false))
    (hverify : op = .verify ∨ op = .verifyHeld → P (handleVerifyCommand ({ s with persisted := none }, [])).1)
    (hmutate : ∀ f how, op = .mutate f how → s.openFiles = [] → s.errC = false → P (mutate s f how))
    (haccept : ∀ k ip fast ext bad, s.acceptor = true → P (acceptPeer (s, []) k ip fast ext bad false).1.1)
    (hpiece : ∀ k i b l g, (s.findPeer k).isSome = true → s.writing = none →
      P (handlePieceMessage (s, []) k i b l g).1)
    (hmsg : ∀ k msg, (∀ i b l g, msg ≠ .piece i b l g) → (s.findPeer k).isSome = true →
      P (handlePeerMessage (s, []) k msg).1)
    (hexths : ∀ k hm sz hp, (s.findPeer k).isSome = true → P (handleExtHandshake (s, []) k hm sz hp).1)
    (hmeta : ∀ k i len g, op = .metadata k i len g → (s.findPeer k).isSome = true →
      P (handleMetadataData (s, []) k i len g).1)
    (hreject : ∀ k, (s.findPeer k).isSome = true → P (handleMetadataReject (s, []) k).1)
    (hpex : ∀ a d, P (handlePex (s, []) a d).1)
    (hdht : ∀ ne, P (handleDhtPeers (s, []) ne).1)
    (hclose : ∀ k, (s.findPeer k).isSome = true → P (s.closePeer k))
    (hsnub : ∀ k, (s.findPeer k).isSome = true → P (handlePeerSnubbed (s, []) k).1) :
    P (handle s p kn op).1.1 := by
  have peer : ∀ {k : Nat} {x : M × String × Parked}, ((s.findPeer k).isSome = true → P x.1.1) →
      P (if (s.findPeer k).isNone = true then (((s, []), closedVerdict (kn k), p) : M × String × Parked) else x).1.1 :=
    fun hx => ite_ind (P := fun y : M × String × Parked => P y.1.1) (fun _ => h) fun hk =>
      hx (by rwa [Bool.not_eq_true, Option.isNone_eq_false_iff] at hk)
  cases op with
  | start => exact hstart
  | stop => exact hG _ _ _ false _ false _ _ _ _ (.inl rfl) hstop
  | stopHeld => exact hstop
  | verify => exact hG _ _ _ false _ false _ _ _ _ (.inl rfl) (hverify (.inl rfl))
  | verifyHeld => exact hverify (.inr rfl)
  | nop => exact h
  | trk _ => exact h
  | waitstop => exact hG s false s.persisted s.gateOpen s.gateWrite s.gateRead s.failWrite s.failOpen s.failAt s.gateWriteDone (.inl rfl) h
  | persist =>
    refine hG s s.stopHang _ s.gateOpen s.gateWrite s.gateRead s.failWrite s.failOpen s.failAt s.gateWriteDone ?_ h
    cases s.bf
    · exact .inl rfl
    · exact .inr rfl
  | gate kind on =>
    cases kind
    · exact hG s s.stopHang s.persisted on s.gateWrite s.gateRead s.failWrite s.failOpen s.failAt s.gateWriteDone (.inl rfl) h
    · exact hG s s.stopHang s.persisted s.gateOpen on s.gateRead s.failWrite s.failOpen s.failAt s.gateWriteDone (.inl rfl) h
    · exact hG s s.stopHang s.persisted s.gateOpen s.gateWrite on s.failWrite s.failOpen s.failAt s.gateWriteDone (.inl rfl) h
    · exact hG s s.stopHang s.persisted s.gateOpen s.gateWrite s.gateRead on s.failOpen s.failAt s.gateWriteDone (.inl rfl) h
    · exact hG s s.stopHang s.persisted s.gateOpen s.gateWrite s.gateRead s.failWrite on 0 s.gateWriteDone (.inl rfl) h
    · exact hG s s.stopHang s.persisted s.gateOpen s.gateWrite s.gateRead s.failWrite on _ s.gateWriteDone (.inl rfl) h
    · exact hG s s.stopHang s.persisted s.gateOpen s.gateWrite s.gateRead s.failWrite s.failOpen s.failAt on (.inl rfl) h
  | mutate f how =>
    refine ite_ind (P := fun y : M × String × Parked => P y.1.1) (fun _ => h) fun hg => ?_
    rw [Bool.or_eq_true, not_or, Bool.not_eq_true, Bool.not_eq_true, Bool.not_eq_false', List.isEmpty_iff] at hg
    exact hmutate f how rfl hg.1 hg.2
  | peer k ip fast ext bad =>
    refine ite_ind (P := fun y : M × String × Parked => P y.1.1) (fun _ => h) fun _ =>
      ite_ind (P := fun y : M × String × Parked => P y.1.1) (fun _ => h) fun ha => ?_
    rw [Bool.not_eq_true, Bool.not_eq_false'] at ha
    exact haccept k ip fast ext bad ha
  | msg k msg =>
    cases msg with
    | piece i b l g =>
      exact peer fun hk => ite_ind (P := fun y : M × String × Parked => P y.1.1) (fun _ => h) fun _ =>
        ite_ind (P := fun y : M × String × Parked => P y.1.1)
          (fun _ => ite_ind (P := fun y : M × String × Parked => P y.1.1) (fun _ => h) fun _ => h)
          fun hw => hpiece k i b l g hk (by rwa [Bool.not_eq_true, Option.isSome_eq_false_iff, Option.isNone_iff_eq_none] at hw)
    | _ => exact peer (hmsg k _ nofun)
  | exths k hm sz hp => exact peer (hexths k hm sz hp)
  | metadata k i len g => exact peer (hmeta k i len g rfl)
  | metareject k => exact peer (hreject k)
  | metareq k i =>
    show P (match s.findPeer k with | none => _ | some p => _ : M × String × Parked).1.1
    cases s.findPeer k with
    | none => exact h
    | some q =>
      exact ite_ind (P := fun y : M × String × Parked => P y.1.1) (fun _ => h) fun _ =>
        ite_ind (P := fun y : M × String × Parked => P y.1.1) (fun _ => h) fun _ =>
        ite_ind (P := fun y : M × String × Parked => P y.1.1) (fun _ => h) fun _ => h
  | pex k a d => exact peer fun _ => hpex a d
  | dhtpeers ne => exact hdht ne
  | disconnect k => exact peer (hclose k)
  | snub k => exact peer (hsnub k)

section
open Fld

structure Fr_writerRun (s s' : St) : Prop where
  cfg : s'.cfg = s.cfg
  info : s'.info = s.info
  infoAtAdd : s'.infoAtAdd = s.infoAtAdd
  errC : s'.errC = s.errC
  gen : s'.gen = s.gen
  leaked : s'.leaked = s.leaked
  isize : s'.isize = s.isize
  maxMeta : s'.maxMeta = s.maxMeta
  parMeta : s'.parMeta = s.parMeta
  metaDone : s'.metaDone = s.metaDone
  nUnchoke : s'.nUnchoke = s.nUnchoke
  nOptimistic : s'.nOptimistic = s.nOptimistic
  stopHang : s'.stopHang = s.stopHang
  dials : s'.dials = s.dials
  gateWrite : s'.gateWrite = s.gateWrite
  failWrite : s'.failWrite = s.failWrite
  failOpen : s'.failOpen = s.failOpen
  failAt : s'.failAt = s.failAt
  gateWriteDone : s'.gateWriteDone = s.gateWriteDone
  tainted : s'.tainted = s.tainted
@[frame] theorem writerRun_writes (m : M) (w : WriteJob) :
    Writes [stopAnn, allocator, verifier, completed, completeCClosed, doVerify, lastErr, loaded, acceptor,
      openFiles, bf, done, writing, wflag, fileExists, known, bad, peers, dls, idls, mayStartI, unchoked,
      optimistic, banned, panicked, gateOpen, gateRead, sto, mayStart, closedDl, persisted]
    m.1 (writerRun m w).1 :=
  writerRun_job (P := fun r => Writes _ m.1 r.1) m w
    (fun sto bad _ e _ => .mono (.trans (w₁ := [.sto, .bad]) (b := { m.1 with sto := sto, bad := bad }) (.intro rfl)
      (handlePieceWriteDone_writes (_, m.2) _ e)))
    fun _ _ => .mono (w₁ := [.sto, .bad, writing]) (.intro rfl)
theorem writerRun_frame (m : M) (w : WriteJob) : Fr_writerRun m.1 (writerRun m w).1 :=
  have h := writerRun_writes m w
  ⟨h.cfg, h.info, h.infoAtAdd, h.errC, h.gen, h.leaked, h.isize, h.maxMeta, h.parMeta, h.metaDone, h.nUnchoke,
   h.nOptimistic, h.stopHang, h.dials, h.gateWrite, h.failWrite, h.failOpen, h.failAt, h.gateWriteDone,
   h.tainted⟩
@[simp] theorem writerRun_gen (m : M) (w : WriteJob) : (writerRun m w).1.gen = m.1.gen := (writerRun_frame m w).gen
@[simp] theorem writerRun_nUnchoke (m : M) (w : WriteJob) : (writerRun m w).1.nUnchoke = m.1.nUnchoke := (writerRun_frame m w).nUnchoke
@[simp] theorem writerRun_nOptimistic (m : M) (w : WriteJob) : (writerRun m w).1.nOptimistic = m.1.nOptimistic := (writerRun_frame m w).nOptimistic
@[simp] theorem writerRun_tainted (m : M) (w : WriteJob) : (writerRun m w).1.tainted = m.1.tainted := (writerRun_frame m w).tainted
@[simp] theorem writerRun_n (m : M) (w : WriteJob) : (writerRun m w).1.n = m.1.n := (writerRun_writes m w).n

structure Fr_runWorkers (s s' : St) : Prop where
  cfg : s'.cfg = s.cfg
  info : s'.info = s.info
  infoAtAdd : s'.infoAtAdd = s.infoAtAdd
  leaked : s'.leaked = s.leaked
  isize : s'.isize = s.isize
  maxMeta : s'.maxMeta = s.maxMeta
  parMeta : s'.parMeta = s.parMeta
  metaDone : s'.metaDone = s.metaDone
  stopHang : s'.stopHang = s.stopHang
  dials : s'.dials = s.dials
  gateWrite : s'.gateWrite = s.gateWrite
  failWrite : s'.failWrite = s.failWrite
  failOpen : s'.failOpen = s.failOpen
  failAt : s'.failAt = s.failAt
  gateWriteDone : s'.gateWriteDone = s.gateWriteDone
@[frame] theorem runWorkers_writes (fuel : Nat) (m : M) :
    Writes [errC, stopAnn, allocator, verifier, completed, completeCClosed, doVerify, lastErr, loaded, gen,
      acceptor, openFiles, bf, done, writing, wflag, fileExists, known, bad, peers, dls, idls, mayStartI,
      unchoked, optimistic, nUnchoke, nOptimistic, banned, panicked, gateOpen, gateRead, sto, mayStart,
      closedDl, persisted, tainted]
    m.1 (runWorkers fuel m).1 :=
  runWorkers_inv (P := fun r => Writes _ m.1 r.1) (fun x _ _ h => h.andThen (handleStopped_writes x))
    (fun x _ h => h.andThen (allocatorRun_writes x)) (fun x _ h => h.andThen (handleVerificationDone_writes x))
    (fun x w _ _ h => h.andThen (handlePieceWriteDone_writes x w false))
    (fun x w _ h => h.andThen (writerRun_writes x w)) fuel m (.intro rfl)
theorem runWorkers_frame (fuel : Nat) (m : M) : Fr_runWorkers m.1 (runWorkers fuel m).1 :=
  have h := runWorkers_writes fuel m
  ⟨h.cfg, h.info, h.infoAtAdd, h.leaked, h.isize, h.maxMeta, h.parMeta, h.metaDone, h.stopHang, h.dials,
   h.gateWrite, h.failWrite, h.failOpen, h.failAt, h.gateWriteDone⟩
@[simp] theorem runWorkers_info (fuel : Nat) (m : M) : (runWorkers fuel m).1.info = m.1.info := (runWorkers_frame fuel m).info
@[simp] theorem runWorkers_n (fuel : Nat) (m : M) : (runWorkers fuel m).1.n = m.1.n := (runWorkers_writes fuel m).n

structure Fr_deliverParked (s s' : St) : Prop where
  cfg : s'.cfg = s.cfg
  info : s'.info = s.info
  infoAtAdd : s'.infoAtAdd = s.infoAtAdd
  leaked : s'.leaked = s.leaked
  isize : s'.isize = s.isize
  maxMeta : s'.maxMeta = s.maxMeta
  parMeta : s'.parMeta = s.parMeta
  metaDone : s'.metaDone = s.metaDone
  stopHang : s'.stopHang = s.stopHang
  dials : s'.dials = s.dials
  gateWrite : s'.gateWrite = s.gateWrite
  failWrite : s'.failWrite = s.failWrite
  failOpen : s'.failOpen = s.failOpen
  failAt : s'.failAt = s.failAt
  gateWriteDone : s'.gateWriteDone = s.gateWriteDone
@[frame] theorem deliverParked_writes (m : M) (p : Parked) :
    Writes [errC, stopAnn, allocator, verifier, completed, completeCClosed, doVerify, lastErr, loaded, gen,
      acceptor, openFiles, bf, done, writing, wflag, fileExists, known, bad, peers, dls, idls, mayStartI,
      unchoked, optimistic, nUnchoke, nOptimistic, banned, panicked, gateOpen, gateRead, sto, mayStart,
      closedDl, persisted, tainted]
    m.1 (deliverParked m p).1.1 :=
  deliverParked_inv (P := fun r => Writes _ m.1 r.1) m p (.intro rfl) fun k i b l g _ _ =>
    .mono ((handlePieceMessage_writes m k i b l g).trans (runWorkers_writes 12 _))
theorem deliverParked_frame (m : M) (p : Parked) : Fr_deliverParked m.1 (deliverParked m p).1.1 :=
  have h := deliverParked_writes m p
  ⟨h.cfg, h.info, h.infoAtAdd, h.leaked, h.isize, h.maxMeta, h.parMeta, h.metaDone, h.stopHang, h.dials,
   h.gateWrite, h.failWrite, h.failOpen, h.failAt, h.gateWriteDone⟩
@[simp] theorem deliverParked_metaDone (m : M) (p : Parked) : (deliverParked m p).1.1.metaDone = m.1.metaDone := (deliverParked_frame m p).metaDone
@[simp] theorem deliverParked_stopHang (m : M) (p : Parked) : (deliverParked m p).1.1.stopHang = m.1.stopHang := (deliverParked_frame m p).stopHang
@[simp] theorem deliverParked_gateWrite (m : M) (p : Parked) : (deliverParked m p).1.1.gateWrite = m.1.gateWrite := (deliverParked_frame m p).gateWrite
@[simp] theorem deliverParked_failWrite (m : M) (p : Parked) : (deliverParked m p).1.1.failWrite = m.1.failWrite := (deliverParked_frame m p).failWrite
@[simp] theorem deliverParked_failOpen (m : M) (p : Parked) : (deliverParked m p).1.1.failOpen = m.1.failOpen := (deliverParked_frame m p).failOpen
@[simp] theorem deliverParked_failAt (m : M) (p : Parked) : (deliverParked m p).1.1.failAt = m.1.failAt := (deliverParked_frame m p).failAt
@[simp] theorem deliverParked_gateWriteDone (m : M) (p : Parked) : (deliverParked m p).1.1.gateWriteDone = m.1.gateWriteDone := (deliverParked_frame m p).gateWriteDone

end

/-- Everything but `cfg`, `infoAtAdd`, `leaked`, `isize`, `maxMeta`, `parMeta`. -/
def opW : List Fld :=
  [.info, .errC, .stopAnn, .allocator, .verifier, .completed, .completeCClosed, .doVerify, .lastErr, .loaded, .gen,
    .acceptor, .openFiles, .bf, .done, .writing, .wflag, .fileExists, .known, .bad, .peers, .dls, .idls, .mayStartI,
    .metaDone, .unchoked, .optimistic, .nUnchoke, .nOptimistic, .stopHang, .dials, .banned, .panicked, .gateOpen,
    .gateWrite, .gateRead, .failWrite, .failOpen, .failAt, .gateWriteDone, .sto, .mayStart, .closedDl, .persisted,
    .tainted]

structure Fr_handle (s s' : St) : Prop where
  cfg : s'.cfg = s.cfg
  infoAtAdd : s'.infoAtAdd = s.infoAtAdd
  leaked : s'.leaked = s.leaked
  isize : s'.isize = s.isize
  maxMeta : s'.maxMeta = s.maxMeta
  parMeta : s'.parMeta = s.parMeta
theorem handle_writes (s : St) (p : Parked) (kn : Nat → Bool) (op : Op) : Writes opW s (handle s p kn op).1.1 :=
  handle_arms (P := Writes opW s) s p kn op
    (fun t _ _ _ _ _ _ _ _ _ _ h => h.andThen (w₂ := [.stopHang, .persisted, .gateOpen, .gateWrite, .gateRead,
      .failWrite, .failOpen, .failAt, .gateWriteDone]) (.intro rfl))
    (.intro rfl) (start_writes _).mono (stop_noVerify_writes s).mono
    (fun _ => .mono (w₂ := opW) (.trans (w₁ := [.persisted]) (b := { s with persisted := none }) (.intro rfl)
      (handleVerifyCommand_writes (_, []))))
    (fun _ _ _ _ _ => (mutate_writes ..).mono) (fun _ _ _ _ _ _ => (acceptPeer_writes ..).mono)
    (fun _ _ _ _ _ _ _ => (handlePieceMessage_writes ..).mono) (fun _ _ _ _ => (handlePeerMessage_writes ..).mono)
    (fun _ _ _ _ _ => (handleExtHandshake_writes ..).mono) (fun _ _ _ _ _ _ => (handleMetadataData_writes ..).mono)
    (fun _ _ => (handleMetadataReject_writes ..).mono) (fun _ _ => (handlePex_writes ..).mono)
    (fun _ => (handleDhtPeers_writes ..).mono) (fun _ _ => (closePeer_writes ..).mono)
    fun _ _ => (handlePeerSnubbed_writes ..).mono
theorem handle_frame (s : St) (p : Parked) (kn : Nat → Bool) (op : Op) : Fr_handle s (handle s p kn op).1.1 :=
  have h := handle_writes s p kn op
  ⟨h.cfg, h.infoAtAdd, h.leaked, h.isize, h.maxMeta, h.parMeta⟩

structure Fr_step (s s' : St) : Prop where
  cfg : s'.cfg = s.cfg
  infoAtAdd : s'.infoAtAdd = s.infoAtAdd
  leaked : s'.leaked = s.leaked
  isize : s'.isize = s.isize
  maxMeta : s'.maxMeta = s.maxMeta
  parMeta : s'.parMeta = s.parMeta
theorem step_writes (s : St) (p : Parked) (kn : Nat → Bool) (op : Op) : Writes opW s (step s p kn op).1.st :=
  step_inv (P := Writes opW s) s p kn op
    (.mono (w₂ := opW) (.trans (w₁ := [.sto, .mayStart, .closedDl, .mayStartI]) (b := s.opStart) (.intro rfl)
      (handle_writes ..)))
    (fun m h => h.andThen (runWorkers_writes 12 m))
    fun m k i b l g h _ => h.andThen (handlePieceMessage_writes m k i b l g)
theorem step_frame (s : St) (p : Parked) (kn : Nat → Bool) (op : Op) : Fr_step s (step s p kn op).1.st :=
  have h := step_writes s p kn op
  ⟨h.cfg, h.infoAtAdd, h.leaked, h.isize, h.maxMeta, h.parMeta⟩
@[simp] theorem step_cfg (s : St) (p : Parked) (kn : Nat → Bool) (op : Op) : (step s p kn op).1.st.cfg = s.cfg := (step_frame s p kn op).cfg
@[simp] theorem step_infoAtAdd (s : St) (p : Parked) (kn : Nat → Bool) (op : Op) : (step s p kn op).1.st.infoAtAdd = s.infoAtAdd := (step_frame s p kn op).infoAtAdd
@[simp] theorem step_leaked (s : St) (p : Parked) (kn : Nat → Bool) (op : Op) : (step s p kn op).1.st.leaked = s.leaked := (step_frame s p kn op).leaked
@[simp] theorem step_isize (s : St) (p : Parked) (kn : Nat → Bool) (op : Op) : (step s p kn op).1.st.isize = s.isize := (step_frame s p kn op).isize
@[simp] theorem step_parMeta (s : St) (p : Parked) (kn : Nat → Bool) (op : Op) : (step s p kn op).1.st.parMeta = s.parMeta := (step_frame s p kn op).parMeta

/-- `handle_arms` with the peer-facing arms other than a block and a metadata block gathered into one `Writes` case
(`hpeer`: only while a peer is connected or the acceptor runs), the peer sources into another (`hdial`). -/
theorem handle_ind {P : St → Prop} (s : St) (p : Parked) (kn : Nat → Bool) (op : Op)
    (hG : ∀ (t : St) (sh : Bool) (pe : Option (List Bool)) (go gw gr fw fo : Bool) (fa : Nat) (gwd : Bool),
      pe = t.persisted ∨ pe = t.bf → P t →
      P { t with stopHang := sh, persisted := pe, gateOpen := go, gateWrite := gw, gateRead := gr, failWrite := fw,
                 failOpen := fo, failAt := fa, gateWriteDone := gwd })
    (h : P s)
    (hstart : P (start (s, [])).1)
    (hstop : P (({ s with doVerify := false }).stop false))
    (hverify : op = .verify ∨ op = .verifyHeld → P (handleVerifyCommand ({ s with persisted := none }, [])).1)
    (hmutate : ∀ f how, op = .mutate f how → s.openFiles = [] → s.errC = false → P (mutate s f how))
    (hpeer : ∀ s', Writes [.peers, .dls, .idls, .mayStartI, .unchoked, .optimistic, .mayStart, .closedDl] s s' →
      s.acceptor = true ∨ s.peers ≠ [] → P s')
    (hdial : ∀ s', Writes [.dials] s s' → P s')
    (hpiece : ∀ k i b l g, (s.findPeer k).isSome = true → s.writing = none →
      P (handlePieceMessage (s, []) k i b l g).1)
    (hmeta : ∀ k i len g, op = .metadata k i len g → (s.findPeer k).isSome = true →
      P (handleMetadataData (s, []) k i len g).1) :
    P (handle s p kn op).1.1 := by
  have peer : ∀ {k : Nat}, (s.findPeer k).isSome = true → s.acceptor = true ∨ s.peers ≠ [] := fun hk =>
    .inr fun hn => by simp [St.findPeer, hn] at hk
  exact handle_arms s p kn op hG h hstart hstop hverify hmutate
    (fun k ip fast ext bad ha => hpeer _ (acceptPeer_writes ..).mono (.inl ha)) hpiece
    (fun k msg hnp hk => hpeer _ (handlePeerMessage_writes_of_ne_piece _ k msg hnp) (peer hk))
    (fun k hm sz hp hk => hpeer _ (handleExtHandshake_writes ..).mono (peer hk)) hmeta
    (fun k hk => hpeer _ (handleMetadataReject_writes ..) (peer hk)) (fun a d => hdial _ (handlePex_writes ..))
    (fun ne => hdial _ (handleDhtPeers_writes ..)) (fun k hk => hpeer _ (closePeer_writes s k) (peer hk))
    (fun k hk => hpeer _ (handlePeerSnubbed_writes ..).mono (peer hk))

/-- The peer is closed or the block stored (`hw`), or the block completes the metadata (`ha`). -/
theorem handleMetadataData_cases (P : M → Prop) (m : M) (k i len : Nat) (g : Bool)
    (hw : ∀ s', Writes [.peers, .dls, .idls, .mayStartI, .unchoked, .optimistic, .mayStart, .closedDl] m.1 s' → P (s', m.2))
    (ha : ∀ d, HmdComplete m d k i len g → P (hmdAdopt (hmdStored m d k i g))) : P (handleMetadataData m k i len g) := by
  rw [handleMetadataData_eq]
  cases hd : m.1.idls.find? (·.k = k) with
  | none => exact hw _ (.intro rfl)
  | some d => exact hmdBlock_cases P m d k i len g hw fun hc => ha d (hc hd)

theorem handleMetadataData_ind (P : St → Prop) (m : M) (k i len : Nat) (g : Bool)
    (hw : ∀ s', Writes [.peers, .dls, .idls, .mayStartI, .unchoked, .optimistic, .mayStart, .closedDl] m.1 s' → P s')
    (ha : ∀ m' : M, Writes [.idls] m.1 m'.1 → P (hmdAdopt m').1) : P (handleMetadataData m k i len g).1 :=
  handleMetadataData_cases (fun x => P x.1) m k i len g hw fun _ _ => ha _ (.intro rfl)

theorem handleMetadataData_info_cases (m : M) (k i len : Nat) (good : Bool) :
    (handleMetadataData m k i len good).1.info = m.1.info ∨ ∃ d, HmdComplete m d k i len good :=
  handleMetadataData_cases (fun x => x.1.info = m.1.info ∨ ∃ d, HmdComplete m d k i len good) m k i len good
    (fun _ hW => .inl hW.info) fun d hc => .inr ⟨d, hc⟩

/-- `info` turns true only when the message completes a download with the right hash and `parseInfo` accepts the
dictionary. -/
theorem handleMetadataData_adopts (m : M) (k i len : Nat) (good : Bool) (h0 : m.1.info = false)
    (h1 : (handleMetadataData m k i len good).1.info = true) :
    ∃ d, HmdComplete m d k i len good ∧ m.1.cfg.n ≤ m.1.cfg.maxPieces ∧ m.1.cfg.isPrivate = false := by
  rcases handleMetadataData_info_cases m k i len good with h | ⟨d, hc⟩
  · rw [h, h0] at h1; cases h1
  · rw [handleMetadataData_complete m d k i len good hc, hmdAdopt_info_eq] at h1
    have h0' : (hmdStored m d k i good).1.info = false := h0
    have hcfg : (hmdStored m d k i good).1.cfg = m.1.cfg := rfl
    rw [h0', hcfg] at h1
    exact ⟨d, hc, by simpa using h1⟩

/-- Metadata received from peers is never adopted when `parseInfo` refuses it (too many pieces, or marked private). -/
theorem handleMetadataData_info_refused (m : M) (k i len : Nat) (good : Bool)
    (h : m.1.cfg.n > m.1.cfg.maxPieces ∨ m.1.cfg.isPrivate = true) :
    (handleMetadataData m k i len good).1.info = m.1.info := by
  rcases handleMetadataData_info_cases m k i len good with h' | ⟨d, hc⟩
  · exact h'
  · rw [handleMetadataData_complete m d k i len good hc, hmdAdopt_refused (hmdStored m d k i good) h]
    simp [hmdStored]

end Rain.Loop
