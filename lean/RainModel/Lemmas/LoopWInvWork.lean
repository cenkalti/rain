import RainModel.Lemmas.LoopWInvCmd
/-!
`WInv` (continued): the worker completions — piece write, allocation, verification — and, next to them, that
allocation and verification reach no panic site (they replay the queues, which hold no block: `QueueOK` through `WFrame`).
-/
namespace Rain.Loop

theorem getD_setAt_false {l : List Bool} {p i : Nat} (h : (setAt l p false).getD i false = true) :
    l.getD i false = true ∧ i ≠ p := by
  rw [getD_setAt] at h
  split at h
  · cases h
  · next hn =>
    refine ⟨h, fun e => hn ⟨e, Decidable.by_contra fun hge => ?_⟩⟩
    simp [List.getD, List.getElem?_eq_none (Nat.le_of_not_lt hge)] at h

theorem pwdReset_winv (m : M) (w w0 : WriteJob) (h : WInv m.1) (hw : m.1.writing = some w0)
    (hwp : w.piece = w0.piece) (hwg : w.gen = w0.gen) :
    WInv (pwdReset m w).1 ∧ (pwdReset m w).1.writing = none := by
  refine ⟨⟨h.q, ?_, nofun, nofun, ?_, nofun, h.bd, h.dd, h.dl, h.al, h.id⟩, rfl⟩
  · intro hl i hi
    have hl0 : m.1.loaded = true := hl
    simp only [pwdReset, onSt_fst] at hi
    -- a flag that is still set was set before: it is that of the job's piece, which has just been cleared
    have hi0 : m.1.wflag.getD i false = true := by
      split at hi
      · exact (getD_setAt_false hi).1
      · exact hi
    obtain ⟨w', hw', hp', hg'⟩ := h.wf hl0 i hi0
    cases hw.symm.trans hw'
    rw [if_pos (hwg.trans hg')] at hi
    exact absurd (hp'.symm.trans hwp.symm) (getD_setAt_false hi).2
  · intro hl
    have := h.wl hl
    simp only [pwdReset, onSt_fst]
    split
    · simpa [setAt, St.n] using this
    · exact this

theorem pwdBan_wframe (m : M) (w : WriteJob) : WFrame m.1 (pwdBan m w).1 :=
  .of_shrinks (pwdBan_writes m w) (pwdBan_shrinks m w (.refl _))

theorem foldl_closeStart_dls (ks : List Nat) (x : M) :
    ∀ d ∈ (ks.foldl (fun m k => onSt m fun s => (s.closeDl k).startDlFor k) x).1.dls,
      d ∈ x.1.dls ∧ ∀ k ∈ ks, d.k ≠ k := by
  induction ks generalizing x with
  | nil => intro d hd; exact ⟨hd, fun k hk => by cases hk⟩
  | cons a ks ih =>
    intro d hd
    obtain ⟨h1, h2⟩ := ih _ d hd
    simp only [onSt_fst, startDlFor_dls, closeDl_dls, List.mem_filter] at h1
    refine ⟨h1.1, fun k hk => ?_⟩
    rcases List.mem_cons.1 hk with rfl | hk
    · simpa using h1.2
    · exact h2 k hk

theorem pwdOthers_dls (m : M) (w : WriteJob) :
    (∀ d ∈ (pwdOthers m w).1.dls, d ∈ m.1.dls) ∧
    (m.1.loaded = true → m.1.completed = false → ∀ d ∈ (pwdOthers m w).1.dls, d.piece ≠ w.piece) := by
  unfold pwdOthers
  dsimp only
  constructor
  · intro d hd
    exact (foldl_closeStart_dls _ _ d hd).1
  · intro hl hc d hd hp
    obtain ⟨h1, h2⟩ := foldl_closeStart_dls _ _ d hd
    apply h2 d.k _ rfl
    simp only [hl, hc, Bool.not_false, Bool.and_self, if_true, List.mem_map, List.mem_filter]
    exact ⟨d, ⟨h1, by simpa using hp⟩, rfl⟩

/-- The successful write of a current job: bit and `done` set together, the other downloads of the piece
closed. -/
theorem pwdOthers_winv (m : M) (w : WriteJob) (b : List Bool) (h : WInv m.1) (hw : m.1.writing = none)
    (hl : m.1.loaded = true) (hv : m.1.verifier = false) (hb : m.1.bf = some b) :
    WInv (pwdOthers (pwdSet (pwdDone m w) w b) w).1 := by
  have P : Writes [.done, .bf, .panicked] m.1 (pwdSet (pwdDone m w) w b).1 := .intro (by frame)
  have W : Writes [.done, .bf, .panicked, .dls, .mayStart, .closedDl] m.1 (pwdOthers (pwdSet (pwdDone m w) w b) w).1 :=
    .intro (by frame)
  have hdone : (pwdOthers (pwdSet (pwdDone m w) w b) w).1.done = setAt m.1.done w.piece true :=
    (pwdOthers_writes _ w).done.trans (pwdSet_writes _ w b).done
  have hbf : (pwdOthers (pwdSet (pwdDone m w) w b) w).1.bf = some (setAt b w.piece true) :=
    (pwdOthers_writes _ w).bf
  obtain ⟨hlen, hbits⟩ := h.bd hl hv b hb
  obtain ⟨hsub, hnp⟩ := pwdOthers_dls (pwdSet (pwdDone m w) w b) w
  have hdls0 : ∀ d ∈ (pwdOthers (pwdSet (pwdDone m w) w b) w).1.dls, d ∈ m.1.dls :=
    fun d hd => P.dls ▸ hsub d hd
  have hn := W.writing.trans hw
  refine ⟨h.q.of_peers W.peers, fun _ i hi => Bool.noConfusion ((h.no_flag hw hl i).symm.trans (W.wflag ▸ hi)),
    fun _ e => (nomatch hn.symm.trans e), fun _ e => (nomatch hn.symm.trans e),
    by rw [W.wflag, W.n]; exact fun _ => h.wl hl, fun _ e => (nomatch hn.symm.trans e), ?_, ?_, ?_, ?_, ?_⟩
  · intro _ _ b' hb'
    rw [hbf] at hb'
    cases hb'
    rw [hdone]
    refine ⟨by simpa [setAt] using hlen, fun i hi => ?_⟩
    rw [getD_setAt] at hi ⊢
    split at hi
    · next hc => rw [if_pos ⟨hc.1, Nat.lt_of_lt_of_le hc.2 hlen⟩]
    · have := hbits i hi
      split
      · rfl
      · exact this
  · intro d hd
    have hd0 := hdls0 d hd
    rw [hdone, getD_setAt]
    have hc : m.1.completed = false := (h.dl (List.ne_nil_of_mem hd0)).2.2.2
    have hne := hnp (P.loaded.trans hl) (P.completed.trans hc) d hd
    rw [if_neg (fun hh => hne hh.1)]
    exact h.dd d hd0
  · intro hne
    obtain ⟨d, hd⟩ := List.exists_mem_of_ne_nil _ hne
    rw [W.loaded, W.allocator, W.verifier, W.completed]
    exact h.dl (List.ne_nil_of_mem (hdls0 d hd))
  · rw [W.allocator, W.loaded]; exact h.al
  · rw [W.info, W.idls]; exact h.id

theorem pwdHaves_wframe (m : M) (w : WriteJob) : WFrame m.1 (pwdHaves m w).1 :=
  .of_shrinks (pwdHaves_writes m w) (pwdHaves_shrinks m w (.refl _))

theorem WInv.cur_bit {s : St} (h : WInv s) (l : Life s) (c : CompInv s) {w : WriteJob} (hw : s.writing = some w)
    (hg : w.gen = s.gen) (hl : s.loaded = true) : ∃ b, s.bf = some b ∧ b.getD w.piece false = false := by
  obtain ⟨hv, hbit⟩ := h.wc w hw hg hl
  have hr := l.running_of_loaded hl
  have hal : s.allocator = false := by
    cases ha : s.allocator
    · rfl
    · have := h.al ha; rw [hl] at this; cases this
  have hinfo := l.info_of fun i => Bool.noConfusion (i.2.2.1.symm.trans hl)
  have hbf := c.run hr.1 hr.2 hal hv hinfo
  cases hb : s.bf with
  | none => rw [hb] at hbf; cases hbf
  | some b => exact ⟨b, rfl, by simpa [hb] using hbit⟩

/-- `handlePieceWriteDone` for the job in flight (a stale result is ignored by the handler itself: fix C04-F9). -/
theorem handlePieceWriteDone_winv' (m : M) (w w0 : WriteJob) (e : Bool) (h : WInv m.1) (l : Life m.1) (c : CompInv m.1)
    (hw : m.1.writing = some w0) (hwp : w.piece = w0.piece) (hwg : w.gen = w0.gen) :
    WInv (handlePieceWriteDone m w e).1 := by
  obtain ⟨h0, hw0⟩ := pwdReset_winv m w w0 h hw hwp hwg
  refine handlePieceWriteDone_cases (P := fun x => WInv x.1) m w e (fun _ => h0.frame (pwdBan_wframe _ _))
    (fun _ _ => h0) (fun _ _ _ _ => onSt_stop _ _ _ (stop_winv _ _ h0)) (fun _ _ hg hl hb => ?_) fun b _ _ hg hl hb => ?_
  · obtain ⟨b0, hb0, _⟩ := h.cur_bit l c hw (hwg.symm.trans hg) hl
    cases hb.symm.trans hb0
  · unfold pwdOk
    exact pwdFinish_winv _ ((pwdOthers_winv (pwdReset m w) w b h0 hw0 hl
      (h.wc w0 hw (hwg.symm.trans hg) hl).1 hb).frame (pwdHaves_wframe _ _))

theorem handlePieceWriteDone_winv (m : M) (w : WriteJob) (e : Bool) (h : WInv m.1) (l : Life m.1) (c : CompInv m.1)
    (hw : m.1.writing = some w) : WInv (handlePieceWriteDone m w e).1 :=
  handlePieceWriteDone_winv' m w w e h l c hw rfl rfl

/-- The job's storage calls have returned; its result is held (`gate writeDone`). -/
theorem WInv.setWritten {s : St} (h : WInv s) {w : WriteJob} (hw : s.writing = some w) :
    WInv { s with writing := some { w with written := true } } := by
  refine ⟨h.q, fun hl i hi => ?_, ?_, ?_, h.wl, ?_, h.bd, h.dd, h.dl, h.al, h.id⟩
  · obtain ⟨w0, a, b, c⟩ := h.wf hl i hi
    cases hw.symm.trans a
    exact ⟨_, rfl, b, c⟩
  · intro w0 a; cases a; exact h.wg w hw
  · intro w0 a; cases a; exact h.wc w hw
  · intro w0 a; cases a; exact h.wd w hw

theorem writerRun_winv (m : M) (w : WriteJob) (h : WInv m.1) (l : Life m.1) (c : CompInv m.1)
    (hw : m.1.writing = some w) : WInv (writerRun m w).1 :=
  writerRun_job (P := fun x => WInv x.1) m w
    (fun _ _ _ _ _ => handlePieceWriteDone_winv' _ _ w _ (h.frame (by wframe_eq)) (l.congr (by lframe))
      (c.of_frame rfl rfl rfl rfl rfl rfl rfl rfl) hw rfl rfl)
    fun sto bad => (h.frame (by wframe_eq : WFrame m.1 { m.1 with sto := sto, bad := bad })).setWritten hw

/-- While the verifier runs on loaded pieces any write in flight is stale, no `Writing` flag is set and nothing is
downloaded: a step that ends the verification — it writes `verifier`, the bitfield, `done`, the completion flags and
what `WInv` does not read — has to keep the bits below `done`, nothing else. -/
theorem WInv.verified {v : List Fld} {s s' : St} (h : WInv s) (hv : s.verifier = true) (hl : s.loaded = true)
    (W : Writes v s s')
    (hbd : s'.verifier = false → ∀ b, s'.bf = some b →
      b.length ≤ s'.done.length ∧ ∀ i, b.getD i false = true → s'.done.getD i false = true)
    (hw : ∀ x ∈ [Fld.cfg, .wflag, .writing, .gen, .loaded, .allocator, .info, .peers, .dls, .idls], x ∉ v := by decide) :
    WInv s' := by
  simp only [List.forall_mem_cons, List.not_mem_nil, false_imp_iff, implies_true, and_true] at hw
  obtain ⟨w1, w2, w3, w4, w5, w6, w7, w8, w9, w10⟩ := hw
  have hg : ∀ w, s.writing = some w → w.gen ≤ s.gen ∧ (s.loaded = true → w.gen ≠ s.gen) := fun w hw =>
    ⟨h.wg w hw, fun _ hg => Bool.noConfusion ((h.wc w hw hg hl).1.symm.trans hv)⟩
  refine .of_noJob (by rw [W.writing w3, W.gen w4, W.loaded w5]; exact hg) (fun _ i => ?_)
    (fun _ => by rw [W.wflag w2, W.n w1]; exact h.wl hl)
    ((W.dls w9).trans (h.no_dls fun c => Bool.noConfusion (hv.symm.trans c.2.2.1))) (h.q.of_peers (W.peers w8))
    (fun _ => hbd) (by rw [W.allocator w6, W.loaded w5]; exact h.al) (by rw [W.info w7, W.idls w10]; exact h.id)
  rw [W.wflag w2]
  refine Bool.eq_false_iff.2 fun hi => ?_
  obtain ⟨w, hw, _, e⟩ := h.wf hl i hi
  exact (hg w hw).2 hl e

theorem markPaddingPieces_same (s : St) (b : List Bool) (hb : s.bf = some b) (hd : s.done = b) :
    ∃ L, s.markPaddingPieces.bf = some L ∧ s.markPaddingPieces.done = L := by
  unfold St.markPaddingPieces
  rw [hb]
  exact ⟨_, rfl, by simp [hd]⟩

theorem bd_of_same {s : St} (L : List Bool) (h1 : s.bf = some L) (h2 : s.done = L) :
    ∀ b, s.bf = some b → b.length ≤ s.done.length ∧ ∀ i, b.getD i false = true → s.done.getD i false = true := by
  intro b hb
  rw [h1] at hb; cases hb
  rw [h2]
  exact ⟨Nat.le_refl _, fun i hi => hi⟩

theorem hadInstall_queueOK (m : M) (mi : Bool) (hq : QueueOK m.1) : QueueOK (hadForget (hadInstall m) mi).1 :=
  QueueOK.of_peers ((hadInstall_shrinks m (.refl _)).queueOK hq) (hadForget_writes _ mi).peers

theorem handleAllocationDone_winv (m : M) (ex mi : Bool) (h : WInv m.1) (ha : m.1.allocator = true) :
    WInv (handleAllocationDone m ex mi).1 := by
  have W0 := (hadInstall_writes m).trans (hadForget_writes _ mi)
  have F := hadForget_writes (hadInstall m) mi
  have xl : (hadForget (hadInstall m) mi).1.loaded = true := F.loaded
  have xd : (hadForget (hadInstall m) mi).1.done = List.replicate (hadForget (hadInstall m) mi).1.n false := by
    rw [F.done, W0.n]; rfl
  -- the pieces have been loaded (and the bitfield forgotten if files were missing): with the verifier started the
  -- invariant holds, any write in flight being stale now
  have ver : WInv (onSt (hadForget (hadInstall m) mi) fun s => { s with verifier := true }).1 := by
    have hf : (hadForget (hadInstall m) mi).1.wflag = List.replicate m.1.n false := F.wflag
    have hg : ∀ w, m.1.writing = some w → w.gen < (hadForget (hadInstall m) mi).1.gen := fun w hw =>
      Nat.lt_of_lt_of_eq (Nat.lt_succ_of_le (h.wg w hw)) (F.gen : _ = m.1.gen + 1).symm
    exact .of_noJob
      (fun w hw => ⟨Nat.le_of_lt (hg w (W0.writing.symm.trans hw)), fun _ => Nat.ne_of_lt (hg w (W0.writing.symm.trans hw))⟩)
      (fun _ i => (congrArg (·.getD i false) hf).trans (getD_replicate_false ..))
      (fun _ => (congrArg List.length hf).trans ((List.length_replicate ..).trans W0.n.symm))
      (W0.dls.trans (h.no_dls fun c => Bool.noConfusion (ha.symm.trans c.2.1))) (hadInstall_queueOK m mi h.q)
      (fun _ hv => nomatch hv) (fun ha' => nomatch (F.allocator : _ = false).symm.trans ha')
      fun hi => W0.idls.trans (h.id (W0.info.symm.trans hi))
  clear W0 F
  generalize hX : hadForget (hadInstall m) mi = X at *
  -- the other arms end that verification at once, with a bitfield equal to `done`
  have fresh : WInv (hadFresh X).1 := by
    have R := resetCompletion_writes { X.1 with bf := some (List.replicate X.1.n false) }
    obtain ⟨L, hL1, hL2⟩ := markPaddingPieces_same _ (List.replicate X.1.n false) R.bf (R.done.trans xd)
    have hi : WInv (hadFreshInstall X).1 :=
      ver.verified rfl xl ((.intro rfl : Writes [.verifier] { X.1 with verifier := true } X.1).trans (hadFreshInstall_writes X))
        fun _ => bd_of_same L hL1 hL2
    exact hadFresh_cases (P := fun x => WInv x.1) X (fun _ => onSt_stop _ _ _ (stop_winv _ _ (hi.frame (by wframe_eq))))
      fun _ => hadCheck_winv _ hi
  have trust : ∀ b, X.1.bf = some b → WInv (hadTrust X b).1 := fun b hb => by
    obtain ⟨L, hL1, hL2⟩ := markPaddingPieces_same { X.1 with done := b } b hb rfl
    exact hadCheck_winv _ (ver.verified rfl xl
      ((.intro rfl : Writes [.verifier, .done] { X.1 with verifier := true } { X.1 with done := b }).trans (markPaddingPieces_writes _))
      fun _ => bd_of_same L hL1 hL2)
  subst hX
  exact handleAllocationDone_cases (P := fun x => WInv x.1) m ex mi (fun b hb _ => trust b hb) (fun _ _ => fresh) fun _ _ => ver

theorem allocatorRun_winv (m : M) (h : WInv m.1) (ha : m.1.allocator = true) :
    WInv (allocatorRun m).1 := by
  refine allocatorRun_cases (P := fun x => WInv x.1) m (fun _ => ?_) fun _ => ?_
  · have A := (allocFailOpen_writes m).trans (hadForget_writes _ (allocFailMissing m.1))
    exact onSt_stop _ _ _ (stop_winv _ _ (h.unloaded_of_writes A (h.al ha)
      (h.no_dls fun c => Bool.noConfusion (ha.symm.trans c.2.1))))
  · exact handleAllocationDone_winv _ _ _ (h.frame (by wframe_eq)) ((allocOkOpen_writes m).allocator.trans ha)

/-- `handleAllocationDone`: the completion check on a fresh or trusted bitfield never panics when the
completion flags agree. -/
theorem handleAllocationDone_no_panic (m : M) (ex mi : Bool) (hcc : m.1.completeCClosed = m.1.completed)
    (hq : QueueOK m.1) : (handleAllocationDone m ex mi).1.panicked = m.1.panicked := by
  have hq0 := hadInstall_queueOK m mi hq
  have W0 := (hadInstall_writes m).trans (hadForget_writes _ mi)
  have hcc0 : (hadForget (hadInstall m) mi).1.completeCClosed = (hadForget (hadInstall m) mi).1.completed := by
    rw [W0.completeCClosed, W0.completed]; exact hcc
  have hp0 : (hadForget (hadInstall m) mi).1.panicked = m.1.panicked := W0.panicked
  clear W0
  generalize hX : hadForget (hadInstall m) mi = X at *
  have fresh : (hadFresh X).1.panicked = m.1.panicked := by
    have F := hadFreshInstall_writes X
    refine hadFresh_cases (P := fun x => x.1.panicked = m.1.panicked) X
      (fun _ => (stop_panicked _ _).trans (F.panicked.trans hp0)) fun _ => ?_
    · rw [hadCheck_no_panic]
      · exact F.panicked.trans hp0
      · simp only [hadFreshInstall, St.markPaddingPieces, onSt_fst, (resetCompletion_writes _).bf, Option.isSome_some]
      · unfold hadFreshInstall
        rw [onSt_fst, (markPaddingPieces_writes _).completeCClosed, (markPaddingPieces_writes _).completed,
          (resetCompletion_truthful { X.1 with bf := some (List.replicate X.1.n false) } hcc0).cc]
        exact id
      · exact hq0.of_peers F.peers
  have trust : ∀ b, X.1.bf = some b → (hadTrust X b).1.panicked = m.1.panicked := fun b hb => by
    unfold hadTrust
    rw [hadCheck_no_panic]
    · exact (markPaddingPieces_writes _).panicked.trans hp0
    · simp only [St.markPaddingPieces, onSt_fst, hb, Option.isSome_some]
    · simp only [onSt_fst, (markPaddingPieces_writes _).completeCClosed, (markPaddingPieces_writes _).completed]
      exact fun h => hcc0 ▸ h
    · exact hq0.of_peers (markPaddingPieces_writes _).peers
  subst hX
  exact handleAllocationDone_cases (P := fun x => x.1.panicked = m.1.panicked) m ex mi (fun b hb _ => trust b hb)
    (fun _ _ => fresh) fun _ _ => hp0

theorem allocatorRun_no_panic (m : M) (hcc : m.1.completeCClosed = m.1.completed) (hq : QueueOK m.1) :
    (allocatorRun m).1.panicked = m.1.panicked :=
  have O := allocOkOpen_writes m
  allocatorRun_cases (P := fun x => x.1.panicked = m.1.panicked) m
    (fun _ => (stop_panicked _ _).trans ((hadForget_writes _ _).panicked.trans (allocFailOpen_writes m).panicked))
    fun _ => ((handleAllocationDone_no_panic _ _ _ (by rw [O.completeCClosed, O.completed]; exact hcc)
      (hq.of_peers O.peers)).trans O.panicked)

theorem hvdHaves_wframe (m : M) : WFrame m.1 (hvdHaves m).1 :=
  .of_shrinks (hvdHaves_writes m) (hvdHaves_shrinks m (.refl _))

theorem handleVerificationDone_winv (m : M) (h : WInv m.1) (l : Life m.1) (hv : m.1.verifier = true) :
    WInv (handleVerificationDone m).1 := by
  have h0 : WInv (hvdInstall m).1 := by
    have R := hvdInstall_writes_pre m
    refine h.verified hv (l.ver hv) (hvdInstall_writes m) fun _ b hb => ?_
    -- the verifier's bitfield `diskOK` has been added to `done`
    have hbf : (hvdInstall m).1.bf = some m.1.diskOK := R.bf.trans (writeBitfield_writes _).bf
    have hdn : (hvdInstall m).1.done =
        (List.range m.1.n).map fun i => m.1.done.getD i false || m.1.diskOK.getD i false := R.done
    rw [hbf] at hb; cases hb
    rw [hdn]
    refine ⟨by simp [St.diskOK], fun i hi => ?_⟩
    have hin := ((diskOK_getD m.1 i).1 hi).1
    simp only [List.getD_eq_getElem?_getD] at hi ⊢
    simp [hin, hi]
  exact handleVerificationDone_cases (P := fun x => WInv x.1) m
    (fun _ => onSt_stop _ _ _ (stop_winv _ _ (h0.frame (by wframe_eq)))) fun _ => hadCheck_winv _ (h0.frame (hvdHaves_wframe _))

/-- `handleVerificationDone`: the bitfield has just been installed; the completion check does not panic
when the completion flags agree. -/
theorem handleVerificationDone_no_panic (m : M) (hcc : m.1.completeCClosed = m.1.completed) (hq : QueueOK m.1)
    (hp : m.1.panicked = none) : (handleVerificationDone m).1.panicked = none := by
  have hpan := hvdInstall_no_panic m hp
  have hbf : (hvdInstall m).1.bf.isSome = true := by rw [(hvdInstall_writes_pre m).bf]; rfl
  have hcc0 : (hvdPre m).1.completeCClosed = (hvdPre m).1.completed := by
    rw [(hvdPre_writes m).completeCClosed, (hvdPre_writes m).completed]; exact hcc
  have hcc1 : (hvdInstall m).1.completeCClosed = (hvdInstall m).1.completed := by
    rw [hvdInstall_eq, onSt_fst]
    split
    · exact (resetCompletion_truthful _ hcc0).cc
    · exact hcc0
  have H := hvdHaves_writes (hvdInstall m)
  refine handleVerificationDone_cases (P := fun x => x.1.panicked = none) m (fun _ => (stop_panicked _ _).trans hpan)
    fun _ => ?_
  · rw [hadCheck_no_panic]
    · exact H.panicked.trans hpan
    · exact H.bf ▸ hbf
    · rw [H.completeCClosed, H.completed, hcc1]; exact id
    · exact (hq.of_peers (hvdInstall_writes m).peers).frame (hvdHaves_wframe _)

end Rain.Loop
