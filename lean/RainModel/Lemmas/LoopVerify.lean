import RainModel.Lemmas.LoopNoPanic
/-!
How an op ends that leaves the torrent winding down (`Winding`): stopped or stopping with no verification requested,
or with a requested verification that nothing holds up.  First what the allocation and the verification leave behind
when a verify is pending: through the verifier when some file exists, straight from the allocation result when none
does (fix for finding C04-F4) — `alloc_verify_settles`, `ver_verify_settles`.  Then `runWorkers_winds` follows the
workers, `step_winds` is the whole step; the stop commands, the verify commands (on a stopped and on a running torrent)
and the stop timeout are instances.
-/
namespace Rain.Loop

theorem runWorkers_alloc (n : Nat) (m : M) (h1 : m.1.panicked = none) (h2 : m.1.stopAnn = false)
    (h3 : m.1.allocator = true) (h4 : m.1.gateOpen = false) :
    runWorkers (n + 1) m = runWorkers n (allocatorRun m) := by
  rw [runWorkers_succ]; simp [h1, h2, h3, h4]

theorem runWorkers_ver (n : Nat) (m : M) (h1 : m.1.panicked = none) (h2 : m.1.stopAnn = false)
    (h3 : m.1.allocator = false) (h4 : m.1.verifier = true) (h5 : m.1.gateRead = false) :
    runWorkers (n + 1) m = runWorkers n (handleVerificationDone m) := by
  rw [runWorkers_succ]; simp [h1, h2, h3, h4, h5]

/-- Some non-padding file of the torrent exists in the storage. -/
def SomeFileExists (s : St) : Prop :=
  ((List.range s.cfg.flens.length).filter (fun i => !(s.cfg.fpads.getD i false))).any
    (fun i => s.fileExists.getD i false) = true

/-- **How a requested verification ends**: the request is cleared and the running torrent stopped (`hadFresh`,
`handleVerificationDone`); the stop announcer reports, or waits for a hanging tracker. -/
theorem verifyEnd_settles (n : Nat) (m : M) {hang : Bool} (he : m.1.errC = true) (hp : m.1.panicked = none)
    (hh : m.1.stopHang = hang) (hl : Life (onSt m fun s => ({ s with doVerify := false }).stop false).1) :
    Ends hang false (runWorkers (n + 1) (onSt m fun s => ({ s with doVerify := false }).stop false)).1 :=
  settle_not_running n _ hl ((stop_panicked _ _).trans hp) (stop_doVerify_false _ _ rfl)
    (.inr (stop_stopAnn_of_errC _ _ he)) ((stop_stopHang _ _).trans hh)

/-- A verifier that runs for a requested verification runs to the end: `handleVerificationDone` installs the bitfield
and the verification ends. -/
theorem ver_verify_settles (n : Nat) (r : M) {hang : Bool} (hl : Life r.1) (a1 : r.1.panicked = none)
    (a2 : r.1.stopAnn = false) (a3 : r.1.allocator = false) (a4 : r.1.verifier = true) (a5 : r.1.gateRead = false)
    (a6 : r.1.doVerify = true) (a9 : r.1.errC = true) (hh : r.1.stopHang = hang) :
    Ends hang false (runWorkers (n + 2) r).1 := by
  have W := hvdInstall_writes r
  rw [runWorkers_ver (n + 1) r a1 a2 a3 a4 a5]
  exact handleVerificationDone_cases (P := fun x => Life x.1 → Ends hang false (runWorkers (n + 1) x).1) r
    (fun _ => verifyEnd_settles n _ (W.errC.trans a9) (hvdInstall_no_panic r a1) (W.stopHang.trans hh))
    (fun hd => Bool.noConfusion (hd.symm.trans (W.doVerify.trans a6))) (handleVerificationDone_life _ hl a4)

/-- The allocator of a restart-for-verify runs to the end: if some file exists the files are opened and verified
(`ver_verify_settles`); if none exists the allocation result itself ends the verification (fix for finding C04-F4). -/
theorem alloc_verify_settles (n : Nat) (r : M) {hang : Bool} (hl : Life r.1) (a1 : r.1.panicked = none)
    (a2 : r.1.stopAnn = false) (a3 : r.1.allocator = true) (a6 : r.1.doVerify = true) (a7 : r.1.bf = none)
    (a8 : r.1.failOpen = false) (a9 : r.1.errC = true) (a4 : r.1.gateOpen = false) (a5 : r.1.gateRead = false)
    (hh : r.1.stopHang = hang) : Ends hang false (runWorkers (n + 3) r).1 := by
  rw [runWorkers_alloc (n + 2) r a1 a2 a3 a4]
  refine allocatorRun_cases (P := fun x => Life x.1 → Ends hang false (runWorkers (n + 2) x).1) r
    (fun hf => by simp [allocFailing, a8] at hf) (fun _ => ?_) (allocatorRun_life r hl a3)
  -- the files are open, the pieces installed; there is no bitfield to trust
  generalize ((allocData r.1).any fun i => !(r.1.fileExists.getD i false)) = mi
  have W := (allocOkOpen_writes r).trans ((hadInstall_writes _).trans (hadForget_writes _ mi))
  have ha : (hadForget (hadInstall (allocOkOpen r)) mi).1.allocator = false := (hadForget_writes _ mi).allocator
  refine handleAllocationDone_cases (P := fun x => Life x.1 → Ends hang false (runWorkers (n + 2) x).1) _ _ _
    (fun b h _ => nomatch (hadForget_bf_none (hadInstall (allocOkOpen r)) mi a7).symm.trans h) (fun _ _ => ?_) fun _ _ => ?_
  all_goals generalize hadForget _ mi = X at W ha
  · -- nothing on disk: a fresh bitfield, nothing to verify
    have F := hadFreshInstall_writes X
    exact hadFresh_cases (P := fun x => Life x.1 → Ends hang false (runWorkers (n + 2) x).1) X
      (fun _ => verifyEnd_settles (n + 1) _ (F.errC.trans (W.errC.trans a9)) (F.panicked.trans (W.panicked.trans a1))
        (F.stopHang.trans (W.stopHang.trans hh)))
      fun hd => Bool.noConfusion (hd.symm.trans (F.doVerify.trans (W.doVerify.trans a6)))
  · exact fun hl' => ver_verify_settles n _ hl' (W.panicked.trans a1) (W.stopAnn.trans a2) ha rfl
      (W.gateRead.trans a5) (W.doVerify.trans a6) (W.errC.trans a9) (W.stopHang.trans hh)

theorem stop_gates_off (s : St) (e : Bool) (ho : s.gateOpen = false) (hr : s.gateRead = false) :
    (s.stop e).gateOpen = false ∧ (s.stop e).gateRead = false := by
  refine stop_cases (P := fun t => t.gateOpen = false ∧ t.gateRead = false) s e ⟨ho, hr⟩ fun _ => ?_
  -- of the pieces of `stopRun` only `stopAlloc` writes `gateOpen` and only `stopVer` writes `gateRead`
  have h1 := (stopA_writes s e).trans ((stopPeers_writes _).trans ((stopClear_writes _).trans
    ((stopWB_writes _).trans (closeData_writes _))))
  constructor
  · refine ((stopVer_writes _).trans (stopFin_writes _)).gateOpen.trans ?_
    unfold stopAlloc
    split
    · rfl
    · exact h1.gateOpen.trans ho
  · refine (stopFin_writes _).gateRead.trans ?_
    unfold stopVer
    split
    · rfl
    · exact (stopAlloc_writes _).gateRead.trans (h1.gateRead.trans hr)

/-- The torrent is on its way to `Stopped`: not running with no verification requested — or with a request (`DV` says
where it stands: stopping, or allocating or verifying without a bitfield) that nothing holds up: the metadata is
known, the storage does not fail, both storage gates are released. -/
structure Winding (r : St) : Prop where
  life : Life r
  dv : DV r
  pan : r.panicked = none
  quiet : r.doVerify = false → r.errC = false ∨ r.stopAnn = true
  go : r.doVerify = true → r.info = true ∧ r.failOpen = false ∧ r.gateOpen = false ∧ r.gateRead = false

theorem handleStopped_stopAnn (m : M) : (handleStopped m).1.stopAnn = false :=
  ite_ind (P := fun x : M => x.1.stopAnn = false) (fun _ => (startCore_fields _).2.1) fun _ => rfl

/-- A requested verification on a running torrent: its allocator or its verifier is at work (`DV`), and runs to the end. -/
theorem running_verify_settles (n : Nat) (r : M) {hang : Bool} (h : Winding r.1) (hd : r.1.doVerify = true)
    (hs : r.1.stopAnn = false) (hh : r.1.stopHang = hang) : Ends hang false (runWorkers (n + 3) r).1 := by
  obtain ⟨hi, hf, hgo, hgr⟩ := h.go hd
  obtain ⟨he, hph⟩ := h.dv hd
  obtain ⟨hb, ha | hv | hni⟩ := hph.resolve_left (hs ▸ Bool.false_ne_true)
  · exact alloc_verify_settles n r h.life h.pan hs ha hd hb hf he hgo hgr hh
  · cases ha : r.1.allocator
    · exact ver_verify_settles (n + 1) r h.life h.pan hs ha hv hgr hd he hh
    · exact alloc_verify_settles n r h.life h.pan hs ha hd hb hf he hgo hgr hh
  · exact absurd (hni.symm.trans hi) Bool.false_ne_true

/-- **The workers bring a winding-down torrent to `Stopped`**, the request gone — unless a tracker does not answer:
then it is `Stopping`, and a request that was waiting for the stop to complete still is. -/
theorem runWorkers_winds (n : Nat) (r : M) (h : Winding r.1) :
    Ends r.1.stopHang (r.1.stopAnn && r.1.doVerify) (runWorkers (n + 4) r).1 := by
  cases hd : r.1.doVerify
  · rw [Bool.and_false]
    exact settle_not_running (n + 3) r h.life h.pan hd (h.quiet hd) rfl
  cases hs : r.1.stopAnn
  · exact running_verify_settles (n + 1) r h hd hs rfl
  cases hh : r.1.stopHang
  · -- the stop announcer reports, `handleStopped` restarts the torrent without its bitfield: the request goes on
    have W := handleStopped_writes r
    have hd' := W.doVerify.trans hd
    rw [runWorkers_stopped (n + 3) r h.pan hs hh]
    exact .inl (running_verify_settles n (handleStopped r) ⟨handleStopped_life r h.life hs, handleStopped_dv r,
      (handleStopped_no_panic r ⟨(h.life.idle (.inr hs)).1, (h.life.idle (.inr hs)).2.1⟩).trans h.pan,
      fun hn => Bool.noConfusion (hn.symm.trans hd'),
      fun _ => by rw [W.info, W.failOpen, W.gateOpen, W.gateRead]; exact h.go hd⟩
      hd' (handleStopped_stopAnn r) (W.stopHang.trans hh)).stopped
  · exact Ends.workers _ r h.life (.inr ⟨rfl, (status_stopping_iff _).2 ⟨h.life.sa hs, hs⟩, hh, hd⟩)

theorem step_winds (s : St) (p : Parked) (kn : Nat → Bool) (op : Op) (h : Winding (handle s.opStart p kn op).1.1) :
    Ends (handle s.opStart p kn op).1.1.stopHang
      ((handle s.opStart p kn op).1.1.stopAnn && (handle s.opStart p kn op).1.1.doVerify) (step s p kn op).1.st :=
  step_ends s p kn op h.life (runWorkers_winds 8 _ h)

theorem Winding.of_quiet {r : St} (hl : Life r) (hp : r.panicked = none) (hd : r.doVerify = false)
    (hq : r.errC = false ∨ r.stopAnn = true) : Winding r :=
  ⟨hl, .of_false hd, hp, fun _ => hq, fun h => Bool.noConfusion (hd.symm.trans h)⟩

theorem stopOp_winding (s : St) (p : Parked) (kn : Nat → Bool) (op : Op) (hop : IsStopOp op) (h : Life s)
    (hp : s.panicked = none) :
    Winding (handle s p kn op).1.1 ∧ (handle s p kn op).1.1.stopHang = s.stopHang ∧
    (handle s p kn op).1.1.doVerify = false := by
  have hl := handle_life s p kn op h
  have hd := stop_doVerify_false { s with doVerify := false } false rfl
  -- (`simp only` and not the definitional unfolding of `handle`, which is slow to check)
  rcases hop with rfl | rfl <;> simp only [handle, onSt_fst] at hl ⊢ <;>
  exact ⟨.of_quiet hl ((stop_panicked _ _).trans hp) hd (stop_idle _ false), stop_stopHang _ _, hd⟩

/-- Whatever the torrent is doing (downloading, seeding, allocating or verifying behind a gate, fetching metadata,
already stopping or stopped) and whether or not a verification has been requested (`doVerify`: the stop command
withdraws the request, fix C04-F6): after either stop command and the completions it releases, no verify is pending
and the status is `Stopped` — or, if a tracker does not answer the `stopped` event (`stopHang`), `Stopping` with the
announcer still waiting.  The only hypothesis beyond the invariant: the loop has not panicked. -/
theorem stopOp_ends (s : St) (p : Parked) (kn : Nat → Bool) (op : Op) (hop : IsStopOp op) (h : Life s)
    (hp : s.panicked = none) : Ends s.stopHang false (step s p kn op).1.st := by
  obtain ⟨hw, hsh, hdv⟩ := stopOp_winding s.opStart p kn op hop h.opStart hp
  have := step_winds s p kn op hw
  rwa [hsh, hdv, Bool.and_false] at this

theorem Ends.withdrawn {hang : Bool} {t : St} (h : Ends hang false t) :
    t.doVerify = false ∧ (t.status = .stopped ∨ (hang = true ∧ t.status = .stopping ∧ t.stopHang = true)) :=
  h.elim (fun h => ⟨h.2, .inl h.1⟩) fun h => ⟨h.2.2.2, .inr ⟨h.1, h.2.1, h.2.2.1⟩⟩

theorem stopOp_reaches_stopped_or_hangs (s : St) (p : Parked) (kn : Nat → Bool) (op : Op) (hop : IsStopOp op)
    (h : Life s) (hp : s.panicked = none) :
    (step s p kn op).1.st.doVerify = false ∧
    ((step s p kn op).1.st.status = .stopped ∨
      (s.stopHang = true ∧ (step s p kn op).1.st.status = .stopping ∧ (step s p kn op).1.st.stopHang = true)) :=
  (stopOp_ends s p kn op hop h hp).withdrawn

theorem stopOp_reaches_stopped (s : St) (p : Parked) (kn : Nat → Bool) (op : Op) (hop : IsStopOp op) (h : Life s)
    (hp : s.panicked = none) (hh : s.stopHang = false) : (step s p kn op).1.st.status = .stopped :=
  (hh ▸ stopOp_ends s p kn op hop h hp).stopped.1

/-- `Op.stop` form of `stopOp_reaches_stopped_or_hangs`. -/
theorem stop_reaches_stopped_or_hangs (s : St) (p : Parked) (kn : Nat → Bool) (h : Life s)
    (hp : s.panicked = none) :
    (step s p kn .stop).1.st.doVerify = false ∧
    ((step s p kn .stop).1.st.status = .stopped ∨
      (s.stopHang = true ∧ (step s p kn .stop).1.st.status = .stopping ∧ (step s p kn .stop).1.st.stopHang = true)) :=
  stopOp_reaches_stopped_or_hangs s p kn .stop (Or.inl rfl) h hp

/-- With every tracker answering (`stopHang = false`) the status after the
`stop` command is `Stopped`. -/
theorem stop_reaches_stopped (s : St) (p : Parked) (kn : Nat → Bool) (h : Life s)
    (hp : s.panicked = none) (hh : s.stopHang = false) :
    (step s p kn .stop).1.st.status = .stopped :=
  stopOp_reaches_stopped s p kn .stop (Or.inl rfl) h hp hh

/-- **A stop command during a requested verification** (finding C04-F6), in full: whatever the status, the
gates and `doVerify` were, after `Op.stop` / `Op.stopHeld` the torrent is `Stopped` — or `Stopping` behind a
tracker that does not answer —, in particular neither `Allocating` nor `Verifying`; no allocator and no
verifier is left and the verification request is gone, so nothing will restart the torrent. -/
theorem stopOp_ends_stopped (s : St) (p : Parked) (kn : Nat → Bool) (op : Op) (hop : IsStopOp op)
    (h : Life s) (hp : s.panicked = none) :
    ((step s p kn op).1.st.status = .stopped ∨
      (s.stopHang = true ∧ (step s p kn op).1.st.status = .stopping ∧ (step s p kn op).1.st.stopHang = true)) ∧
    (step s p kn op).1.st.status ≠ .verifying ∧ (step s p kn op).1.st.status ≠ .allocating ∧
    (step s p kn op).1.st.doVerify = false ∧
    (step s p kn op).1.st.allocator = false ∧ (step s p kn op).1.st.verifier = false := by
  have he := stopOp_ends s p kn op hop h hp
  obtain ⟨h1, h2⟩ := he.withdrawn
  obtain ⟨i1, i2, _⟩ := (step_life s p kn op h).idle he.not_running
  refine ⟨h2, ?_, ?_, h1, i1, i2⟩ <;>
  · rcases h2 with h2 | h2
    · rw [h2]; decide
    · rw [h2.2.1]; decide

/-- `TrackerStopTimeout` has passed (`Op.waitstop`): the stop announcer gives up, `handleStopped` runs, and a
winding-down torrent is `Stopped` with no verify pending, whatever `stopHang` was. -/
theorem waitstop_ends (s : St) (p : Parked) (kn : Nat → Bool) (h : Winding s) :
    (step s p kn .waitstop).1.st.status = .stopped ∧ (step s p kn .waitstop).1.st.doVerify = false :=
  (step_winds s p kn .waitstop ⟨handle_life _ p kn .waitstop h.life.opStart, h.dv.of_eq, h.pan, h.quiet, h.go⟩).stopped

theorem waitstop_reaches_stopped (s : St) (p : Parked) (kn : Nat → Bool) (h : Life s)
    (hp : s.panicked = none) (hv : s.doVerify = false)
    (hs : s.status = .stopping ∨ s.status = .stopped) :
    (step s p kn .waitstop).1.st.status = .stopped ∧ (step s p kn .waitstop).1.st.doVerify = false :=
  waitstop_ends s p kn (.of_quiet h hp hv (hs.elim (fun hs => .inr ((status_stopping_iff s).1 hs).2)
    fun hs => .inl ((status_stopped_iff s).1 hs)))

/-- A stop command, then (if a tracker hangs) the stop timeout: `Stopped`.  The only thing the intermediate
state must not have done is panic (a write that was in flight completes during the stop; see `no_panic_partial`). -/
theorem stopOp_waitstop_reaches_stopped (s : St) (p : Parked) (kn kn' : Nat → Bool) (op : Op) (hop : IsStopOp op)
    (h : Life s) (hp : s.panicked = none) (hp' : (step s p kn op).1.st.panicked = none) :
    (step (step s p kn op).1.st (step s p kn op).2 kn' .waitstop).1.st.status = .stopped :=
  have he := stopOp_ends s p kn op hop h hp
  (waitstop_ends _ _ kn' (.of_quiet (step_life s p kn op h) hp' he.withdrawn.1 he.not_running)).1

/-- What the verify command leaves behind: the request; a stopped torrent started, any other stopping; no gate that
was released held. -/
theorem handleVerifyCommand_fields (m : M) :
    (handleVerifyCommand m).1.doVerify = true ∧ (handleVerifyCommand m).1.stopAnn = m.1.errC ∧
    (m.1.gateOpen = false → m.1.gateRead = false →
      (handleVerifyCommand m).1.gateOpen = false ∧ (handleVerifyCommand m).1.gateRead = false) := by
  refine ite_ind (P := fun x : M => x.1.doVerify = true ∧ x.1.stopAnn = m.1.errC ∧
    (m.1.gateOpen = false → m.1.gateRead = false → x.1.gateOpen = false ∧ x.1.gateRead = false)) (fun hs => ?_) fun hs => ?_
  · exact ⟨(startCore_writes _).doVerify, (startCore_fields _).2.1.trans ((status_stopped_iff _).1 hs).symm,
      fun ho hr => ⟨(startCore_writes _).gateOpen.trans ho, (startCore_writes _).gateRead.trans hr⟩⟩
  · have he := Bool.of_not_eq_false (mt (status_stopped_iff _).2 hs)
    exact ⟨stop_false_doVerify _, (stop_stopAnn_of_errC _ _ he).trans he.symm, fun ho hr => stop_gates_off _ false ho hr⟩

/-- The verify command with the storage gates released: `Op.verify` releases them itself, `Op.verifyHeld` leaves
them as the harness has them.  (With a gate held `Op.verifyHeld` ends `Allocating` / `Verifying` with the request
pending — the situation of finding C04-F6, see `stopOp_ends_stopped`.) -/
def VerifyOp (s : St) (op : Op) : Prop :=
  op = .verify ∨ (op = .verifyHeld ∧ s.gateOpen = false ∧ s.gateRead = false)

theorem verifyOp_winding (s : St) (p : Parked) (kn : Nat → Bool) (op : Op) (hop : VerifyOp s op) (h : Life s)
    (hi : s.info = true) (hp : s.panicked = none) (hf : s.failOpen = false) :
    Winding (handle s p kn op).1.1 ∧ (handle s p kn op).1.1.stopHang = s.stopHang ∧
    (handle s p kn op).1.1.stopAnn = s.errC ∧ (handle s p kn op).1.1.doVerify = true := by
  have hl := handle_life s p kn op h
  have hW := handleVerifyCommand_writes ({ s with persisted := none }, [])
  obtain ⟨hd, hsa, hg⟩ := handleVerifyCommand_fields ({ s with persisted := none }, [])
  have hdv := handleVerifyCommand_dv ({ s with persisted := none }, [])
  have hpan := (handleVerifyCommand_no_panic ({ s with persisted := none }, [])
    fun he => ⟨(h.idle (.inl he)).1, (h.idle (.inl he)).2.1⟩).trans hp
  rcases hop with rfl | ⟨rfl, hgo, hgr⟩ <;> simp only [handle, onSt_fst] at hl ⊢
  · exact ⟨⟨hl, hdv.of_eq, hpan, fun hd' => absurd (hd'.symm.trans hd) Bool.false_ne_true,
      fun _ => ⟨hW.info.trans hi, hW.failOpen.trans hf, rfl, rfl⟩⟩, hW.stopHang, hsa, hd⟩
  · exact ⟨⟨hl, hdv, hpan, fun hd' => absurd (hd'.symm.trans hd) Bool.false_ne_true,
      fun _ => ⟨hW.info.trans hi, hW.failOpen.trans hf, hg hgo hgr⟩⟩, hW.stopHang, hsa, hd⟩

/-- **The verify command, every case at once**: either op, the torrent stopped or not, the trackers answering or
not.  Metadata known, no storage failure.  Stopped before (`errC = false`): the files are (re)opened; if one
existed they are verified, if none did a fresh bitfield is installed (fix for finding C04-F4).  Not stopped
before: the command stops the torrent and the completed stop restarts it for the same.  Either way the op ends
`Stopped` with `doVerify` cleared — or a tracker does not answer the `stopped` event and the torrent is `Stopping`,
the request still pending exactly if the torrent had to be stopped first (`doVerify = errC`). -/
theorem verifyOp_ends (s : St) (p : Parked) (kn : Nat → Bool) (op : Op) (hop : VerifyOp s op) (h : Life s)
    (hi : s.info = true) (hp : s.panicked = none) (hf : s.failOpen = false) :
    Ends s.stopHang s.errC (step s p kn op).1.st := by
  obtain ⟨hw, hsh, hsa, hdv⟩ := verifyOp_winding s.opStart p kn op hop h.opStart hi hp hf
  have := step_winds s p kn op hw
  rwa [hsh, hsa, hdv, Bool.and_true] at this

/-- With every tracker answering the verify command ends in `Stopped` with `doVerify` cleared. -/
theorem verifyOp_ends_stopped (s : St) (p : Parked) (kn : Nat → Bool) (op : Op) (hop : VerifyOp s op) (h : Life s)
    (hi : s.info = true) (hp : s.panicked = none) (hf : s.failOpen = false) (hh : s.stopHang = false) :
    (step s p kn op).1.st.status = .stopped ∧ (step s p kn op).1.st.doVerify = false :=
  (hh ▸ verifyOp_ends s p kn op hop h hi hp hf).stopped

/-- On a stopped torrent the request never survives the op. -/
theorem verifyOp_ends_of_stopped (s : St) (p : Parked) (kn : Nat → Bool) (op : Op) (hop : VerifyOp s op) (h : Life s)
    (he : s.errC = false) (hi : s.info = true) (hp : s.panicked = none) (hf : s.failOpen = false) :
    (step s p kn op).1.st.doVerify = false ∧
    ((step s p kn op).1.st.status = .stopped ∨
      (s.stopHang = true ∧ (step s p kn op).1.st.status = .stopping ∧ (step s p kn op).1.st.stopHang = true)) :=
  (he ▸ verifyOp_ends s p kn op hop h hi hp hf).withdrawn

theorem verify_ends_stopped (s : St) (p : Parked) (kn : Nat → Bool) (h : Life s) (he : s.errC = false)
    (hi : s.info = true) (hp : s.panicked = none) (hf : s.failOpen = false)
    (hh : s.stopHang = false) :
    (step s p kn .verify).1.st.status = .stopped ∧ (step s p kn .verify).1.st.doVerify = false :=
  verifyOp_ends_stopped s p kn .verify (Or.inl rfl) h hi hp hf hh

theorem verifyHeld_ends_stopped (s : St) (p : Parked) (kn : Nat → Bool) (h : Life s) (he : s.errC = false)
    (hi : s.info = true) (hp : s.panicked = none) (hf : s.failOpen = false)
    (hgo : s.gateOpen = false) (hgr : s.gateRead = false) (hh : s.stopHang = false) :
    (step s p kn .verifyHeld).1.st.status = .stopped ∧ (step s p kn .verifyHeld).1.st.doVerify = false :=
  verifyOp_ends_stopped s p kn .verifyHeld (Or.inr ⟨rfl, hgo, hgr⟩) h hi hp hf hh

theorem verify_from_running_ends_stopped (s : St) (p : Parked) (kn : Nat → Bool) (h : Life s) (he : s.errC = true)
    (hi : s.info = true) (hp : s.panicked = none) (hf : s.failOpen = false)
    (hh : s.stopHang = false) :
    (step s p kn .verify).1.st.status = .stopped ∧ (step s p kn .verify).1.st.doVerify = false :=
  verifyOp_ends_stopped s p kn .verify (Or.inl rfl) h hi hp hf hh

end Rain.Loop
