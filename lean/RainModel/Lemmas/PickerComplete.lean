import RainModel.Lemmas.PickerPick
/-!
Completeness of the pick ladder of M-PICK (`findPiece false`, `pickFor false`): when a piece is free
for an idle peer, every admissible outcome of the picker is a request.  Helper lemmas for
`Props/C10Picker.lean`.
-/
namespace Rain.Picker

/-- Piece `i` is *free for* peer `p`: in range, needed (not `Done`, not `Writing`), held by `p` and
requested from nobody (`PickableBy` of a valid index). -/
def FreeFor (s : State) (p i : Nat) : Prop :=
  i < s.n ∧ (s.pieces i).done = false ∧ (s.pieces i).writing = false ∧ p ∈ (s.pieces i).having ∧
    (s.pieces i).requested = []

instance (s : State) (p i : Nat) : Decidable (FreeFor s p i) := by unfold FreeFor; exact inferInstance

/-- Outcome `r` of `pickFor _ s p` is a request: a proper state in which the loop's downloader of `p`
is on the returned piece and `p` is recorded in its `Requested` set. -/
def Served (p : Nat) (r : R (State × Option (Nat × Bool))) : Prop :=
  ∃ s' j af, r = .ok (s', some (j, af)) ∧ (s'.peers p).dl = some (j, af) ∧ p ∈ (s'.pieces j).requested

theorem FreeFor.pickable {s : State} {p i : Nat} (h : FreeFor s p i) : (s.pieces i).pickable p = true :=
  (pickable_iff _ _).mpr ⟨h.2.1, h.2.2.1, h.2.2.2.2, h.2.2.2.1⟩

/-- `PickFor` + `startSinglePieceDownloader` turn a found piece into a request. -/
theorem pickFor_served (legacy : Bool) (s : State) (p : Nat)
    (hfp : ∀ r ∈ findPiece legacy s p, ∃ s1 j af, r = .ok (s1, some (j, af))) :
    ∀ r ∈ pickFor legacy s p, Served p r := by
  intro r hr
  unfold pickFor at hr
  simp only [List.mem_map] at hr
  obtain ⟨r0, hr0, rfl⟩ := hr
  obtain ⟨s1, j, af, rfl⟩ := hfp r0 hr0
  refine ⟨_, j, af, rfl, ?_, ?_⟩
  · simp
  · simp [mem_sadd]

theorem pickAllowedFast_some {s : State} {p i : Nat} (hfree : FreeFor s p i) (haf : i ∈ (s.peers p).af) :
    ∃ j, pickAllowedFast s p = some j := by
  cases h : pickAllowedFast s p with
  | some j => exact ⟨j, rfl⟩
  | none => exact absurd ⟨hfree.1, hfree.pickable⟩ (((pickAllowedFastLoop_spec s p _ none).2 h).2 i haf)

theorem pickEndgame_some {s : State} {p i : Nat} (hfree : FreeFor s p i) (hlim : 1 ≤ s.maxDup) :
    ∀ x ∈ pickEndgame s p, ∃ j, x = some j := by
  intro x hx
  obtain ⟨hnil, -⟩ | ⟨j, -, e⟩ := mem_argmins_choice hx
  · refine absurd (List.mem_filter.mpr ⟨List.mem_range.mpr hfree.1, ?_⟩) (hnil ▸ List.not_mem_nil)
    simp [hfree.2.1, hfree.2.2.1, hfree.2.2.2.2, hfree.2.2.2.1]
    omega
  · exact ⟨j, e⟩

theorem mainRungs_some {s : State} {p i : Nat} (hfree : FreeFor s p i)
    (hlim : s.sequential = false → s.endgame = true → 1 ≤ s.maxDup) :
    ∀ r ∈ mainRungs false s p, ∃ s1 j af, r = .ok (s1, some (j, af)) := by
  intro r hr
  unfold mainRungs at hr
  split at hr
  · rename_i heg
    simp only [Bool.false_or, Bool.and_eq_true, Bool.not_eq_true'] at heg
    obtain ⟨x, hx, rfl⟩ := List.mem_map.mp hr
    obtain ⟨j, rfl⟩ := pickEndgame_some hfree (hlim heg.2 heg.1) x hx
    exact ⟨_, _, _, rfl⟩
  · obtain ⟨⟨s1, r1⟩, hfirst, hr⟩ := List.mem_flatMap.mp hr
    obtain ⟨j, e, -⟩ | ⟨-, hnone⟩ := firstRung_spec s p _ hfirst
    · cases e; exact ⟨_, _, _, List.mem_singleton.mp hr⟩
    · exact absurd hfree.pickable (hnone i hfree.1)

/-- **Completeness of the ladder, no web seed downloading, unchoking peer.**  The only configuration
in which a free piece is not requested is rarest-first mode with the end-game flag set and a
duplicate limit of 0 (`hlim` excludes exactly that). -/
theorem findPiece_complete (s : State) (p i : Nat) (hdl : (s.peers p).dl = none)
    (hch : (s.peers p).choking = false) (hweb : downloadingWebseed s = false) (hfree : FreeFor s p i)
    (hlim : s.sequential = false → s.endgame = true → 1 ≤ s.maxDup) :
    ∀ r ∈ findPiece false s p, ∃ s1 j af, r = .ok (s1, some (j, af)) := by
  intro r hr
  rw [findPiece_eq] at hr
  simp only [hdl, hweb, hch, Option.isSome_none, Bool.false_eq_true, if_false] at hr
  split at hr
  · exact ⟨_, _, _, List.mem_singleton.mp hr⟩
  split at hr
  · exact ⟨_, _, _, List.mem_singleton.mp hr⟩
  · exact mainRungs_some hfree hlim r hr

/-- **Allowed fast.**  A choking, idle peer whose allowed-fast set contains a free piece is asked for
an allowed-fast piece (no web seed downloading; either mode, any flag, any limit). -/
theorem findPiece_complete_af (s : State) (p i : Nat) (hdl : (s.peers p).dl = none)
    (hch : (s.peers p).choking = true) (hweb : downloadingWebseed s = false) (hfree : FreeFor s p i)
    (haf : i ∈ (s.peers p).af) :
    ∀ r ∈ findPiece false s p, ∃ s1 j af, r = .ok (s1, some (j, af)) := by
  intro r hr
  rw [findPiece_eq] at hr
  obtain ⟨j, hj⟩ := pickAllowedFast_some hfree haf
  simp only [hdl, hweb, hch, hj, Option.isSome_none, Bool.false_eq_true, if_false, Bool.not_true,
    Bool.and_false, Bool.or_true, if_true, List.mem_singleton] at hr
  exact ⟨_, _, _, hr⟩

theorem findGaps_cover (s : State) (j : Nat) (hj : j < s.n) (hav : (s.pieces j).availWeb = true) :
    ∃ g ∈ findGaps s, g.1 ≤ j ∧ j < g.2 :=
  ((findGaps_spec s).2 j hj).mp hav

theorem pickLastPiece_ne_nil {s : State} {p i : Nat} (hch : (s.peers p).choking = false)
    (hfree : FreeFor s p i) (hw : (s.pieces i).webseed = none) : pickLastPieceOfSmallestGap s p ≠ [] := by
  obtain ⟨g, hg, hgi⟩ := findGaps_cover s i hfree.1 ((availWeb_iff _).mpr ⟨hfree.2.1, hfree.2.2.1, hw⟩)
  have hscan : (gapScan s p g.1 (g.2 - g.1)).isSome = true := gapScan_eq .. ▸
    find?_rev_range'_isSome hgi.1 (by omega) (by simp [hfree.2.2.2.2, hfree.2.2.2.1, hch])
  obtain ⟨i0, hi0⟩ := Option.isSome_iff_exists.mp hscan
  unfold pickLastPieceOfSmallestGap
  simp only []
  generalize hq : (findGaps s).filterMap (fun g => (gapScan s p g.1 (g.2 - g.1)).map fun i => (g.2 - g.1, i)) = q
  have hqm : (g.2 - g.1, i0) ∈ q := by
    rw [← hq, List.mem_filterMap]
    exact ⟨g, hg, by simp [hi0]⟩
  exact map_ne_nil _ (filter_least_ne_nil (fun x y : Nat × Nat => x.1 ≤ y.1) (fun _ _ => Nat.le_total _ _) Nat.le_trans q
    (List.ne_nil_of_mem hqm))

/-- **Web seed downloading, free piece outside every web-seed range**: the unchoking idle peer is
asked for the last piece of a smallest gap. -/
theorem findPiece_complete_webseed (s : State) (p i : Nat) (hdl : (s.peers p).dl = none)
    (hch : (s.peers p).choking = false) (hweb : downloadingWebseed s = true) (hfree : FreeFor s p i)
    (hw : (s.pieces i).webseed = none) :
    ∀ r ∈ findPiece false s p, ∃ s1 j af, r = .ok (s1, some (j, af)) := by
  intro r hr
  have hne : (!(pickLastPieceOfSmallestGap s p).isEmpty) = true := by
    simpa [List.isEmpty_iff] using pickLastPiece_ne_nil hch hfree hw
  rw [findPiece_eq] at hr
  simp only [hdl, hweb, hch, webRungs, hne, Option.isSome_none, Bool.false_eq_true, if_false, if_true] at hr
  obtain ⟨j, _, rfl⟩ := List.mem_map.mp hr
  exact ⟨_, _, _, rfl⟩

theorem downloadingWebseed_of_src {s : State} {k : Nat} {d : Dl} (hk : k < s.ns) (hd : s.srcs k = some d) :
    downloadingWebseed s = true := by
  unfold downloadingWebseed
  rw [List.any_eq_true]
  exact ⟨k, List.mem_range.mpr hk, by simp [hd]⟩

/-- **Web seed downloading, free piece inside a web-seed range, strictly after the piece the web
seed is working on**: the unchoking idle peer gets a request (from a gap if it also holds a free piece
outside the ranges, otherwise by stealing from the end of a range, which truncates that range). -/
theorem findPiece_complete_steal (s : State) (p i k : Nat) (d : Dl) (hs : SrcOk s)
    (hdl : (s.peers p).dl = none) (hch : (s.peers p).choking = false)
    (hk : k < s.ns) (hd : s.srcs k = some d) (hci : d.c < i) (hie : i < d.e) (hfree : FreeFor s p i) :
    ∀ r ∈ findPiece false s p, ∃ s1 j af, r = .ok (s1, some (j, af)) := by
  intro r hr
  rw [findPiece_eq] at hr
  simp only [hdl, downloadingWebseed_of_src hk hd, hch, webRungs, Option.isSome_none, Bool.false_eq_true, if_false,
    if_true] at hr
  split at hr
  · obtain ⟨j, _, rfl⟩ := List.mem_map.mp hr
    exact ⟨_, _, _, rfl⟩
  · obtain ⟨s1, res, he, ⟨-, -, hall⟩ | ⟨_, _, j, -, -, -, rfl, -⟩⟩ :=
      peerSteals_spec s p hs (downloadingSources s) (fun x hx => hx)
    · -- source `k` has piece `i` to give
      have hscan : (stealScan s p d.c (d.e - 1 - d.c)).isSome = true :=
        stealScan_eq .. ▸ find?_rev_range'_isSome hci (by omega) hfree.pickable
      rcases hall (k, d) ((mem_downloadingSources s k d).mpr ⟨hk, hd⟩) with h0 | h0
      · simp only [Dl.remaining] at h0; omega
      · rw [h0] at hscan; cases hscan
    · rw [List.mem_singleton.mp hr, he]
      exact ⟨_, _, _, rfl⟩

end Rain.Picker
