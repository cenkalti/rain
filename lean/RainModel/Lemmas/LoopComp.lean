import RainModel.Lemmas.LoopWritten
/-!
C04: the completion flags are truthful (`completed → all bits`, `completeC` closed iff completed) and a
running torrent has a bitfield.  Preservation by every handler, `step`, `reconcile`.
-/
namespace Rain.Loop

/-- Completion is truthful; a torrent past allocation/verification has a bitfield. -/
structure CompInv (s : St) : Prop where
  cc : s.completeCClosed = s.completed
  all : s.completed = true → s.bf = none ∨ ∃ b, s.bf = some b ∧ allTrue b = true
  run : s.errC = true → s.stopAnn = false → s.allocator = false → s.verifier = false → s.info = true →
        s.bf.isSome = true

theorem CompInv.of_frame {s s' : St} (h : CompInv s)
    (h1 : s'.completeCClosed = s.completeCClosed := by rfl) (h2 : s'.completed = s.completed := by rfl)
    (h3 : s'.bf = s.bf := by rfl) (h4 : s'.errC = s.errC := by rfl) (h5 : s'.stopAnn = s.stopAnn := by rfl)
    (h6 : s'.allocator = s.allocator := by rfl) (h7 : s'.verifier = s.verifier := by rfl)
    (h8 : s'.info = s.info := by rfl) : CompInv s' :=
  ⟨by rw [h1, h2]; exact h.cc, by rw [h2, h3]; exact h.all, by rw [h3, h4, h5, h6, h7, h8]; exact h.run⟩

/-- The first two clauses only depend on `completed`, `completeCClosed`, `bf`; the third is re-established. -/
theorem CompInv.of_frame3 {s s' : St} (h : CompInv s)
    (h1 : s'.completeCClosed = s.completeCClosed) (h2 : s'.completed = s.completed) (h3 : s'.bf = s.bf)
    (hr : s'.errC = true → s'.stopAnn = false → s'.allocator = false → s'.verifier = false → s'.info = true →
        s'.bf.isSome = true) : CompInv s' :=
  ⟨by rw [h1, h2]; exact h.cc, by rw [h2, h3]; exact h.all, hr⟩

theorem CompInv.of_writes {w : List Fld} {s s' : St} (h : CompInv s) (hW : Writes w s s')
    (hw : ∀ x ∈ [Fld.completeCClosed, .completed, .bf, .errC, .stopAnn, .allocator, .verifier, .info], x ∉ w := by
      decide) : CompInv s' := by
  simp only [List.forall_mem_cons, List.not_mem_nil, false_imp_iff, implies_true, and_true] at hw
  obtain ⟨cc, c, b, e, sa, al, v, i⟩ := hw
  exact h.of_frame (hW.completeCClosed cc) (hW.completed c) (hW.bf b) (hW.errC e) (hW.stopAnn sa) (hW.allocator al)
    (hW.verifier v) (hW.info i)

/-- The first two clauses of `CompInv`: what holds while a handler rebuilds the bitfield.  The `run` clause is
re-established at the end — by `stop`, by `startCore`, by the worker that is started, by the new bitfield. -/
structure Truthful (s : St) : Prop where
  cc : s.completeCClosed = s.completed
  all : s.completed = true → s.bf = none ∨ ∃ b, s.bf = some b ∧ allTrue b = true

theorem CompInv.truthful {s : St} (h : CompInv s) : Truthful s := ⟨h.cc, h.all⟩

theorem Truthful.of_eq {s s' : St} (h : Truthful s) (h1 : s'.completeCClosed = s.completeCClosed := by rfl)
    (h2 : s'.completed = s.completed := by rfl) (h3 : s'.bf = s.bf := by rfl) : Truthful s' :=
  ⟨by rw [h1, h2]; exact h.cc, by rw [h2, h3]; exact h.all⟩

theorem Truthful.forget {s s' : St} (h : Truthful s) (h3 : s'.bf = none) (h1 : s'.completeCClosed = s.completeCClosed := by rfl)
    (h2 : s'.completed = s.completed := by rfl) : Truthful s' :=
  ⟨by rw [h1, h2]; exact h.cc, fun _ => .inl h3⟩

theorem Truthful.of_bf {s : St} (h : Truthful s) (hbf : s.bf.isSome = true) : CompInv s :=
  ⟨h.cc, h.all, fun _ _ _ _ _ => hbf⟩

theorem allTrue_iff (l : List Bool) : allTrue l = true ↔ ∀ x ∈ l, x = true := by
  simp [allTrue]

theorem allTrue_setAt (l : List Bool) (i : Nat) (h : allTrue l = true) : allTrue (setAt l i true) = true := by
  rw [allTrue_iff] at *
  intro x hx
  unfold setAt at hx
  rcases List.mem_or_eq_of_mem_set hx with hx | rfl
  · exact h x hx
  · rfl

theorem allTrue_foldl_setAt (idx : List Nat) (l : List Bool) (h : allTrue l = true) :
    allTrue (idx.foldl (fun d i => setAt d i true) l) = true :=
  foldl_inv (allTrue · = true) _ (fun d i hd => allTrue_setAt d i hd) idx l h

theorem CompInv.set_bits {s s' : St} {b b' : List Bool} (h : Truthful s) (hb : s.bf = some b) (hb' : s'.bf = some b')
    (hall : allTrue b = true → allTrue b' = true) (h1 : s'.completeCClosed = s.completeCClosed := by rfl)
    (h2 : s'.completed = s.completed := by rfl) : CompInv s' :=
  Truthful.of_bf ⟨h1.trans (h.cc.trans h2.symm), fun hc => .inr ⟨b', hb', hall <| (h.all (h2 ▸ hc)).elim
    (fun hn => nomatch hb.symm.trans hn) fun ⟨_, hb2, hat⟩ => Option.some.inj (hb.symm.trans hb2) ▸ hat⟩⟩ (hb' ▸ rfl)

theorem stop_stopAnn_of_errC (s : St) (e : Bool) (h : s.errC = true) : (s.stop e).stopAnn = true := by
  rw [stop_eq]
  split
  · next hs =>
    rcases hs with hs | hs
    · exact ((status_stopping_iff s).1 hs).2
    · rw [(status_stopped_iff s).1 hs] at h; cases h
  · rfl

theorem stop_idle (s : St) (e : Bool) : (s.stop e).errC = false ∨ (s.stop e).stopAnn = true := by
  cases he : s.errC
  · exact .inl ((stop_writes s e).errC.trans he)
  · exact .inr (stop_stopAnn_of_errC s e he)

theorem stop_comp' (s : St) (e : Bool) (h : Truthful s) : CompInv (s.stop e) := by
  obtain ⟨hcc, hall⟩ := h
  refine ⟨by simpa using hcc, ?_, ?_⟩
  · intro hc
    rcases stop_bf s e with h | h
    · rw [h]; exact hall (by simpa using hc)
    · exact Or.inl h
  · intro h1 h2
    rcases stop_idle s e with h' | h' <;> simp_all

theorem stop_comp (s : St) (e : Bool) (h : CompInv s) : CompInv (s.stop e) := stop_comp' s e h.truthful

theorem handlePieceMessage_comp (m : M) (k i b l : Nat) (g : Bool) (h : CompInv m.1) :
    CompInv (handlePieceMessage m k i b l g).1 :=
  h.of_writes (handlePieceMessage_writes ..)
theorem processQueued_comp (m : M) (h : CompInv m.1) : CompInv (processQueued m).1:=
  h.of_writes (processQueued_writes ..)
theorem reconcile_comp (s : St) (impl : List ImplDl) (h : CompInv s) : CompInv (reconcile s impl).1:=
  h.of_writes (reconcile_writes ..)
theorem reconcileIdl_comp (s : St) (impl : List Nat) (h : CompInv s) : CompInv (reconcileIdl s impl).1:=
  h.of_writes (reconcileIdl_writes ..)

theorem startCore_comp' (m : M) (h : Truthful m.1) : CompInv (startCore m).1 := by
  obtain ⟨hcc, hall⟩ := h
  obtain ⟨_, _, _, ha, hv, _⟩ := startCore_fields m
  have hw := startCore_writes m
  refine ⟨hw.completeCClosed.trans (hcc.trans hw.completed.symm), by rw [hw.completed, hw.bf]; exact hall,
    fun _ _ ha' hv' hi => ?_⟩
  -- no allocator and no verifier was started although the metadata is known: the bitfield is there
  rw [ha, Bool.or_eq_false_iff] at ha'
  rw [hv, Bool.or_eq_false_iff] at hv'
  rw [hw.info] at hi
  rw [hw.bf]
  cases hb : m.1.bf.isSome
  · cases hl : m.1.loaded <;> simp [hi, hl, hb] at ha' hv'
  · rfl

theorem handleStopped_comp (m : M) (h : CompInv m.1) : CompInv (handleStopped m).1 :=
  ite_ind (P := fun x : M => CompInv x.1) (fun _ => startCore_comp' _ (h.truthful.forget rfl))
    fun _ => ⟨h.cc, h.all, fun he => nomatch he⟩

theorem start_comp (m : M) (h : CompInv m.1) : CompInv (start m).1 :=
  start_inv m h (fun _ => handleStopped_comp _ h.of_frame) fun x hx _ => startCore_comp' x hx.truthful

theorem handleVerifyCommand_comp (m : M) (h : CompInv m.1) : CompInv (handleVerifyCommand m).1 :=
  handleVerifyCommand_cases (P := fun x => CompInv x.1) m (fun _ => startCore_comp' _ (h.truthful.forget rfl))
    fun _ => onSt_stop _ _ _ (stop_comp _ _ h.of_frame)

theorem hmdStart_comp' (m : M) (h : Truthful m.1) : CompInv (hmdStart m).1 :=
  hmdStart_cases (P := fun x => CompInv x.1) m (fun _ => onSt_stop _ _ _ (stop_comp' _ _ h)) fun _ =>
    ite_ind (P := fun x : St => CompInv x) (fun ha => ⟨by simpa using h.cc, by simpa using h.all, by simp [ha]⟩)
      fun _ => ⟨h.cc, h.all, by simp⟩

theorem hmdAdopt_comp (m : M) (h : CompInv m.1) : CompInv (hmdAdopt m).1 :=
  hmdAdopt_cases (P := fun x => CompInv x.1) m (fun _ => onSt_stop _ _ _ (stop_comp _ _ h.of_frame)) fun _ _ =>
    hmdStart_comp' _ h.truthful.of_eq

theorem handleMetadataData_comp (m : M) (k i len : Nat) (g : Bool) (h : CompInv m.1) :
    CompInv (handleMetadataData m k i len g).1 :=
  handleMetadataData_ind CompInv m k i len g (fun _ hW => h.of_writes hW) fun m' hW => hmdAdopt_comp m' (h.of_writes hW)

theorem checkCompletion_comp (s : St) (h : CompInv s) : CompInv s.checkCompletion.1 := by
  have hW := checkCompletion_writes s
  rcases checkCompletion_flags s with ⟨hc, hcc⟩ | ⟨hc, hcc, hb⟩
  · exact h.of_frame hcc hc hW.bf hW.errC hW.stopAnn hW.allocator hW.verifier hW.info
  · exact ⟨hcc.trans hc.symm, fun _ => Or.inr (hW.bf ▸ hb), by
      rw [hW.bf, hW.errC, hW.stopAnn, hW.allocator, hW.verifier, hW.info]; exact h.run⟩

theorem resetCompletion_truthful (s : St) (hcc : s.completeCClosed = s.completed) : Truthful s.resetCompletion := by
  unfold St.resetCompletion
  split
  · exact ⟨rfl, fun h => nomatch h⟩
  · next hc => exact ⟨hcc, fun h => absurd h hc⟩

theorem resetCompletion_comp (s : St) (h : CompInv s) : CompInv s.resetCompletion :=
  have hW := resetCompletion_writes s
  have hT := resetCompletion_truthful s h.cc
  ⟨hT.cc, hT.all, by rw [hW.bf, hW.errC, hW.stopAnn, hW.allocator, hW.verifier, hW.info]; exact h.run⟩

theorem markPaddingPieces_comp (s : St) (h : CompInv s) : CompInv s.markPaddingPieces := by
  unfold St.markPaddingPieces
  split
  · exact h
  · next b hb => exact .set_bits h.truthful hb rfl (allTrue_foldl_setAt _ _)

theorem pwdSet_comp (m : M) (w : WriteJob) (b : List Bool) (hb : m.1.bf = some b) (h : CompInv m.1) :
    CompInv (pwdSet m w b).1 :=
  have hW := pwdSet_writes m w b
  .set_bits h.truthful hb (pwdSet_bf m w b) (allTrue_setAt _ _) hW.completeCClosed hW.completed

theorem pwdFinish_comp (m : M) (h : CompInv m.1) : CompInv (pwdFinish m).1 :=
  have h1 := checkCompletion_comp m.1 h
  pwdFinish_cases (P := fun x => CompInv x.1) m (fun _ => h1) (fun _ => h1.of_writes (writeBitfield_writes _))
    fun _ => onSt_stop _ _ _ (stop_comp _ _ (h1.of_writes (writeBitfield_writes _)))

theorem handlePieceWriteDone_comp (m : M) (w : WriteJob) (e : Bool) (h : CompInv m.1) :
    CompInv (handlePieceWriteDone m w e).1 :=
  have h0 : CompInv (pwdReset m w).1 := h.of_writes (pwdReset_writes m w)
  have h1 : CompInv (pwdDone (pwdReset m w) w).1 := h0.of_writes (pwdDone_writes _ w)
  handlePieceWriteDone_cases (P := fun x => CompInv x.1) m w e (fun _ => h0.of_writes (pwdBan_writes ..))
    (fun _ _ => h0) (fun _ _ _ _ => onSt_stop _ _ _ (stop_comp _ _ h0)) (fun _ _ _ _ _ => h1.of_writes (crash_writes ..))
    fun b _ _ _ _ (hb : (pwdDone (pwdReset m w) w).1.bf = some b) =>
    pwdFinish_comp _ (((pwdSet_comp _ _ _ hb h1).of_writes (pwdOthers_writes ..)).of_writes (pwdHaves_writes ..))

theorem writerRun_comp (m : M) (w : WriteJob) (h : CompInv m.1) : CompInv (writerRun m w).1 :=
  writerRun_job (P := fun x => CompInv x.1) m w
    (fun _ _ _ _ _ => handlePieceWriteDone_comp _ _ _ h.of_frame)
    (fun _ _ => h.of_frame)

theorem hadCheck_comp (m : M) (h : CompInv m.1) : CompInv (hadCheck m).1 :=
  have h1 := checkCompletion_comp m.1 h
  hadCheck_cases (P := fun x => CompInv x.1) m (fun _ => onSt_stop _ _ _ (stop_comp _ _ h1))
    (h1.of_writes (hadReady_writes (m.1.checkCompletion.1, m.2)))

/-- The new bitfield replaces everything: only the `cc` clause of the source is needed. -/
theorem hadFreshInstall_comp (m : M) (hcc : m.1.completeCClosed = m.1.completed) :
    CompInv (hadFreshInstall m).1 := by
  unfold hadFreshInstall
  simp only [onSt_fst]
  exact markPaddingPieces_comp _ (Truthful.of_bf (resetCompletion_truthful _ hcc) (by rw [(resetCompletion_writes _).bf]; rfl))

theorem hadFresh_comp (m : M) (hcc : m.1.completeCClosed = m.1.completed) : CompInv (hadFresh m).1 :=
  have h0 := hadFreshInstall_comp m hcc
  hadFresh_cases (P := fun x => CompInv x.1) m (fun _ => onSt_stop _ _ _ (stop_comp _ _ h0.of_frame))
    fun _ => hadCheck_comp _ h0

theorem hadTrust_comp (m : M) (b : List Bool) (hb : m.1.bf = some b) (h : CompInv m.1) :
    CompInv (hadTrust m b).1 := by
  unfold hadTrust
  apply hadCheck_comp
  simp only [onSt_fst]
  apply markPaddingPieces_comp
  exact h.truthful.of_eq.of_bf (by simp [hb])

theorem hadForget_truthful (m : M) (mi : Bool) (h : Truthful m.1) : Truthful (hadForget m mi).1 :=
  ite_ind (P := fun x : St => Truthful x) (fun _ => h.forget rfl) fun _ => h

theorem handleAllocationDone_comp (m : M) (ex mi : Bool) (h : CompInv m.1) :
    CompInv (handleAllocationDone m ex mi).1 :=
  -- the intermediate state may lack the `run` clause
  have hT : Truthful (hadForget (hadInstall m) mi).1 := hadForget_truthful _ mi h.truthful.of_eq
  handleAllocationDone_cases (P := fun x => CompInv x.1) m ex mi
    (fun b hb _ => hadTrust_comp _ _ hb (hT.of_bf (by rw [hb]; rfl))) (fun _ _ => hadFresh_comp _ hT.cc)
    fun _ _ => ⟨hT.cc, hT.all, fun _ _ _ hv => by simp at hv⟩

theorem allocatorRun_comp (m : M) (h : CompInv m.1) : CompInv (allocatorRun m).1 := by
  exact allocatorRun_cases (P := fun x : M => CompInv x.1) m
    (fun _ => onSt_stop _ _ _ (stop_comp' _ _ (hadForget_truthful (allocFailOpen m) _ h.truthful.of_eq)))
    fun _ => handleAllocationDone_comp _ _ _ (h.of_writes (allocOkOpen_writes m))

theorem hvdInstall_writes_pre (m : M) : Writes [.completed, .completeCClosed] (hvdPre m).1 (hvdInstall m).1 :=
  .intro (by rw [hvdInstall_eq]; frame)

/-- `writeBitfield` has just been given a bitfield. -/
theorem hvdInstall_no_panic (m : M) (hp : m.1.panicked = none) : (hvdInstall m).1.panicked = none :=
  (hvdInstall_writes_pre m).panicked.trans (by simp only [hvdPre, onSt_fst, St.writeBitfield, hp])

theorem hvdInstall_comp (m : M) (h : CompInv m.1) : CompInv (hvdInstall m).1 := by
  rw [hvdInstall_eq]
  simp only [onSt_fst]
  have hbf : (hvdPre m).1.bf = some m.1.diskOK := rfl
  have hcc : (hvdPre m).1.completeCClosed = (hvdPre m).1.completed := by simpa using h.cc
  split
  · exact (resetCompletion_truthful _ hcc).of_bf (by rw [(resetCompletion_writes _).bf, hbf]; rfl)
  · next hall => exact Truthful.of_bf ⟨hcc, fun _ => Or.inr ⟨_, hbf, by simpa using hall⟩⟩ (hbf ▸ rfl)

theorem handleVerificationDone_comp (m : M) (h : CompInv m.1) : CompInv (handleVerificationDone m).1 :=
  have h0 := hvdInstall_comp m h
  handleVerificationDone_cases (P := fun x => CompInv x.1) m (fun _ => onSt_stop _ _ _ (stop_comp _ _ h0.of_frame))
    fun _ => hadCheck_comp _ (h0.of_writes (hvdHaves_writes _))

theorem runWorkers_comp (fuel : Nat) (m : M) (h : CompInv m.1) : CompInv (runWorkers fuel m).1 :=
  runWorkers_inv (P := fun x => CompInv x.1) (fun m _ _ => handleStopped_comp m) (fun m _ => allocatorRun_comp m)
    (fun m _ => handleVerificationDone_comp m) (fun m w _ _ => handlePieceWriteDone_comp m w false)
    (fun m w _ => writerRun_comp m w) fuel m h


theorem handle_comp (s : St) (p : Parked) (kn : Nat → Bool) (op : Op) (h : CompInv s) :
    CompInv (handle s p kn op).1.1 :=
  handle_ind s p kn op (fun _ _ _ _ _ _ _ _ _ _ _ ht => ht.of_frame) h
    (start_comp (s, []) h) (stop_comp _ false h.of_frame)
    (fun _ => handleVerifyCommand_comp ({ s with persisted := none }, []) h.of_frame)
    (fun _ _ _ _ _ => h.of_writes (mutate_writes ..)) (fun _ hW _ => h.of_writes hW) (fun _ hW => h.of_writes hW)
    (fun _ _ _ _ _ _ _ => handlePieceMessage_comp (s, []) _ _ _ _ _ h)
    (fun _ _ _ _ _ _ => handleMetadataData_comp (s, []) _ _ _ _ h)

theorem step_comp (s : St) (p : Parked) (kn : Nat → Bool) (op : Op) (h : CompInv s) :
    CompInv (step s p kn op).1.st :=
  step_inv s p kn op (handle_comp _ p kn op h.of_frame)
    (fun m => runWorkers_comp 12 m) (fun m k i b l g hm _ => handlePieceMessage_comp m k i b l g hm)

theorem dstep_comp (sp : St × Parked) (e : Ev) (h : CompInv sp.1) : CompInv (dstep sp e).1 := by
  unfold dstep
  exact reconcileIdl_comp _ _ (reconcile_comp _ _ (step_comp sp.1 sp.2 e.known e.op h))

theorem drun_comp (evs : List Ev) (sp : St × Parked) (h : CompInv sp.1) : CompInv (drun sp evs).1 :=
  foldl_inv (fun sp => CompInv sp.1) dstep dstep_comp evs sp h

/-- Seeding means every piece is held (`info`: the metadata is known — the status test itself does not
look at it). -/
theorem CompInv.seeding {s : St} (h : CompInv s) (hs : s.status = .seeding) (hi : s.info = true) :
    ∃ b, s.bf = some b ∧ allTrue b = true := by
  obtain ⟨he, hsa, ha, hv, hc⟩ := (status_seeding_iff s).1 hs
  rcases h.all hc with hn | hb
  · have := h.run he hsa ha hv hi
    rw [hn] at this
    cases this
  · exact hb

end Rain.Loop
