import RainModel.Lemmas.LoopFrame
/-!
`handleMetadataData` (C13, C06, C19, C04): when the message completes a metadata download with the right
hash the handler is `hmdAdopt` (otherwise `info` keeps its value: `handleMetadataData_info_cases`, after the case
principle in `LoopDispatch`); `hmdAdopt` adopts the info dictionary exactly when it is within `Config.MaxPieces` and
not private (what the adopted torrent does next — the allocator, or a stop under `StopAfterMetadata` — is in
`LoopMetaStop`).
-/
namespace Rain.Loop

/-- The state in which `hmdAdopt` runs: block `i` of the download `d` of peer `k` has been stored. -/
def hmdStored (m : M) (d : IDl) (k i : Nat) (good : Bool) : M :=
  onSt m fun s => { s with idls := s.idls.map fun x =>
    if x.k = k then { d with pending := d.pending - 1, blocks := d.blocks.set i (some good) } else x }

/-- The message is block `i` of the running download `d` of peer `k`, with the right length, and the first
answer for that block (a repeated one closes the peer, C17-F6); it was the last block outstanding and the
assembled buffer has the announced size and the right hash. -/
def HmdComplete (m : M) (d : IDl) (k i len : Nat) (good : Bool) : Prop :=
  m.1.idls.find? (·.k = k) = some d ∧ i < d.nb ∧ len = blockSizeOf d.size i ∧
    (d.blocks.getD i none).isSome = false ∧ d.pending - 1 = 0 ∧
    d.size = m.1.isize ∧ ∀ x ∈ d.blocks.set i (some good), x = some true

theorem handleMetadataData_complete (m : M) (d : IDl) (k i len : Nat) (good : Bool)
    (h : HmdComplete m d k i len good) :
    handleMetadataData m k i len good = hmdAdopt (hmdStored m d k i good) := by
  obtain ⟨hd, hi, hlen, hfirst, hpend, hsz, hall⟩ := h
  rw [handleMetadataData_eq, hd]
  dsimp only
  unfold hmdBlock
  have h1 : ¬ i ≥ d.nb := by omega
  have h3 : (decide (d.size = m.1.isize) && (d.blocks.set i (some good)).all (· = some true)) = true := by
    simp only [Bool.and_eq_true, decide_eq_true_eq, List.all_eq_true]
    exact ⟨hsz, hall⟩
  simp only [h1, hlen, hfirst, hpend, h3, ↓reduceIte, ne_eq, not_true_eq_false, Bool.not_true, Bool.false_eq_true]
  rfl

@[simp] theorem hmdStart_info (m : M) : (hmdStart m).1.info = m.1.info := by
  unfold hmdStart
  split
  · simp
  · simp only [onSt_fst]; split <;> simp

/-- `parseInfo`'s verdict: the downloaded info dictionary is adopted exactly when it has at most
`Config.MaxPieces` pieces and is not private. -/
theorem hmdAdopt_info_eq (m : M) :
    (hmdAdopt m).1.info = (m.1.info || (decide (m.1.cfg.n ≤ m.1.cfg.maxPieces) && !m.1.cfg.isPrivate)) :=
  hmdAdopt_cases (P := fun x => x.1.info = (m.1.info || (decide (m.1.cfg.n ≤ m.1.cfg.maxPieces) && !m.1.cfg.isPrivate))) m
    (fun h => by
      rw [onSt_fst, (stop_writes _ _).info]
      rcases h with h | h
      · simp [Nat.not_le.2 h]
      · simp [h])
    fun hn hp => by rw [hmdStart_info]; simp [Nat.not_lt.1 hn, hp]

/-- A refused info dictionary (too many pieces, or private): the metadata downloads are dropped and the
torrent is stopped with an error. -/
theorem hmdAdopt_refused (m : M) (h : m.1.cfg.n > m.1.cfg.maxPieces ∨ m.1.cfg.isPrivate = true) :
    (hmdAdopt m).1 = ({ m.1 with idls := [] } : St).stop true :=
  hmdAdopt_cases (P := fun x => x.1 = ({ m.1 with idls := [] } : St).stop true) m (fun _ => rfl)
    fun hn hp => h.elim (absurd · hn) fun h => Bool.noConfusion (hp.symm.trans h)

theorem hmdAdopt_accepted (m : M) (hn : m.1.cfg.n ≤ m.1.cfg.maxPieces) (hp : m.1.cfg.isPrivate = false) :
    hmdAdopt m = hmdStart (onSt m fun s => { s with idls := [], info := true, metaDone := true }) :=
  hmdAdopt_cases (P := fun x => x = hmdStart (onSt m fun s => { s with idls := [], info := true, metaDone := true })) m
    (fun h => h.elim (fun h => absurd hn (Nat.not_le.2 h)) fun h => Bool.noConfusion (hp.symm.trans h)) fun _ _ => rfl

end Rain.Loop
