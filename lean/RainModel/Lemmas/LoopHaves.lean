import RainModel.Lemmas.LoopStr
import RainModel.Lemmas.LoopSound
/-!
What each handler sends.  `Sends g m₀ m`: every message `m` holds beyond those of `m₀` is not a `have`, or is
`have:i` for an `i` with `g i`; it is walked through the handlers like an invariant of `m`, most of which leave the
messages alone (`_snd`).  Only two places send a `have`: the completion of a write and the end of a verification,
and both name pieces whose verified bytes are on disk (`reported_only_verified`).
-/
namespace Rain.Loop

def Sends (g : Nat → Prop) (m m' : M) : Prop := ∀ o ∈ m'.2, o ∈ m.2 ∨ ∀ i, o.msg = haveMsg i → g i

variable {g : Nat → Prop} {m₀ m m' : M}

theorem Sends.refl (m : M) : Sends g m m := fun _ h => Or.inl h

theorem sends_nil (s : St) : Sends g m₀ (s, []) := fun _ h => nomatch h

theorem Sends.trans {a b c : M} (h1 : Sends g a b) (h2 : Sends g b c) : Sends g a c :=
  fun o ho => (h2 o ho).elim (h1 o) Or.inr

theorem Sends.congr (h : m'.2 = m.2) : Sends g m₀ m' ↔ Sends g m₀ m := by
  unfold Sends; rw [h]

theorem sends_ite {c : Prop} [Decidable c] {a b : M} :
    Sends g m₀ (if c then a else b) ↔ (c → Sends g m₀ a) ∧ (¬c → Sends g m₀ b) := by
  split <;> simp [*]

theorem sends_of {k : Nat} {x : String} (h : Sends g m₀ m) (hx : ∀ i, x = haveMsg i → g i) : Sends g m₀ (send m k x) := by
  intro o ho
  rw [send_snd, List.mem_append, List.mem_singleton] at ho
  rcases ho with ho | rfl
  · exact h o ho
  · exact Or.inr hx

theorem sends_send {k : Nat} {x : String} (h : Sends g m₀ m) (hx : NotHave x) : Sends g m₀ (send m k x) :=
  sends_of h fun i hi => absurd hi (hx i)

theorem sends_have {k i : Nat} (h : Sends g m₀ m) (hi : g i) : Sends g m₀ (send m k (haveMsg i)) :=
  sends_of h fun _ hj => haveMsg_inj hj ▸ hi

theorem sends_foldl {α} (l : List α) (f : M → α → M) (hf : ∀ x, ∀ a ∈ l, Sends g m₀ x → Sends g m₀ (f x a))
    (h : Sends g m₀ m) : Sends g m₀ (l.foldl f m) :=
  foldl_inv_mem (Sends g m₀) l f hf m h

/-! ### handlers that send nothing

Each proof pushes `.2` through the `if`s of the handler down to `onSt`/`closePeerM`, which keep it.  A `match`
is opened by `cases` on its discriminant: `split` is slow on terms of this size. -/

theorem foldl_snd {α} (f : M → α → M) (hf : ∀ x a, (f x a).2 = x.2) (l : List α) (m : M) :
    (l.foldl f m).2 = m.2 := foldl_keep (·.2) f hf l m

theorem haveOne_snd (m : M) (k i : Nat) : (haveOne m k i).2 = m.2 := by
  unfold haveOne
  simp only [apply_ite Prod.snd, onSt_snd, ite_self]

theorem handlePieceMessage_snd (m : M) (k i b l : Nat) (g : Bool) : (handlePieceMessage m k i b l g).2 = m.2 := by
  unfold handlePieceMessage
  simp only [apply_ite Prod.snd, closePeerM_snd]
  cases m.1.findDl k <;> simp only [apply_ite Prod.snd, onSt_snd, closePeerM_snd, ite_self]

theorem pwdSet_snd (m : M) (w : WriteJob) (b : List Bool) : (pwdSet m w b).2 = m.2 := by
  unfold pwdSet
  simp only [onSt_snd, apply_ite Prod.snd, ite_self]

theorem pwdOthers_snd (m : M) (w : WriteJob) : (pwdOthers m w).2 = m.2 :=
  foldl_snd _ (fun _ _ => onSt_snd ..) _ m

theorem pwdFinish_snd (m : M) : (pwdFinish m).2 = m.2 := by
  unfold pwdFinish
  simp only [apply_ite Prod.snd, onSt_snd, ite_self]

theorem hvdInstall_snd (m : M) : (hvdInstall m).2 = m.2 := by
  unfold hvdInstall
  simp only [onSt_snd]

theorem startCore_snd (m : M) : (startCore m).2 = m.2 := by
  unfold startCore
  simp only [apply_ite Prod.snd, onSt_snd, ite_self]

theorem handleStopped_snd (m : M) : (handleStopped m).2 = m.2 := by
  unfold handleStopped
  simp only [apply_ite Prod.snd, startCore_snd, onSt_snd, ite_self]

theorem start_snd (m : M) : (start m).2 = m.2 := by
  unfold start
  simp only [apply_ite Prod.snd, startCore_snd, handleStopped_snd, onSt_snd, ite_self]

theorem handleVerifyCommand_snd (m : M) : (handleVerifyCommand m).2 = m.2 := by
  unfold handleVerifyCommand
  simp only [apply_ite Prod.snd, startCore_snd, onSt_snd, ite_self]

theorem handleExtHandshake_snd (m : M) (k : Nat) (hm : Bool) (sz : Nat) (hp : Bool) :
    (handleExtHandshake m k hm sz hp).2 = m.2 := by
  unfold handleExtHandshake
  cases m.1.findPeer k <;> simp only [apply_ite Prod.snd, onSt_snd, ite_self]

theorem hmdStart_snd (m : M) : (hmdStart m).2 = m.2 := by
  unfold hmdStart
  simp only [apply_ite Prod.snd, onSt_snd, ite_self]

theorem hmdAdopt_snd (m : M) : (hmdAdopt m).2 = m.2 := by
  unfold hmdAdopt
  simp only [apply_ite Prod.snd, hmdStart_snd, onSt_snd, ite_self]

theorem handleMetadataData_snd (m : M) (k i len : Nat) (g : Bool) : (handleMetadataData m k i len g).2 = m.2 := by
  rw [handleMetadataData_eq]
  cases m.1.idls.find? (·.k = k)
  · rfl
  · unfold hmdBlock
    simp only [apply_ite Prod.snd, hmdAdopt_snd, onSt_snd, closePeerM_snd, ite_self]

theorem handleMetadataReject_snd (m : M) (k : Nat) : (handleMetadataReject m k).2 = m.2 := by
  unfold handleMetadataReject
  simp only [apply_ite Prod.snd, onSt_snd, closePeerM_snd, ite_self]

theorem handleNewPeers_snd (m : M) (ne : Bool) : (handleNewPeers m ne).2 = m.2 := by
  unfold handleNewPeers
  simp only [apply_ite Prod.snd, onSt_snd, ite_self]

theorem handlePex_snd (m : M) (a d : Bool) : (handlePex m a d).2 = m.2 := by
  unfold handlePex
  simp only [apply_ite Prod.snd, handleNewPeers_snd, ite_self]

theorem handleDhtPeers_snd (m : M) (ne : Bool) : (handleDhtPeers m ne).2 = m.2 := by
  unfold handleDhtPeers
  simp only [apply_ite Prod.snd, handleNewPeers_snd, ite_self]

theorem handlePeerSnubbed_snd (m : M) (k : Nat) : (handlePeerSnubbed m k).2 = m.2 := by
  unfold handlePeerSnubbed
  cases m.1.findDl k <;> cases m.1.findPeer k <;> simp only [apply_ite Prod.snd, onSt_snd, ite_self]

/-! ### handlers that send, but no `have`

The `simp only` calls carry `Sends g m₀ ·` through the body of a handler: `sends_ite` at an `if`, `Sends.congr`
at a step that keeps `.2`, `sends_send` at a `send` (with the fact that its string is no `have`), and the
lemma of each handler called on the way. -/

theorem updateInterested_sends (k : Nat) (h : Sends g m₀ m) : Sends g m₀ (updateInterested m k) := by
  unfold updateInterested
  dsimp only
  cases m.1.bf <;> cases m.1.findPeer k <;>
    simp only [sends_ite, Sends.congr (onSt_snd ..), sends_send, notHave_interested, notHave_notinterested, h,
      implies_true, and_self]

theorem handlePeerMessage_sends (k : Nat) (msg : Msg) (h : Sends g m₀ m) :
    Sends g m₀ (handlePeerMessage m k msg) := by
  unfold handlePeerMessage
  dsimp only
  cases msg
  case «have» i =>
    simp only [sends_ite, Sends.congr (onSt_snd ..), Sends.congr (closePeerM_snd ..), Sends.congr (haveOne_snd ..),
      updateInterested_sends, h, implies_true, and_self]
  case bitfield bits nb =>
    have hf : ∀ (x : M) (i : Nat), (if bits.getD i false then haveOne x k i else x).2 = x.2 := fun x i => by
      simp only [apply_ite Prod.snd, haveOne_snd, ite_self]
    simp only [sends_ite, Sends.congr (onSt_snd ..), Sends.congr (closePeerM_snd ..), Sends.congr (foldl_snd _ hf ..),
      updateInterested_sends, h, implies_true, and_self]
  case haveAll =>
    simp only [sends_ite, Sends.congr (onSt_snd ..), Sends.congr (foldl_snd _ (fun x i => haveOne_snd x k i) ..),
      updateInterested_sends, h, implies_true, and_self]
  case haveNone => exact h
  case allowedFast i =>
    simp only [sends_ite, Sends.congr (onSt_snd ..), Sends.congr (closePeerM_snd ..), h, implies_true, and_self]
  case unchoke =>
    cases m.1.findDl k <;> simp only [sends_ite, Sends.congr (onSt_snd ..), h, implies_true, and_self]
  case choke =>
    cases m.1.findDl k <;> simp only [sends_ite, Sends.congr (onSt_snd ..), h, implies_true, and_self]
  case interested =>
    simp only [onSt_fst]
    cases (m.1.updPeer k fun p => { p with peerInterested := true }).findPeer k <;>
      simp only [sends_ite, Sends.congr (onSt_snd ..), sends_send, notHave_unchoke, h, implies_true, and_self]
  case notInterested => exact (Sends.congr (onSt_snd ..)).2 h
  case request i b l =>
    cases m.1.findPeer k <;>
      simp only [sends_ite, Sends.congr (onSt_snd ..), Sends.congr (closePeerM_snd ..), sends_send, notHave_reject,
        notHave_piece, h, implies_true, and_self]
  case reject i b l =>
    cases m.1.findDl k <;> simp only [sends_ite, Sends.congr (closePeerM_snd ..), h, implies_true, and_self]
  case cancel i b l =>
    cases m.1.findPeer k <;>
      simp only [sends_ite, Sends.congr (closePeerM_snd ..), sends_send, notHave_reject, h, implies_true, and_self]
  case piece i b l g => exact (Sends.congr (handlePieceMessage_snd ..)).2 h

theorem processQueued_sends (h : Sends g m₀ m) : Sends g m₀ (processQueued m) := by
  unfold processQueued
  refine sends_foldl _ _ (fun x k _ hx => ?_) h
  cases x.1.findPeer k
  · exact hx
  · refine sends_foldl _ _ (fun y msg _ hy => ?_) ((Sends.congr (onSt_snd ..)).2 hx)
    exact sends_ite.2 ⟨fun _ => handlePeerMessage_sends k msg hy, fun _ => hy⟩

theorem hadCheck_sends (h : Sends g m₀ m) : Sends g m₀ (hadCheck m) := by
  unfold hadCheck hadReady
  have hq : Sends g m₀ (processQueued (m.1.checkCompletion.1, m.2)) := processQueued_sends h
  simp only [sends_ite, Sends.congr (onSt_snd ..), hq, implies_true, and_true]
  exact fun _ => h

theorem hadFresh_sends (h : Sends g m₀ m) : Sends g m₀ (hadFresh m) := by
  have h' : Sends g m₀ (hadFreshInstall m) := (Sends.congr (onSt_snd ..)).2 h
  unfold hadFresh
  simp only [sends_ite, Sends.congr (onSt_snd ..), hadCheck_sends, h', implies_true, and_self]

theorem handleAllocationDone_sends (ex mi : Bool) (h : Sends g m₀ m) :
    Sends g m₀ (handleAllocationDone m ex mi) := by
  have h' : Sends g m₀ (hadForget (hadInstall m) mi) := (Sends.congr (onSt_snd ..)).2 ((Sends.congr (onSt_snd ..)).2 h)
  rw [handleAllocationDone_eq]
  dsimp only
  cases (hadForget (hadInstall m) mi).1.bf <;>
    simp only [hadTrust, sends_ite, Sends.congr (onSt_snd ..), hadCheck_sends, hadFresh_sends, h',
      implies_true, and_self]

theorem allocatorRun_sends (h : Sends g m₀ m) : Sends g m₀ (allocatorRun m) := by
  unfold allocatorRun
  simp only [sends_ite, Sends.congr (onSt_snd ..), handleAllocationDone_sends, h, implies_true, and_self]

theorem firstMessages_notHave (s : St) (p : Peer) : ∀ x ∈ firstMessages s p, NotHave x := by
  let Q : List String → Prop := fun l => ∀ x ∈ l, NotHave x
  have one : ∀ {y}, NotHave y → Q [y] := fun h x hx => List.mem_singleton.1 hx ▸ h
  have nil : Q [] := fun _ h => nomatch h
  have app : ∀ {l l'}, Q l → Q l' → Q (l ++ l') := fun h h' x hx => (List.mem_append.1 hx).elim (h x) (h' x)
  unfold firstMessages
  refine app ?_ (ite_ind (P := Q) (fun _ => one notHave_exths) fun _ => nil)
  cases s.bf with
  | none => exact ite_ind (P := Q) (fun _ => one notHave_havenone) fun _ => nil
  | some b =>
    exact ite_ind (P := Q) (fun _ => one notHave_haveall) fun _ =>
      ite_ind (P := Q) (fun _ => one notHave_havenone) fun _ => one (notHave_bitfield _)

theorem acceptPeer_sends (k : Nat) (ip : String) (fast ext bad dup : Bool) (h : Sends g m₀ m) :
    Sends g m₀ (acceptPeer m k ip fast ext bad dup).1 := by
  unfold acceptPeer
  simp only [apply_ite Prod.fst, sends_ite, h, implies_true, true_and]
  intros
  exact sends_foldl _ _ (fun x msg hmsg hx => sends_send hx (firstMessages_notHave _ _ msg hmsg))
    ((Sends.congr (onSt_snd ..)).2 h)

/-- No handler of an op sends a `have`: they all come from the workers. -/
theorem handle_noHave (s : St) (p : Parked) (kn : Nat → Bool) (op : Op) :
    ∀ o ∈ (handle s p kn op).1.2, NotHave o.msg := by
  suffices h : Sends (fun _ => False) (s, []) (handle s p kn op).1 from fun o ho => (h o ho).resolve_left List.not_mem_nil
  cases op
  case msg k msg =>
    cases msg <;>
      simp only [handle, apply_ite Prod.fst, sends_ite, sends_nil, handlePeerMessage_sends,
        Sends.congr (handlePieceMessage_snd ..), implies_true, and_self]
  case peer k ip fast ext bad =>
    simp only [handle, apply_ite Prod.fst, sends_ite, sends_nil, implies_true, true_and]
    intros
    exact acceptPeer_sends k ip fast ext bad false (sends_nil s)
  case metareq k i =>
    simp only [handle]
    cases s.findPeer k <;>
      simp only [apply_ite Prod.fst, sends_ite, sends_nil, sends_send, notHave_extmeta1, notHave_extmeta2,
        implies_true, and_self]
  case gate kind on => cases kind <;> exact sends_nil _
  all_goals
    simp only [handle, apply_ite Prod.fst, sends_ite, sends_nil, Sends.congr (onSt_snd ..),
      Sends.congr (closePeerM_snd ..), Sends.congr (start_snd _), Sends.congr (handleVerifyCommand_snd _),
      Sends.congr (handleExtHandshake_snd ..), Sends.congr (handleMetadataData_snd ..),
      Sends.congr (handleMetadataReject_snd ..), Sends.congr (handlePex_snd ..), Sends.congr (handleDhtPeers_snd ..),
      Sends.congr (handlePeerSnubbed_snd ..), implies_true, and_self]

/-! ### the two places that send a `have` -/

theorem pwdBan_snd (m : M) (w : WriteJob) : (pwdBan m w).2 = m.2 := by
  unfold pwdBan
  simp only [onSt_snd, closePeerM_snd]

theorem pwdHaves_sends (w : WriteJob) (hh : g w.piece) (h : Sends g m₀ m) : Sends g m₀ (pwdHaves m w) := by
  unfold pwdHaves
  refine sends_foldl _ _ (fun x p _ hx => ?_) h
  have hu := updateInterested_sends p.k hx
  exact sends_ite.2 ⟨fun _ => hu, fun _ => sends_have hu hh⟩

/-- `handlePieceWriteDone` sends interest updates, and `have:piece` only on the verified path of a result that
is still current. -/
theorem handlePieceWriteDone_sends (w : WriteJob) (e : Bool)
    (hh : w.good = true → e = false → w.gen = m.1.gen → m.1.loaded = true → g w.piece)
    (h : Sends g m₀ m) : Sends g m₀ (handlePieceWriteDone m w e) := by
  have h0 : Sends g m₀ (pwdReset m w) := (Sends.congr (onSt_snd ..)).2 h
  rw [handlePieceWriteDone_eq]
  dsimp only
  simp only [sends_ite, Sends.congr (pwdBan_snd ..), Sends.congr (onSt_snd ..), h0, implies_true, true_and]
  intro hg hst he
  cases (pwdDone (pwdReset m w) w).1.bf
  · exact (Sends.congr ((onSt_snd ..).trans (onSt_snd ..))).2 h0
  · simp only [Bool.or_eq_true, ne_eq, decide_eq_true_eq, Bool.not_eq_true', not_or, Decidable.not_not,
      Bool.not_eq_false, Bool.not_eq_true] at hg hst he
    refine (Sends.congr (pwdFinish_snd _)).2 (pwdHaves_sends w (hh hg he hst.1 hst.2) ?_)
    exact (Sends.congr ((pwdOthers_snd ..).trans ((pwdSet_snd ..).trans (onSt_snd ..)))).2 h0

theorem hvdHaves_sends (hh : ∀ i, m.1.diskOK.getD i false = true → g i) (h : Sends g m₀ m) :
    Sends g m₀ (hvdHaves m) := by
  unfold hvdHaves
  refine sends_foldl _ _ (fun x p _ hx => updateInterested_sends p.k ?_) h
  exact sends_foldl _ _ (fun y i hi hy => sends_have hy (hh i (List.mem_filter.1 hi).2)) hx

/-- The messages `m'` adds to `m` are fine: a `have` among them names a piece whose verified bytes are on disk. -/
def NewOK (m m' : M) : Prop := Sends (m'.1.diskOKi · = true) m m'

theorem NewOK.of_snd_eq {a : M} (h : NewOK a m') (ha : a.2 = m.2) : NewOK m m' := by
  unfold NewOK Sends at *; rwa [ha] at h

theorem handlePieceWriteDone_haves (m : M) (w : WriteJob) (e : Bool)
    (hok : w.good = true → e = false → w.gen = m.1.gen → m.1.loaded = true → m.1.diskOKi w.piece = true) :
    NewOK m (handlePieceWriteDone m w e) := by
  have a := handlePieceWriteDone_adv m w e hok
  exact handlePieceWriteDone_sends w e (fun hg he h3 h4 => diskOKi_mono a.cfg a.bad _ (hok hg he h3 h4)) (Sends.refl m)

/-- **A `have` sent on completion of a write names a piece whose verified bytes are on disk.** -/
theorem writerRun_haves (m : M) (w : WriteJob) (h : Sound0 m.1) : NewOK m (writerRun m w) := by
  refine writerRun_cases (P := NewOK m) m w
    (fun hg => handlePieceWriteDone_haves m w false fun hg' => by rw [hg] at hg'; cases hg')
    (fun hs => handlePieceWriteDone_haves m _ false fun hg _ _ _ =>
      diskOKi_of_no_stored m.1 h.bad _ hs (Bool.and_eq_true_iff.1 hg).2)
    (fun _ => (handlePieceWriteDone_haves (_, m.2) w true fun _ h => by cases h).of_snd_eq rfl)
    fun sc l sto hs _ _ _ _ => ⟨Sends.refl m, ?_⟩
  exact (handlePieceWriteDone_haves ({ m.1 with sto := sto, bad := m.1.bad.filter (fun b => b.1 ≠ w.piece) }, m.2) w false
    fun _ _ _ _ => written_diskOKi m.1 w.piece sc l hs _ rfl rfl).of_snd_eq rfl

theorem handleVerificationDone_sends (hh : ∀ i, m.1.diskOK.getD i false = true → g i) (h : Sends g m₀ m) :
    Sends g m₀ (handleVerificationDone m) := by
  have h0 : Sends g m₀ (hvdInstall m) := (Sends.congr (hvdInstall_snd m)).2 h
  rw [handleVerificationDone_eq]
  refine sends_ite.2 ⟨fun _ => (Sends.congr (onSt_snd ..)).2 h0, fun _ => ?_⟩
  exact (hvdHaves_sends (fun i hd => hh i (by simpa using hd)) h0).trans (hadCheck_sends (Sends.refl _))

/-- **The `have`s sent after a verification name only pieces the verifier found on disk.** -/
theorem handleVerificationDone_newOK (m : M) : NewOK m (handleVerificationDone m) := by
  have a := handleVerificationDone_adv m
  exact handleVerificationDone_sends (fun i hd => diskOKi_mono a.cfg a.bad i ((diskOK_getD m.1 i).1 hd).2) (Sends.refl m)

/-- **The bitfield a new peer is sent is the client's bitfield**: `haveall` only if every bit is set,
`havenone` only if none is, otherwise the bitfield itself — so under `BitsSound` it names only verified
pieces. -/
theorem firstMessages_bitfield (s : St) (p : Peer) (b : List Bool) (hb : s.bf = some b) :
    firstMessages s p = (if p.fast && allTrue b && !b.isEmpty then ["haveall"]
      else if p.fast && !(b.any id) then ["havenone"] else ["bitfield:" ++ bitsHex b]) ++
      (if p.ext then ["exths"] else []) := by
  unfold firstMessages
  simp [hb]

theorem firstMessages_none (s : St) (p : Peer) (hb : s.bf = none) :
    firstMessages s p = (if p.fast then ["havenone"] else []) ++ (if p.ext then ["exths"] else []) := by
  unfold firstMessages
  simp [hb]

end Rain.Loop
