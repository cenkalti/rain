import RainModel.Model.ResumeCodec
import RainModel.Lemmas.Radix
namespace Rain.ResumeCodec
open List

theorem digitsRev_eq : ∀ f n, digitsRev f n = Radix.digitsRev 10 f n
  | 0, _ => rfl
  | f + 1, n => by rw [digitsRev, Radix.digitsRev, digitsRev_eq f]

theorem natToDec_eq (n : Nat) : natToDec n = Radix.natDec n := by
  simp only [natToDec, Radix.natDec, digitsRev_eq, Nat.add_comm]

theorem decToNat_natToDec (n : Nat) : decToNat (natToDec n) = some n := by
  rw [decToNat, natToDec_eq, if_neg (Radix.natDec_ne_nil n)]
  refine Radix.read_natDec (r := fun cs a => cs.foldl decStep (some a)) (fun _ => rfl) (fun d cs a hd => ?_) n
  have : 48 + d ≤ 57 := by omega
  simp [decStep, this]

theorem natToDec_head (n : Nat) : ∃ c r, natToDec n = c :: r ∧ 48 ≤ c ∧ c ≤ 57 :=
  natToDec_eq n ▸ Radix.natDec_head n

theorem atoi_itoa (i : Int) (h : inInt64 i) : atoi (itoa i) = some i := by
  unfold itoa
  by_cases hneg : i < 0
  · rw [if_pos hneg]
    unfold atoi
    simp only [if_true, decToNat_natToDec, Option.bind_some]
    have : -((i.natAbs : Nat) : Int) = i := by omega
    rw [this, if_pos h]
  · rw [if_neg hneg]
    obtain ⟨c, r, hcr, h1, h2⟩ := natToDec_head i.natAbs
    unfold atoi
    rw [hcr]
    have h45 : c ≠ 45 := by omega
    have h43 : c ≠ 43 := by omega
    simp only [h45, h43, if_false]
    rw [← hcr, decToNat_natToDec]
    simp only [Option.bind_some]
    have : ((i.natAbs : Nat) : Int) = i := by omega
    rw [this, if_pos h]

theorem parseBool_fmtBool (b : Bool) : parseBool (fmtBool b) = some b := by
  cases b <;> decide

theorem strip_spec (l : List Nat) : ∃ k, stripTrailingZeros l ++ List.replicate k 0 = l := by
  refine ⟨(l.reverse.takeWhile (· = 0)).length, ?_⟩
  have h := congrArg List.reverse (List.takeWhile_append_dropWhile (p := (· = 0)) (l := l.reverse))
  rw [List.reverse_append, List.reverse_reverse] at h
  rw [stripTrailingZeros, ← List.length_reverse, ← List.eq_replicate_iff.2 ⟨rfl, fun b hb => ?_⟩, h]
  simpa using List.all_eq_true.1 List.all_takeWhile b (List.mem_reverse.1 hb)

theorem nineDigits_eq (n : Nat) : nineDigits n = Radix.digits 10 9 n := by simp [nineDigits, Radix.digits]

theorem ofDigits_nineDigits (n : Nat) (h : n < 1000000000) : ofDigits (nineDigits n) = n := by
  rw [nineDigits_eq]; exact Radix.ofDigits_digits_of_lt h

theorem nineDigits_lt (n : Nat) : ∀ d ∈ nineDigits n, d < 10 := by
  rw [nineDigits_eq]; exact Radix.digits_lt (by decide) 9 n

theorem decTime_encTime (t : Time) (h : t.nsec < 1000000000) : decTime (encTime t) = some t := by
  obtain ⟨k, hk⟩ := strip_spec (nineDigits t.nsec)
  have hlen : (stripTrailingZeros (nineDigits t.nsec)).length + k = 9 := by
    have := congrArg List.length hk
    rwa [List.length_append, List.length_replicate] at this
  have hall : (stripTrailingZeros (nineDigits t.nsec)).all (· < 10) = true :=
    List.all_eq_true.2 fun d hd => by simpa using nineDigits_lt t.nsec d (hk ▸ List.mem_append_left _ hd)
  rw [encTime, decTime, if_pos ⟨by omega, hall⟩, show 9 - _ = k by omega, hk, ofDigits_nineDigits _ h]

theorem decDuration_encDuration (d : Int) (h : inInt64 d) : decDuration (encDuration d) = some d := by
  simp [encDuration, decDuration, h]

/-- The numeric fields are within the Go types' ranges (`int`, `int64`, `time.Duration`; nanoseconds
of a `time.Time` are below one second). -/
structure InRange (s : Spec) : Prop where
  port : inInt64 s.port
  dl : inInt64 s.bytesDownloaded
  ul : inInt64 s.bytesUploaded
  wa : inInt64 s.bytesWasted
  se : inInt64 s.seededFor
  ver : inInt64 s.version
  nsec : s.addedAt.nsec < 1000000000

def JsonOk (s : Spec) : Prop :=
  decTiers (encTiers s.trackers) = some s.trackers ∧
  decStrList (encStrList s.urlList) = some s.urlList ∧
  decStrList (encStrList s.fixedPeers) = some s.fixedPeers

instance (s : Spec) : Decidable (JsonOk s) := by unfold JsonOk; infer_instance

theorem read_write (s : Spec) (hr : InRange s) (hj : JsonOk s) : read (write s) = some (stored s) := by
  have hv : inInt64 (if s.version = 0 then latestVersion else s.version) := by
    by_cases h0 : s.version = 0
    · rw [if_pos h0]; decide
    · rw [if_neg h0]; exact hr.ver
  -- `String.reduceBEq` compares the key literals; without it `simp` evaluates `==` by `whnf` at three times the cost
  simp only [read, write, writeWith, get, getRaw, List.find?, String.reduceBEq, stored]
  simp [atoi_itoa _ hr.port, atoi_itoa _ hr.dl, atoi_itoa _ hr.ul, atoi_itoa _ hr.wa, atoi_itoa _ hv,
    decTime_encTime _ hr.nsec, decDuration_encDuration _ hr.se, parseBool_fmtBool, hj.1, hj.2.1, hj.2.2]

end Rain.ResumeCodec
