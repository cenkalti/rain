import RainModel.Model.STree
/-!
Helper lemmas for `Model/STree`: sort/dedup, elementary intervals, the tree build, and what
`insertInterval` adds to the answer of a stabbing `querySingle` (`Node.Path`).
-/
namespace Rain.STree

theorem mem_insertSorted {x y : Nat} {l : List Nat} : y ∈ insertSorted x l ↔ y = x ∨ y ∈ l := by
  induction l with
  | nil => simp [insertSorted]
  | cons a t ih =>
    unfold insertSorted
    split
    · simp
    · rw [List.mem_cons, ih, List.mem_cons]
      constructor
      · rintro (h | h | h) <;> simp [h]
      · rintro (h | h | h) <;> simp [h]

theorem mem_sortNat {y : Nat} {l : List Nat} : y ∈ sortNat l ↔ y ∈ l := by
  induction l with
  | nil => simp [sortNat]
  | cons a t ih =>
    have : sortNat (a :: t) = insertSorted a (sortNat t) := rfl
    rw [this, mem_insertSorted, ih]; simp

theorem sorted_insertSorted {x : Nat} {l : List Nat} (h : l.Pairwise (· ≤ ·)) :
    (insertSorted x l).Pairwise (· ≤ ·) := by
  induction l with
  | nil => simp [insertSorted]
  | cons a t ih =>
    unfold insertSorted
    rw [List.pairwise_cons] at h
    split
    · rename_i hxa
      refine List.pairwise_cons.2 ⟨?_, List.pairwise_cons.2 h⟩
      intro b hb
      rcases List.mem_cons.1 hb with rfl | hb
      · exact hxa
      · exact Nat.le_trans hxa (h.1 b hb)
    · rename_i hxa
      refine List.pairwise_cons.2 ⟨?_, ih h.2⟩
      intro b hb
      rcases mem_insertSorted.1 hb with rfl | hb
      · omega
      · exact h.1 b hb

theorem sorted_sortNat (l : List Nat) : (sortNat l).Pairwise (· ≤ ·) := by
  induction l with
  | nil => simp [sortNat]
  | cons a t ih => exact sorted_insertSorted ih

theorem dedupLoop_sublist (p : Nat) (l : List Nat) : (dedupLoop p l).Sublist l := by
  induction l generalizing p with
  | nil => simp [dedupLoop]
  | cons a t ih =>
    unfold dedupLoop
    split
    · exact (ih p).cons a
    · exact (ih a).cons_cons a

theorem mem_dedupLoop_of_mem {p x : Nat} {l : List Nat} (h : x ∈ l) : x = p ∨ x ∈ dedupLoop p l := by
  induction l generalizing p with
  | nil => cases h
  | cons a t ih =>
    unfold dedupLoop
    rcases List.mem_cons.1 h with rfl | h
    · split
      · left; assumption
      · right; simp
    · split
      · exact ih h
      · rcases ih (p := a) h with rfl | h'
        · right; simp
        · right; exact List.mem_cons_of_mem _ h'

/-- Why `dedup` keeps the first element: the sentinel `sl[0] + 1` (in `uint32`) differs from `sl[0]`. -/
theorem succ_mod_ne (x : Nat) : (x + 1) % 2 ^ 32 ≠ x := by
  have : (x + 1) % 2 ^ 32 < 2 ^ 32 := Nat.mod_lt _ (by decide)
  intro h
  by_cases hx : x + 1 < 2 ^ 32
  · rw [Nat.mod_eq_of_lt hx] at h; omega
  · by_cases hx' : x + 1 = 2 ^ 32
    · rw [hx'] at h; simp at h; omega
    · omega

theorem dedup_spec {l : List Nat} (h : l ≠ []) :
    ∃ es, dedup l = some es ∧ es ≠ [] ∧ es.Pairwise (· ≤ ·) ∧ ∀ x, x ∈ es ↔ x ∈ l := by
  unfold dedup
  have hsorted := sorted_sortNat l
  cases hs : sortNat l with
  | nil =>
    cases l with
    | nil => exact absurd rfl h
    | cons a t =>
      have : a ∈ sortNat (a :: t) := mem_sortNat.2 (by simp)
      rw [hs] at this; cases this
  | cons s0 rest =>
    rw [hs] at hsorted
    have hsub := dedupLoop_sublist ((s0 + 1) % 2 ^ 32) (s0 :: rest)
    refine ⟨_, rfl, ?_, hsorted.sublist hsub, fun x => ⟨fun hx => ?_, fun hx => ?_⟩⟩
    · unfold dedupLoop
      rw [if_neg (Ne.symm (succ_mod_ne s0))]
      simp
    · exact mem_sortNat.1 (hs ▸ hsub.subset hx)
    · have hx' : x ∈ s0 :: rest := by rw [← hs]; exact mem_sortNat.2 hx
      unfold dedupLoop
      rw [if_neg (Ne.symm (succ_mod_ne s0))]
      rcases List.mem_cons.1 hx' with rfl | hr
      · simp
      · rcases mem_dedupLoop_of_mem (p := s0) hr with rfl | h'
        · simp
        · exact List.mem_cons_of_mem _ h'

theorem endpoints_spec {base : List Interval} (h : base ≠ []) :
    ∃ es mn mx, endpoints base = some (es, mn, mx) ∧ es ≠ [] ∧ es.Pairwise (· ≤ ·) ∧
      ∀ iv ∈ base, iv.lo ∈ es ∧ iv.hi ∈ es := by
  have hne : base.map (·.lo) ++ base.map (·.hi) ≠ [] := by
    cases base with
    | nil => exact absurd rfl h
    | cons a b => simp
  obtain ⟨es, hes, hesne, hsorted, hmem⟩ := dedup_spec hne
  unfold endpoints
  rw [hes]
  cases es with
  | nil => exact absurd rfl hesne
  | cons e es' =>
    refine ⟨_, _, _, rfl, hesne, hsorted, fun iv hiv => ⟨(hmem _).2 ?_, (hmem _).2 ?_⟩⟩
    · exact List.mem_append_left _ (List.mem_map_of_mem hiv)
    · exact List.mem_append_right _ (List.mem_map_of_mem hiv)

def SegLE (a b : Seg) : Prop := a.lo ≤ b.lo ∧ a.hi ≤ b.hi

theorem head_le_of_sorted {q : Nat} {rest : List Nat} (h : (q :: rest).Pairwise (· ≤ ·)) : ∀ e ∈ q :: rest, q ≤ e :=
  List.forall_mem_cons.2 ⟨Nat.le_refl _, (List.pairwise_cons.1 h).1⟩

theorem elementary_ne_nil {es : List Nat} (h : es ≠ []) : elementary es ≠ [] := by
  match es, h with
  | [p], _ => simp [elementary]
  | p :: q :: rest, _ => simp [elementary]

theorem mem_elementary_bounds {es : List Nat} (hs : es.Pairwise (· ≤ ·)) :
    ∀ {p : Nat}, (∀ e ∈ es, p ≤ e) → ∀ s ∈ elementary es, p ≤ s.lo ∧ s.lo ≤ s.hi := by
  induction es using elementary.induct with
  | case1 => intro p _ s hs'; simp [elementary] at hs'
  | case2 p0 =>
    intro p hp s hs'
    simp [elementary] at hs'
    subst hs'
    exact ⟨hp p0 (by simp), Nat.le_refl _⟩
  | case3 p0 q rest ih =>
    intro p hp s hs'
    rw [List.pairwise_cons] at hs
    simp only [elementary, List.mem_cons] at hs'
    rcases hs' with rfl | rfl | h
    · exact ⟨hp p0 (by simp), Nat.le_refl _⟩
    · exact ⟨hp p0 (by simp), hs.1 q (by simp)⟩
    · exact ih hs.2 (fun e he => hp e (List.mem_cons_of_mem _ he)) s h

theorem elementary_pairwise {es : List Nat} (hs : es.Pairwise (· ≤ ·)) :
    (elementary es).Pairwise SegLE := by
  induction es using elementary.induct with
  | case1 => simp [elementary]
  | case2 p => simp [elementary]
  | case3 p q rest ih =>
    have hs' := hs
    rw [List.pairwise_cons] at hs
    have hpq : p ≤ q := hs.1 q (by simp)
    have hb := mem_elementary_bounds hs.2 (p := q) (head_le_of_sorted hs.2)
    simp only [elementary]
    refine List.pairwise_cons.2 ⟨?_, List.pairwise_cons.2 ⟨?_, ih hs.2⟩⟩
    · intro s hs''
      rcases List.mem_cons.1 hs'' with rfl | h
      · exact ⟨Nat.le_refl _, hpq⟩
      · have := hb s h
        exact ⟨by simp only; omega, by simp only; omega⟩
    · intro s h
      have := hb s h
      exact ⟨by simp only; omega, by simp only; omega⟩

theorem elementary_cover {es : List Nat} (hs : es.Pairwise (· ≤ ·)) :
    ∀ {a b v : Nat}, a ∈ es → b ∈ es → a ≤ v → v ≤ b →
      ∃ s ∈ elementary es, s.lo ≤ v ∧ v ≤ s.hi ∧ a ≤ s.lo ∧ s.hi ≤ b := by
  induction es using elementary.induct with
  | case1 => intro a b v ha; cases ha
  | case2 p =>
    intro a b v ha hb hav hvb
    have ha' : a = p := by simpa using ha
    have hb' : b = p := by simpa using hb
    exact ⟨⟨p, p⟩, by simp [elementary], by simp only; omega, by simp only; omega,
      by simp only; omega, by simp only; omega⟩
  | case3 p q rest ih =>
    intro a b v ha hb hav hvb
    rw [List.pairwise_cons] at hs
    have hge := head_le_of_sorted hs.2
    have hpq : p ≤ q := hs.1 q (by simp)
    by_cases hvq : v < q
    · -- a must be p
      have hap : a = p := by
        rcases List.mem_cons.1 ha with rfl | ha'
        · rfl
        · have := hge a ha'; omega
      subst hap
      by_cases hva : v = a
      · subst hva
        exact ⟨⟨v, v⟩, by simp [elementary], Nat.le_refl _, Nat.le_refl _, Nat.le_refl _, hvb⟩
      · have hbq : q ≤ b := by
          rcases List.mem_cons.1 hb with rfl | hb'
          · omega
          · exact hge b hb'
        exact ⟨⟨a, q⟩, by simp [elementary], hav, by simp only; omega, Nat.le_refl _, hbq⟩
    · have hqv : q ≤ v := by omega
      have hb' : b ∈ q :: rest := by
        rcases List.mem_cons.1 hb with rfl | hb'
        · -- b = p ≤ q ≤ v ≤ b, so b = q
          have : b = q := by omega
          subst this; simp
        · exact hb'
      rcases List.mem_cons.1 ha with rfl | ha'
      · obtain ⟨s, hs1, h1, h2, h3, h4⟩ := ih hs.2 (a := q) (b := b) (v := v) (by simp) hb' hqv hvb
        exact ⟨s, by simp only [elementary]; exact List.mem_cons_of_mem _ (List.mem_cons_of_mem _ hs1),
          h1, h2, by omega, h4⟩
      · obtain ⟨s, hs1, h1, h2, h3, h4⟩ := ih hs.2 ha' hb' hav hvb
        exact ⟨s, by simp only [elementary]; exact List.mem_cons_of_mem _ (List.mem_cons_of_mem _ hs1),
          h1, h2, h3, h4⟩

theorem subsetOf_iff {s : Seg} {lo hi : Nat} : s.subsetOf lo hi = true ↔ lo ≤ s.lo ∧ s.hi ≤ hi := by
  simp [Seg.subsetOf]

theorem disjoint_stab {s : Seg} {v : Nat} : s.disjoint v v = false ↔ s.lo ≤ v ∧ v ≤ s.hi := by
  simp [Seg.disjoint]; omega

theorem intersectsWith_iff {s : Seg} {lo hi : Nat} :
    s.intersectsWith lo hi = true ↔ lo ≤ s.hi ∧ s.lo ≤ hi := by
  simp [Seg.intersectsWith]; omega

theorem pairwise_hi_le_getLast {l : List Seg} (hp : l.Pairwise SegLE) (hne : l ≠ []) :
    ∀ x ∈ l, x.hi ≤ (l.getLast hne).hi := by
  induction l with
  | nil => exact absurd rfl hne
  | cons a t ih =>
    intro x hx
    rw [List.pairwise_cons] at hp
    cases t with
    | nil => simp at hx; subst hx; simp
    | cons b t' =>
      rw [List.getLast_cons (by simp)]
      rcases List.mem_cons.1 hx with rfl | hx
      · have hlast : (b :: t').getLast (by simp) ∈ b :: t' := List.getLast_mem _
        exact (hp.1 _ hlast).2
      · exact ih hp.2 (by simp) x hx

/-- A root-to-leaf route along which a stabbing query for `v` is never pruned and the
insertion of `[lo,hi]` never stops before it has stored the interval: inserting `[lo,hi]` makes
the query for `v` find it exactly when there is such a route (`mem_query_insertInterval`). -/
def Node.Path (v lo hi : Nat) : Node → Prop
  | .leaf s _ => s.lo ≤ v ∧ v ≤ s.hi ∧ lo ≤ s.lo ∧ s.hi ≤ hi
  | .node s _ l r => (s.lo ≤ v ∧ v ≤ s.hi) ∧
      ((lo ≤ s.lo ∧ s.hi ≤ hi) ∨ (r.seg.intersectsWith lo hi = true ∧ r.Path v lo hi) ∨
        (l.seg.intersectsWith lo hi = true ∧ l.Path v lo hi))

theorem Node.Path.bounds {v lo hi : Nat} {n : Node} : n.Path v lo hi → lo ≤ v ∧ v ≤ hi := by
  induction n with
  | leaf s ov => exact fun ⟨h1, h2, h3, h4⟩ => ⟨Nat.le_trans h3 h1, Nat.le_trans h2 h4⟩
  | node s ov l r ihl ihr =>
    rintro ⟨h, h3 | h3 | h3⟩
    · exact ⟨Nat.le_trans h3.1 h.1, Nat.le_trans h.2 h3.2⟩
    · exact ihr h3.2
    · exact ihl h3.2

/-- Both halves of at least two leaves are non-empty and fit the remaining fuel. -/
theorem halves {n c fuel : Nat} (h0 : 0 < c) (h1 : c < n) (hl : n ≤ fuel + 1) :
    (0 < min c n ∧ min c n ≤ fuel) ∧ 0 < n - c ∧ n - c ≤ fuel := by
  omega

theorem insertNodes_spec (fuel : Nat) : ∀ (leaves : List Seg), leaves ≠ [] → leaves.length ≤ fuel →
    leaves.Pairwise SegLE →
    ∃ n, insertNodes fuel leaves = some n ∧ (∀ lo hi, n.querySingle lo hi = []) ∧
      (∀ x ∈ leaves, n.seg.lo ≤ x.lo ∧ x.hi ≤ n.seg.hi) ∧
      ∀ v lo hi, ∀ L ∈ leaves, L.lo ≤ v → v ≤ L.hi → lo ≤ L.lo → L.hi ≤ hi → n.Path v lo hi := by
  induction fuel with
  | zero => exact fun leaves hne hlen => absurd (List.length_eq_zero_iff.1 (Nat.le_zero.1 hlen)) hne
  | succ fuel ih =>
    intro leaves hne hlen hp
    match leaves, hne with
    | [s], _ =>
      refine ⟨.leaf s [], rfl, by simp [Node.querySingle], by simp [Node.seg], ?_⟩
      intro v lo hi L hL h1 h2 h3 h4
      cases List.mem_singleton.1 hL
      exact ⟨h1, h2, h3, h4⟩
    | s :: s' :: rest, _ =>
      let leaves := s :: s' :: rest
      let center := leaves.length / 2
      have h2 : 2 ≤ leaves.length := Nat.le_add_left 2 rest.length
      have hl : leaves.length ≤ fuel + 1 := hlen
      have ⟨ht, hd⟩ := halves (Nat.div_pos h2 (by decide)) (Nat.div_lt_self (Nat.lt_of_lt_of_le (by decide) h2) (by decide)) hl
      rw [← List.length_take] at ht
      rw [← List.length_drop] at hd
      obtain ⟨l, hl, hlq, hlh, hlp⟩ := ih (leaves.take center) (List.ne_nil_of_length_pos ht.1) ht.2
        (hp.sublist (List.take_sublist center _))
      obtain ⟨r, hr, hrq, hrh, hrp⟩ := ih (leaves.drop center) (List.ne_nil_of_length_pos hd.1) hd.2
        (hp.sublist (List.drop_sublist center _))
      have hhull : ∀ x ∈ leaves, s.lo ≤ x.lo ∧ x.hi ≤ (leaves.getLast (by simp [leaves])).hi := by
        intro x hx
        refine ⟨?_, pairwise_hi_le_getLast hp _ x hx⟩
        rcases List.mem_cons.1 hx with rfl | hx'
        · exact Nat.le_refl _
        · exact ((List.pairwise_cons.1 hp).1 x hx').1
      refine ⟨.node ⟨s.lo, (leaves.getLast (by simp [leaves])).hi⟩ [] l r, ?_, ?_, hhull, ?_⟩
      · simp only [insertNodes]
        rw [hl, hr]
      · simp [Node.querySingle, hlq, hrq]
      · intro v lo hi L hL h1 h2 h3 h4
        have hLh := hhull L hL
        refine ⟨⟨by simp only; omega, by simp only; omega⟩, Or.inr ?_⟩
        have hL' : L ∈ leaves.take center ++ leaves.drop center := by rw [List.take_append_drop]; exact hL
        rcases List.mem_append.1 hL' with hL | hL
        · right
          have := hlh L hL
          exact ⟨intersectsWith_iff.2 ⟨by omega, by omega⟩, hlp v lo hi L hL h1 h2 h3 h4⟩
        · left
          have := hrh L hL
          exact ⟨intersectsWith_iff.2 ⟨by omega, by omega⟩, hrp v lo hi L hL h1 h2 h3 h4⟩

@[simp] theorem seg_insertInterval (iv : Interval) (n : Node) : (n.insertInterval iv).seg = n.seg := by
  cases n with
  | leaf s ov => simp only [Node.insertInterval]; split <;> rfl
  | node s ov l r => simp only [Node.insertInterval]; split <;> rfl

theorem mem_querySingle_leaf {x : Interval} {v : Nat} {s : Seg} {ov : List Interval} :
    x ∈ (Node.leaf s ov).querySingle v v ↔ (s.lo ≤ v ∧ v ≤ s.hi) ∧ x ∈ ov := by
  rw [← disjoint_stab]; simp only [Node.querySingle]; split <;> simp [*]

theorem mem_querySingle_node {x : Interval} {v : Nat} {s : Seg} {ov : List Interval} {l r : Node} :
    x ∈ (Node.node s ov l r).querySingle v v ↔
      (s.lo ≤ v ∧ v ≤ s.hi) ∧ (x ∈ ov ∨ x ∈ r.querySingle v v ∨ x ∈ l.querySingle v v) := by
  rw [← disjoint_stab]; simp only [Node.querySingle]; split <;> simp [*]

/-- Routes depend on the segments only, which `insertInterval` leaves alone. -/
theorem path_insertInterval {v lo hi : Nat} (iv : Interval) (n : Node) :
    (n.insertInterval iv).Path v lo hi ↔ n.Path v lo hi := by
  fun_induction Node.insertInterval iv n with
  | case1 | case2 | case3 => exact Iff.rfl
  | case4 s ov l r _ l' r' ihl ihr =>
    have hl : l'.seg = l.seg ∧ (l'.Path v lo hi ↔ l.Path v lo hi) := by
      unfold l'; split
      · exact ⟨seg_insertInterval iv l, ihl⟩
      · exact ⟨rfl, Iff.rfl⟩
    have hr : r'.seg = r.seg ∧ (r'.Path v lo hi ↔ r.Path v lo hi) := by
      unfold r'; split
      · exact ⟨seg_insertInterval iv r, ihr⟩
      · exact ⟨rfl, Iff.rfl⟩
    simp only [Node.Path, hl, hr]

theorem mem_query_insertInterval {v : Nat} (iv x : Interval) (n : Node) :
    x ∈ (n.insertInterval iv).querySingle v v ↔ x ∈ n.querySingle v v ∨ x = iv ∧ n.Path v iv.lo iv.hi := by
  fun_induction Node.insertInterval iv n with
  | case1 s ov hsub =>
    simp only [mem_querySingle_leaf, Node.Path, List.mem_append, List.mem_singleton, subsetOf_iff.1 hsub,
      and_true, and_or_left, and_comm (a := x = iv)]
  | case2 s ov hns =>
    simp only [Node.Path, mt subsetOf_iff.2 hns, and_false, or_false]
  | case3 s ov l r hsub =>
    simp only [mem_querySingle_node, Node.Path, List.mem_append, List.mem_singleton, subsetOf_iff.1 hsub,
      true_or, and_true, and_or_left, and_comm (a := x = iv), or_assoc, or_comm]
  | case4 s ov l r hns l' r' ihl ihr =>
    have hl : x ∈ l'.querySingle v v ↔ x ∈ l.querySingle v v ∨
        x = iv ∧ l.seg.intersectsWith iv.lo iv.hi = true ∧ l.Path v iv.lo iv.hi := by
      unfold l'; split <;> simp [*]
    have hr : x ∈ r'.querySingle v v ↔ x ∈ r.querySingle v v ∨
        x = iv ∧ r.seg.intersectsWith iv.lo iv.hi = true ∧ r.Path v iv.lo iv.hi := by
      unfold r'; split <;> simp [*]
    simp only [mem_querySingle_node, Node.Path, hl, hr, mt subsetOf_iff.2 hns, false_or]
    -- both sides under the guard `s.lo ≤ v ≤ s.hi`; what is left is a rearrangement of disjuncts
    conv => rhs; rw [and_left_comm, ← and_or_left]
    refine and_congr_right fun _ => ?_
    rw [and_or_left, or_or_or_comm, ← or_assoc]

theorem mem_query_foldl {v : Nat} {x : Interval} : ∀ (ivs : List Interval) (n : Node),
    x ∈ (ivs.foldl (fun n iv => n.insertInterval iv) n).querySingle v v ↔
      x ∈ n.querySingle v v ∨ x ∈ ivs ∧ n.Path v x.lo x.hi
  | [], n => by simp
  | a :: t, n => by
    have e : x = a ∧ n.Path v a.lo a.hi ↔ x = a ∧ n.Path v x.lo x.hi := and_congr_right fun e => e ▸ Iff.rfl
    rw [List.foldl_cons, mem_query_foldl t, mem_query_insertInterval, path_insertInterval, List.mem_cons, e,
      or_assoc, or_and_right]

/-- The key result on the model: `build` does not panic and a stabbing query on the built tree returns exactly the
base intervals that hold the value. -/
theorem build_query (t : Stree) (hroot : t.root = none) :
    ∃ t', t.build = some t' ∧ ∀ v iv, iv ∈ t'.query v v ↔ iv ∈ t.base ∧ iv.lo ≤ v ∧ v ≤ iv.hi := by
  unfold Stree.build
  by_cases hb : t.base.isEmpty = true
  · rw [if_pos hb]
    refine ⟨t, rfl, fun v iv => ?_⟩
    simp [Stree.query, hroot, List.isEmpty_iff.1 hb]
  · rw [if_neg hb]
    obtain ⟨es, mn, mx, hend, hesne, hsorted, hmem⟩ := endpoints_spec (base := t.base) (by simpa using hb)
    rw [hend]
    simp only
    obtain ⟨root, hroot', hq, _, hpath⟩ := insertNodes_spec (elementary es).length (elementary es)
      (elementary_ne_nil hesne) (Nat.le_refl _) (elementary_pairwise hsorted)
    rw [hroot']
    refine ⟨_, rfl, fun v iv => ?_⟩
    simp only [Stree.query]
    rw [mem_query_foldl, hq]
    constructor
    · rintro (h | ⟨hiv, hp⟩)
      · cases h
      · exact ⟨hiv, hp.bounds⟩
    · rintro ⟨hiv, h1, h2⟩
      obtain ⟨L, hL, g⟩ := elementary_cover hsorted (hmem iv hiv).1 (hmem iv hiv).2 h1 h2
      exact .inr ⟨hiv, hpath v iv.lo iv.hi L hL g.1 g.2.1 g.2.2.1 g.2.2.2⟩

theorem addRanges_base : ∀ (ranges : List (Nat × Nat)) (t : Stree),
    ((ranges.foldl (fun t r => t.addRange r.1 r.2) t).base.map fun iv => (iv.lo, iv.hi)) =
      (t.base.map fun iv => (iv.lo, iv.hi)) ++ ranges ∧
    (ranges.foldl (fun t r => t.addRange r.1 r.2) t).root = t.root := by
  intro ranges
  induction ranges with
  | nil => intro t; simp
  | cons r rs ih =>
    intro t
    obtain ⟨h1, h2⟩ := ih (t.addRange r.1 r.2)
    simp only [List.foldl_cons]
    rw [h1, h2]
    simp [Stree.addRange]

/-- `ofRanges` never panics and answers like a linear scan. -/
theorem ofRanges_contains (ranges : List (Nat × Nat)) :
    ∃ t, ofRanges ranges = some t ∧
      ∀ v, t.contains v = true ↔ ∃ r ∈ ranges, r.1 ≤ v ∧ v ≤ r.2 := by
  obtain ⟨(hb : _ = ranges), hr⟩ := addRanges_base ranges ({} : Stree)
  obtain ⟨t', ht', hq⟩ := build_query (ranges.foldl (fun t r => t.addRange r.1 r.2) ({} : Stree)) hr
  refine ⟨t', ht', fun v => ?_⟩
  rw [Stree.contains, Bool.not_eq_true', List.isEmpty_eq_false_iff_exists_mem]
  constructor
  · rintro ⟨iv, h⟩
    obtain ⟨h1, h2⟩ := (hq v iv).1 h
    exact ⟨(iv.lo, iv.hi), hb ▸ List.mem_map_of_mem h1, h2⟩
  · rintro ⟨r, hr', h⟩
    rw [← hb] at hr'
    obtain ⟨iv, hiv, rfl⟩ := List.mem_map.1 hr'
    exact ⟨iv, (hq v iv).2 ⟨hiv, h⟩⟩

end Rain.STree
