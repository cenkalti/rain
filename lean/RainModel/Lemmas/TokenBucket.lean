import RainModel.Model.TokenBucket
/-! Helper lemmas for `bucket_bound` (C17). -/
namespace Rain.TokenBucket

def total : List Grant → Nat
  | [] => 0
  | g :: gs => g.count + total gs

theorem grantedBy_le_total (t : Nat) : ∀ gs, grantedBy t gs ≤ total gs := by
  intro gs
  induction gs with
  | nil => simp [grantedBy, total]
  | cons g gs ih =>
    simp only [grantedBy, total]
    split <;> omega

/-- The bound of `bucket_bound`, for every `t`: it is its own invariant. -/
def Bound (C q fi : Nat) (gs : List Grant) : Prop := ∀ t, grantedBy t gs ≤ C + q * (t / fi)

/-- It is enough that a new grant fits at its own ready time: later times only allow more, earlier ones do not see it. -/
theorem Bound.cons {C q fi : Nat} {gs : List Grant} (h : Bound C q fi gs) (g : Grant)
    (hg : g.count = 0 ∨ g.count + total gs ≤ C + q * (g.ready / fi)) : Bound C q fi (g :: gs) := by
  intro t
  have := h t
  simp only [grantedBy]
  split
  · next hr =>
    rcases hg with h0 | hb
    · omega
    · have hle := grantedBy_le_total t gs
      have hmul : q * (g.ready / fi) ≤ q * (t / fi) := Nat.mul_le_mul_left q (Nat.div_le_div_right hr)
      omega
  · omega

/-- Waiting until tick `now / fi + ⌈d / q⌉` covers a deficit of `d` tokens: the ready time `take` computes is the
start of that tick, and `⌈d / q⌉` refills bring at least `d`. -/
theorem wait_covers {q fi : Nat} (hq : 0 < q) (hfi : 0 < fi) (now d : Nat) (hd : 0 < d) :
    q * (now / fi) + d ≤ q * ((now + ((now / fi + (d + q - 1) / q) * fi - now)) / fi) := by
  generalize hk : (d + q - 1) / q = k
  have hceil : d ≤ q * k := by
    have := Nat.lt_mul_div_succ (d + q - 1) hq
    rw [hk, Nat.mul_add] at this; omega
  have hk1 : 1 ≤ k := Nat.pos_of_ne_zero fun h0 => by rw [h0] at hceil; omega
  have hnow : now < (now / fi + 1) * fi := Nat.mul_comm .. ▸ Nat.lt_mul_div_succ now hfi
  have hend : now ≤ (now / fi + k) * fi :=
    Nat.le_of_lt (Nat.lt_of_lt_of_le hnow (Nat.mul_le_mul_right fi (Nat.add_le_add_left hk1 _)))
  rw [Nat.add_sub_of_le hend, Nat.mul_div_cancel _ hfi, Nat.mul_add]
  exact Nat.add_le_add_left hceil _

structure Inv (C q fi : Nat) (b : Bucket) (log : List Grant) (t0 : Nat) : Prop where
  hC : b.capacity = C
  hq : b.quantum = q
  hfi : b.fillInterval = fi
  qpos : 0 < q
  fipos : 0 < fi
  tick : b.latestTick ≤ t0 / fi
  tot : (total log : Int) + b.availableTokens ≤ (C : Int) + ((q * b.latestTick : Nat) : Int)
  bound : Bound C q fi log

theorem Inv.mono {C q fi : Nat} {b : Bucket} {log : List Grant} {t0 t1 : Nat} (h : Inv C q fi b log t0)
    (ht : t0 ≤ t1) : Inv C q fi b log t1 :=
  { h with tick := Nat.le_trans h.tick (Nat.div_le_div_right ht) }

theorem Inv.tot_now {C q fi : Nat} {b : Bucket} {log : List Grant} {now : Nat} (h : Inv C q fi b log now) :
    (total log : Int) + b.availableTokens ≤ ((C + q * (now / fi) : Nat) : Int) := by
  have := h.tot
  have := Nat.mul_le_mul_left q h.tick
  omega

/-- `adjustavailableTokens` in closed form. -/
theorem adjust_eq (b : Bucket) (tick : Nat) : adjust b tick =
    { b with latestTick := tick, availableTokens :=
        if b.availableTokens ≥ b.capacity then b.availableTokens
        else if b.availableTokens + ((tick : Int) - (b.latestTick : Int)) * b.quantum > b.capacity then (b.capacity : Int)
        else b.availableTokens + ((tick : Int) - (b.latestTick : Int)) * b.quantum } := by
  unfold adjust; split <;> rfl

theorem adjust_inv {C q fi : Nat} {b : Bucket} {log : List Grant} {t0 : Nat} (h : Inv C q fi b log t0)
    {now : Nat} (hnow : t0 ≤ now) : Inv C q fi (adjust b (now / fi)) log now := by
  have ht : b.latestTick ≤ now / fi := (h.mono hnow).tick
  obtain ⟨tick, htk⟩ : ∃ tick, tick = now / fi := ⟨_, rfl⟩
  rw [← htk] at ht ⊢
  have hmul : q * b.latestTick ≤ q * tick := Nat.mul_le_mul_left q ht
  have htot := h.tot
  have hprod : ((tick : Int) - (b.latestTick : Int)) * (b.quantum : Int) = (q : Int) * tick - q * b.latestTick := by
    rw [h.hq, Int.sub_mul, Int.mul_comm, Int.mul_comm (b.latestTick : Int)]
  rw [adjust_eq]
  refine ⟨h.hC, h.hq, h.hfi, h.qpos, h.fipos, Nat.le_of_eq htk, ?_, h.bound⟩
  dsimp only; rw [h.hC, hprod]
  split
  · omega
  · split <;> omega

/-- The invariant bounds the tokens from above only, so any `a` not above what the grant leaves will do: `take`'s
empty request (bucket untouched, no refill) and its two spending branches are instances. -/
theorem Inv.grant {C q fi : Nat} {b : Bucket} {log : List Grant} {now : Nat} (h : Inv C q fi b log now)
    (g : Grant) (a : Int) (ha : a ≤ b.availableTokens - g.count)
    (hfit : g.count = 0 ∨ g.count + total log ≤ C + q * (g.ready / fi)) :
    Inv C q fi { b with availableTokens := a } (g :: log) now := by
  refine ⟨h.hC, h.hq, h.hfi, h.qpos, h.fipos, h.tick, ?_, h.bound.cons _ hfit⟩
  have := h.tot
  simp only [total]; omega

theorem take_inv {C q fi : Nat} {b : Bucket} {log : List Grant} {t0 : Nat} (h : Inv C q fi b log t0)
    (now count : Nat) (hnow : t0 ≤ now) :
    Inv C q fi (take b now count).1 ({ ready := now + (take b now count).2, count := count } :: log) now := by
  unfold take
  split
  · exact (h.mono hnow).grant _ b.availableTokens (by simp only; omega) (.inl (by simp only; omega))
  · have h1 := adjust_inv h hnow
    have htot := h1.tot_now
    simp only [currentTick, h.hq, h.hfi]
    split
    · exact h1.grant _ _ (Int.le_refl _) (.inr (by simp only [Nat.add_zero]; omega))
    · refine h1.grant _ _ (Int.le_refl _) (.inr ?_)
      have := wait_covers h.qpos h.fipos now (-((adjust b (now / fi)).availableTokens - (count : Int))).toNat (by omega)
      simp only; omega

theorem run_inv {C q fi : Nat} : ∀ (calls : List Call) {b : Bucket} {log : List Grant} {t0 : Nat},
    Inv C q fi b log t0 → Monotone t0 calls → Bound C q fi (run b log calls).2 := by
  intro calls
  induction calls with
  | nil => intro b log t0 h _; exact h.bound
  | cons c cs ih =>
    intro b log t0 h hm
    obtain ⟨h1, h2⟩ := hm
    simp only [run]
    exact ih (take_inv h c.now c.count h1) h2

theorem new_inv {fi C q : Nat} {b : Bucket} (h : new fi C q = some b) : Inv C q fi b [] 0 := by
  unfold new at h
  split at h
  · cases h
  · rename_i hne
    cases h
    refine ⟨rfl, rfl, rfl, by omega, by omega, by simp, ?_, fun _ => Nat.zero_le _⟩
    simp [total]

theorem passedBy_le_grantedBy (t : Nat) : ∀ (xs : List Transfer) (gs : List Grant), Follows xs gs →
    passedBy t xs ≤ grantedBy t gs := by
  intro xs
  induction xs with
  | nil =>
    intro gs h
    cases gs with
    | nil => simp [passedBy, grantedBy]
    | cons g gs => simp [Follows] at h
  | cons x xs ih =>
    intro gs h
    cases gs with
    | nil => simp [Follows] at h
    | cons g gs =>
      obtain ⟨h1, h2, h3⟩ := h
      have := ih gs h3
      simp only [passedBy, grantedBy]
      by_cases hx : x.time ≤ t
      · have hg : g.ready ≤ t := Nat.le_trans h1 hx
        simp only [hx, hg, if_true]; omega
      · simp only [hx, if_false]; omega

end Rain.TokenBucket
