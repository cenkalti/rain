import RainModel.Lemmas.LoopWritten
/-!
C04 lifecycle invariant `Life`: a stopped (or stopping) torrent holds nothing; what is loaded has its
files; nothing exists before the metadata.

`Life` is read by the phase of the torrent.  A handler that changes the phase is followed to the phase it leaves:
not running (`Life.of_quiet`), running with nothing loaded (`Life.of_unloaded`: metadata download, allocation),
allocator running (`Life.of_allocating`), loaded and running (`LoadedRun.life`).  A handler that keeps the lifecycle
flags goes through `Life.congr` (it writes nothing `Life` reads) or `Life.of_shrinks` (it closes or updates peers and
downloads: harmless in every phase).
-/
namespace Rain.Loop

/-- Every non-padding file of the torrent exists in the storage. -/
def FilesExist (s : St) : Prop :=
  ∀ f, f < s.cfg.flens.length → s.cfg.fpads.getD f false = false → s.fileExists.getD f false = true

structure Life (s : St) : Prop where
  sa : s.stopAnn = true → s.errC = true
  idle : (s.errC = false ∨ s.stopAnn = true) →
    s.allocator = false ∧ s.verifier = false ∧ s.loaded = false ∧ s.acceptor = false ∧
    s.openFiles = [] ∧ s.peers = [] ∧ s.dls = [] ∧ s.idls = []
  leaked : s.leaked = 0
  fe : s.loaded = true → FilesExist s
  run : s.errC = true → s.stopAnn = false → s.allocator = false → s.info = true → s.loaded = true
  ni : s.info = false → s.allocator = false ∧ s.verifier = false ∧ s.loaded = false ∧ s.completed = false ∧ s.bf = none
  ver : s.verifier = true → s.loaded = true

theorem Life.info_of {s : St} (h : Life s)
    (hn : ¬(s.allocator = false ∧ s.verifier = false ∧ s.loaded = false ∧ s.completed = false ∧ s.bf = none)) :
    s.info = true :=
  Bool.of_not_eq_false fun hi => hn (h.ni hi)

theorem Life.running_of_alloc {s : St} (h : Life s) (ha : s.allocator = true) : Running s :=
  .of_held h.idle fun i => Bool.noConfusion (i.1.symm.trans ha)

theorem Life.running_of_ver {s : St} (h : Life s) (ha : s.verifier = true) : Running s :=
  .of_held h.idle fun i => Bool.noConfusion (i.2.1.symm.trans ha)

theorem Life.running_of_loaded {s : St} (h : Life s) (hl : s.loaded = true) : Running s :=
  .of_held h.idle fun i => Bool.noConfusion (i.2.2.1.symm.trans hl)

/-- The guard of the peer-facing arms of `handle`. -/
theorem Life.running_of_guard {s : St} (h : Life s) (hg : s.acceptor = true ∨ s.peers ≠ []) : Running s :=
  .of_held h.idle fun i => hg.elim (fun ha => Bool.noConfusion (i.2.2.2.1.symm.trans ha)) fun hp => hp i.2.2.2.2.2.1

theorem Life.running_of_peer {s : St} (h : Life s) {k : Nat} (hk : (s.findPeer k).isSome = true) : Running s :=
  h.running_of_guard (.inr fun hn => by simp [St.findPeer, hn] at hk)

theorem FilesExist.congr {s s' : St} (h : FilesExist s) (h1 : s'.fileExists = s.fileExists) (h2 : s'.cfg = s.cfg) :
    FilesExist s' := by
  unfold FilesExist at *
  rw [h1, h2]; exact h

/-- The fields of the `idle` clause may differ on a running torrent, `completed` and `bf` once the metadata is known,
the files while those of the torrent exist. -/
theorem Life.frame {s s' : St} (h : Life s)
    (h1 : s'.errC = s.errC) (h2 : s'.stopAnn = s.stopAnn) (h3 : s'.allocator = s.allocator)
    (h4 : s'.verifier = s.verifier) (h5 : s'.loaded = s.loaded) (h6 : s'.leaked = s.leaked) (h7 : s'.info = s.info)
    (hidle : Running s ∨ (s'.acceptor = s.acceptor ∧ s'.openFiles = s.openFiles ∧ s'.peers = s.peers ∧
      s'.dls = s.dls ∧ s'.idls = s.idls))
    (hni : s.info = true ∨ (s'.completed = s.completed ∧ s'.bf = s.bf))
    (hfe : FilesExist s → FilesExist s') : Life s' := by
  refine ⟨?_, ?_, ?_, ?_, ?_, ?_, ?_⟩
  · rw [h1, h2]; exact h.sa
  · rw [h1, h2]
    rcases hidle with hr | ⟨h12, h13, h14, h15, h16⟩
    · exact hr.idle
    · rw [h3, h4, h5, h12, h13, h14, h15, h16]; exact h.idle
  · rw [h6]; exact h.leaked
  · rw [h5]; exact fun hl => hfe (h.fe hl)
  · rw [h1, h2, h3, h5, h7]; exact h.run
  · rw [h7]
    rcases hni with hi | ⟨h8, h9⟩
    · rw [hi]; intro hh; cases hh
    · rw [h3, h4, h5, h8, h9]; exact h.ni
  · rw [h4, h5]; exact h.ver

/-- `s'` agrees with `s` on every field `Life` reads. -/
structure LFrame (s s' : St) : Prop where
  h1 : s'.errC = s.errC
  h2 : s'.stopAnn = s.stopAnn
  h3 : s'.allocator = s.allocator
  h4 : s'.verifier = s.verifier
  h5 : s'.loaded = s.loaded
  h6 : s'.leaked = s.leaked
  h7 : s'.info = s.info
  h8 : s'.completed = s.completed
  h9 : s'.bf = s.bf
  h10 : s'.fileExists = s.fileExists
  h11 : s'.cfg = s.cfg
  h12 : s'.acceptor = s.acceptor
  h13 : s'.openFiles = s.openFiles
  h14 : s'.peers = s.peers
  h15 : s'.dls = s.dls
  h16 : s'.idls = s.idls

theorem Life.congr {s s' : St} (h : Life s) (f : LFrame s s') : Life s' :=
  h.frame f.h1 f.h2 f.h3 f.h4 f.h5 f.h6 f.h7 (.inr ⟨f.h12, f.h13, f.h14, f.h15, f.h16⟩) (.inr ⟨f.h8, f.h9⟩)
    (·.congr f.h10 f.h11)

theorem LFrame.of_writes {w : List Fld} {s s' : St} (hW : Writes w s s')
    (hw : ∀ x ∈ [Fld.errC, .stopAnn, .allocator, .verifier, .loaded, .leaked, .info, .completed, .bf, .fileExists,
      .cfg, .acceptor, .openFiles, .peers, .dls, .idls], x ∉ w := by decide) : LFrame s s' := by
  simp only [List.forall_mem_cons, List.not_mem_nil, false_imp_iff, implies_true, and_true] at hw
  obtain ⟨a1, a2, a3, a4, a5, a6, a7, a8, a9, a10, a11, a12, a13, a14, a15, a16⟩ := hw
  exact ⟨hW.errC a1, hW.stopAnn a2, hW.allocator a3, hW.verifier a4, hW.loaded a5, hW.leaked a6, hW.info a7,
    hW.completed a8, hW.bf a9, hW.fileExists a10, hW.cfg a11, hW.acceptor a12, hW.openFiles a13, hW.peers a14,
    hW.dls a15, hW.idls a16⟩

/-- A step that only closes or updates peers and downloads (`Shrinks`) keeps `Life` in every phase: on a torrent that
is not running the three lists are empty and stay so. -/
theorem Life.of_shrinks {w : List Fld} {s s' : St} (h : Life s) (hS : Running s ∨ Shrinks s s') (hW : Writes w s s')
    (hni : s.info = true ∨ (s'.completed = s.completed ∧ s'.bf = s.bf))
    (hw : ∀ x ∈ [Fld.errC, .stopAnn, .allocator, .verifier, .loaded, .leaked, .info, .fileExists, .cfg, .acceptor,
      .openFiles], x ∉ w := by decide) : Life s' := by
  simp only [List.forall_mem_cons, List.not_mem_nil, false_imp_iff, implies_true, and_true] at hw
  obtain ⟨a1, a2, a3, a4, a5, a6, a7, a8, a9, a10, a11⟩ := hw
  refine h.frame (hW.errC a1) (hW.stopAnn a2) (hW.allocator a3) (hW.verifier a4) (hW.loaded a5) (hW.leaked a6)
    (hW.info a7) ?_ hni (·.congr (hW.fileExists a8) (hW.cfg a9))
  by_cases hr : Running s
  · exact .inl hr
  · obtain ⟨_, _, _, _, _, i6, i7, i8⟩ := h.idle (not_running hr)
    have hS := hS.resolve_left hr
    exact .inr ⟨hW.acceptor a10, hW.openFiles a11, (hS.peers_nil i6).trans i6.symm,
      (hS.dls_nil i7).trans i7.symm,
      (hS.widls i8).trans i8.symm⟩

/-- An `LFrame` across literal record updates of other fields: every field by `rfl`. -/
macro "lframe" : tactic => `(tactic| (constructor <;> rfl))

theorem Life.of_quiet {s : St} (hsa : s.stopAnn = true → s.errC = true) (hq : s.errC = false ∨ s.stopAnn = true)
    (idle : s.allocator = false ∧ s.verifier = false ∧ s.loaded = false ∧ s.acceptor = false ∧
      s.openFiles = [] ∧ s.peers = [] ∧ s.dls = [] ∧ s.idls = [])
    (hk : s.leaked = 0) (hni : s.info = false → s.completed = false ∧ s.bf = none) : Life s :=
  ⟨hsa, fun _ => idle, hk, fun hl => Bool.noConfusion (idle.2.2.1.symm.trans hl),
    fun he hs => hq.elim (fun h => Bool.noConfusion (h.symm.trans he)) fun h => Bool.noConfusion (hs.symm.trans h),
    fun hi => ⟨idle.1, idle.2.1, idle.2.2.1, hni hi⟩, fun hv => Bool.noConfusion (idle.2.1.symm.trans hv)⟩

theorem Life.of_unloaded {s : St} (hr : Running s) (hl : s.loaded = false) (hv : s.verifier = false)
    (ha : s.allocator = s.info) (hk : s.leaked = 0) (hni : s.info = false → s.completed = false ∧ s.bf = none) :
    Life s :=
  ⟨fun hs => Bool.noConfusion (hr.2.symm.trans hs), fun hq => hr.idle hq, hk,
    fun h => Bool.noConfusion (hl.symm.trans h), fun _ _ ha' hi => Bool.noConfusion (ha'.symm.trans (ha.trans hi)),
    fun hi => ⟨ha.trans hi, hv, hl, hni hi⟩, fun h => Bool.noConfusion (hv.symm.trans h)⟩

theorem Running.stop_eq {s : St} (hr : Running s) (e : Bool) : s.stop e = stopRun s e := by
  rw [Rain.Loop.stop_eq, if_neg hr.status]

theorem stop_life' (s : St) (e : Bool) (hr : Running s) (hl : s.leaked = 0)
    (hni : s.info = false → s.completed = false ∧ s.bf = none) : Life (s.stop e) := by
  have hbf := stop_bf s e
  rw [hr.stop_eq] at hbf ⊢
  have F := stopRun_fields s e
  have hW := stopRun_writes s e
  refine .of_quiet (fun _ => hW.errC.trans hr.1) (.inr F.stopAnn)
    ⟨F.allocator, F.verifier, F.loaded, F.acceptor, F.openFiles, F.peers, F.dls, F.idls⟩ (hW.leaked.trans hl) fun hi => ?_
  have := hni (hW.info.symm.trans hi)
  exact ⟨hW.completed.trans this.1, hbf.elim (fun hb => hb.trans this.2) id⟩

theorem stop_life (s : St) (e : Bool) (h : Life s) : Life (s.stop e) := by
  by_cases hr : Running s
  · exact stop_life' s e hr h.leaked fun hi => (h.ni hi).2.2.2
  · rw [stop_eq, if_pos (Classical.not_not.1 (mt Running.of_status hr))]
    exact h

theorem handlePieceMessage_life (m : M) (k i b l : Nat) (g : Bool) (h : Life m.1) :
    Life (handlePieceMessage m k i b l g).1 :=
  have hW := handlePieceMessage_writes m k i b l g
  h.of_shrinks (.inr (handlePieceMessage_shrinks m k i b l g (.refl _))) hW (.inr ⟨hW.completed, hW.bf⟩)

theorem processQueued_life (m : M) (h : Life m.1) (hr : Running m.1) : Life (processQueued m).1 := by
  have hW := processQueued_writes m
  exact h.of_shrinks (.inl hr) hW (.inr ⟨hW.completed, hW.bf⟩)


theorem startCore_life (m : M) (h : Life m.1) (he' : m.1.errC = false) : Life (startCore m).1 := by
  obtain ⟨i1, i2, i3, _⟩ := h.idle (Or.inl he')
  obtain ⟨he, hs, _, ha, hv, _⟩ := startCore_fields m
  have hw := startCore_writes m
  -- nothing was loaded: the allocator is started iff the metadata is known, the verifier is not
  rw [i1, i3, Bool.false_or, Bool.not_false, Bool.and_true, ← hw.info] at ha
  rw [i2, i3, Bool.and_false, Bool.false_and, Bool.or_false] at hv
  exact .of_unloaded ⟨he, hs⟩ (hw.loaded.trans i3) hv ha (hw.leaked.trans h.leaked) fun hi =>
    have := h.ni (hw.info ▸ hi)
    ⟨hw.completed.trans this.2.2.2.1, hw.bf.trans this.2.2.2.2⟩

theorem handleStopped_life (m : M) (h : Life m.1) (hs : m.1.stopAnn = true) : Life (handleStopped m).1 := by
  have idle := h.idle (Or.inr hs)
  -- stopped now, with the old bitfield or (pending verify) without it
  have h0 : ∀ b, (m.1.info = false → b = none) → Life { m.1 with stopAnn := false, errC := false, bf := b } :=
    fun b hb => .of_quiet (fun x => Bool.noConfusion x) (.inl rfl) idle h.leaked fun hi => ⟨(h.ni hi).2.2.2.1, hb hi⟩
  exact ite_ind (P := fun x : M => Life x.1) (fun _ => startCore_life _ (h0 none fun _ => rfl) rfl)
    fun _ => h0 m.1.bf fun hi => (h.ni hi).2.2.2.2

theorem start_life (m : M) (h : Life m.1) : Life (start m).1 :=
  start_inv m h (fun hs => handleStopped_life _ (h.congr (by lframe)) hs) startCore_life

theorem handleVerifyCommand_life (m : M) (h : Life m.1) : Life (handleVerifyCommand m).1 := by
  refine handleVerifyCommand_cases (P := fun x => Life x.1) m (fun hst => ?_)
    fun _ => onSt_stop _ _ _ (stop_life _ _ (h.congr (by lframe)))
  have he : m.1.errC = false := (status_stopped_iff _).1 hst
  exact startCore_life _ (.of_quiet h.sa (.inl he) (h.idle (.inl he)) h.leaked fun hi => ⟨(h.ni hi).2.2.2.1, rfl⟩) he

theorem Life.of_allocating {s : St} (hr : Running s) (hi : s.info = true) (ha : s.allocator = true)
    (hk : s.leaked = 0) (hfe : s.loaded = true → FilesExist s) (hv : s.verifier = true → s.loaded = true) : Life s :=
  ⟨fun hs => Bool.noConfusion (hr.2.symm.trans hs), fun hq => hr.idle hq, hk, hfe,
    fun _ _ ha' => Bool.noConfusion (ha'.symm.trans ha), fun h => Bool.noConfusion (h.symm.trans hi), hv⟩

theorem hmdStart_life (m : M) (hr : Running m.1) (hi : m.1.info = true) (hk : m.1.leaked = 0)
    (hfe : m.1.loaded = true → FilesExist m.1) (hv : m.1.verifier = true → m.1.loaded = true) :
    Life (hmdStart m).1 :=
  hmdStart_cases (P := fun x => Life x.1) m
    (fun _ => onSt_stop _ _ _ (stop_life' _ _ hr hk fun h => Bool.noConfusion (h.symm.trans hi)))
    fun _ => ite_ind (P := fun x : St => Life x)
      (fun ha =>
        have hC := crash_writes m.1 "allocator exists"
        .of_allocating (hr.of_writes hC) (hC.info.trans hi) (hC.allocator.trans ha) (hC.leaked.trans hk)
          (fun hl => (hfe (hC.loaded ▸ hl)).congr hC.fileExists hC.cfg) fun h => hC.loaded.trans (hv (hC.verifier ▸ h)))
      fun _ => .of_allocating hr hi rfl hk hfe hv

theorem hmdAdopt_life (m : M) (h : Life m.1) (hr : Running m.1) : Life (hmdAdopt m).1 :=
  hmdAdopt_cases (P := fun x => Life x.1) m
    (fun _ => onSt_stop _ _ _ (stop_life' _ _ hr h.leaked fun hi => (h.ni hi).2.2.2))
    fun _ _ => hmdStart_life _ hr rfl h.leaked h.fe h.ver

theorem handleMetadataData_life (m : M) (k i len : Nat) (g : Bool) (h : Life m.1) (hr : Running m.1) :
    Life (handleMetadataData m k i len g).1 :=
  handleMetadataData_ind Life m k i len g (fun _ hW => h.of_shrinks (.inl hr) hW (.inr ⟨hW.completed, hW.bf⟩))
    fun m' hW => hmdAdopt_life m' (h.of_shrinks (.inl hr) hW (.inr ⟨hW.completed, hW.bf⟩)) (hr.of_writes hW)

structure LoadedRun (s : St) : Prop where
  run : Running s
  info : s.info = true
  loaded : s.loaded = true
  fe : FilesExist s
  leaked : s.leaked = 0

theorem LoadedRun.life {s : St} (h : LoadedRun s) : Life s := by
  obtain ⟨⟨he, hs⟩, hi, hl, hfe, hk⟩ := h
  refine ⟨?_, ?_, hk, fun _ => hfe, fun _ _ _ _ => hl, ?_, fun _ => hl⟩
  · rw [hs]; intro h; cases h
  · rw [he, hs]; intro h; simp at h
  · rw [hi]; intro h; cases h

theorem LoadedRun.congr {s s' : St} (h : LoadedRun s) (h1 : s'.errC = s.errC := by rfl)
    (h2 : s'.stopAnn = s.stopAnn := by rfl) (h3 : s'.info = s.info := by rfl) (h4 : s'.loaded = s.loaded := by rfl)
    (h5 : s'.fileExists = s.fileExists := by rfl) (h6 : s'.cfg = s.cfg := by rfl)
    (h7 : s'.leaked = s.leaked := by rfl) : LoadedRun s' :=
  ⟨h.run.congr h1 h2, h3 ▸ h.info, h4 ▸ h.loaded, h.fe.congr h5 h6, h7 ▸ h.leaked⟩

theorem LoadedRun.of_writes {w : List Fld} {s s' : St} (h : LoadedRun s) (hW : Writes w s s')
    (hw : ∀ x ∈ [Fld.errC, .stopAnn, .info, .loaded, .fileExists, .cfg, .leaked], x ∉ w := by decide) :
    LoadedRun s' := by
  simp only [List.forall_mem_cons, List.not_mem_nil, false_imp_iff, implies_true, and_true] at hw
  obtain ⟨a1, a2, a3, a4, a5, a6, a7⟩ := hw
  exact h.congr (hW.errC a1) (hW.stopAnn a2) (hW.info a3) (hW.loaded a4) (hW.fileExists a5) (hW.cfg a6) (hW.leaked a7)

theorem LoadedRun.stop {s : St} (h : LoadedRun s) (e : Bool) : Life (s.stop e) :=
  stop_life' s e h.run h.leaked (fun hi => by rw [h.info] at hi; cases hi)

theorem hadCheck_life (m : M) (h : LoadedRun m.1) : Life (hadCheck m).1 := by
  have h1 : LoadedRun m.1.checkCompletion.1 := h.of_writes (checkCompletion_writes m.1)
  exact hadCheck_cases (P := fun x => Life x.1) m (fun _ => h1.stop _) (h1.of_writes (hadReady_writes _)).life

theorem hadFresh_life (m : M) (h : LoadedRun m.1) : Life (hadFresh m).1 := by
  have h1 : LoadedRun (hadFreshInstall m).1 := h.of_writes (hadFreshInstall_writes m)
  exact hadFresh_cases (P := fun x => Life x.1) m (fun _ => h1.congr.stop _) fun _ => hadCheck_life _ h1

theorem hadTrust_life (m : M) (b : List Bool) (h : LoadedRun m.1) : Life (hadTrust m b).1 :=
  hadCheck_life _ (h.congr.of_writes (markPaddingPieces_writes _))

theorem handleAllocationDone_life (m : M) (ex mi : Bool) (h : Life m.1) (ha : m.1.allocator = true)
    (hfe : FilesExist m.1) : Life (handleAllocationDone m ex mi).1 := by
  have hr := h.running_of_alloc ha
  have hinfo : m.1.info = true := h.info_of fun i => Bool.noConfusion (i.1.symm.trans ha)
  have hW := (hadInstall_writes m).trans (hadForget_writes _ mi)
  have h0 : LoadedRun (hadForget (hadInstall m) mi).1 :=
    ⟨hr.of_writes hW, hW.info.trans hinfo, (hadForget_writes _ mi).loaded, hfe.congr hW.fileExists hW.cfg,
      hW.leaked.trans h.leaked⟩
  exact handleAllocationDone_cases (P := fun x => Life x.1) m ex mi (fun b _ _ => hadTrust_life _ b h0)
    (fun _ _ => hadFresh_life _ h0) fun _ _ => h0.congr.life

/-- Every non-padding file has just been opened. -/
theorem allocOkOpen_filesExist (m : M) : FilesExist (allocOkOpen m).1 := by
  intro f hf hp
  simp only [allocOkOpen, allocData, onSt_fst, List.getD_eq_getElem?_getD] at hf hp ⊢
  simp [hf, hp]

theorem allocOkOpen_life (m : M) (h : Life m.1) : Life (allocOkOpen m).1 :=
  h.frame rfl rfl rfl rfl rfl rfl rfl (.inr ⟨rfl, rfl, rfl, rfl, rfl⟩) (.inr ⟨rfl, rfl⟩) fun _ => allocOkOpen_filesExist m

theorem allocatorRun_life (m : M) (h : Life m.1) (ha : m.1.allocator = true) : Life (allocatorRun m).1 := by
  have hW := (allocFailOpen_writes m).trans (hadForget_writes _ (allocFailMissing m.1))
  -- an allocator runs only once the metadata is known
  have hinfo : m.1.info = true := h.info_of fun i => Bool.noConfusion (i.1.symm.trans ha)
  exact allocatorRun_cases (P := fun x => Life x.1) m
    (fun _ => onSt_stop _ _ _ (stop_life' _ _ ((h.running_of_alloc ha).of_writes hW) (hW.leaked.trans h.leaked) fun hi =>
      Bool.noConfusion (hi.symm.trans (hW.info.trans hinfo))))
    fun _ => handleAllocationDone_life _ _ _ (allocOkOpen_life m h) ((allocOkOpen_writes m).allocator.trans ha)
      (allocOkOpen_filesExist m)

theorem handleVerificationDone_life (m : M) (h : Life m.1) (hv : m.1.verifier = true) :
    Life (handleVerificationDone m).1 := by
  have hl := h.ver hv
  have hr := h.running_of_ver hv
  have hinfo : m.1.info = true := h.info_of fun i => Bool.noConfusion (i.2.1.symm.trans hv)
  have h0 : LoadedRun (hvdInstall m).1 :=
    (⟨hr, hinfo, hl, h.fe hl, h.leaked⟩ : LoadedRun m.1).of_writes (hvdInstall_writes m)
  exact handleVerificationDone_cases (P := fun x => Life x.1) m (fun _ => h0.congr.stop _)
    fun _ => hadCheck_life _ (h0.of_writes (hvdHaves_writes _))

theorem pwdFinish_life (m : M) (h : Life m.1) (hi : m.1.info = true) : Life (pwdFinish m).1 :=
  have h1 : Life m.1.checkCompletion.1 :=
    h.of_shrinks (.inr (checkCompletion_shrinks _ (.refl _))) (checkCompletion_writes m.1) (.inl hi)
  have h2 : Life m.1.checkCompletion.1.writeBitfield := h1.congr (.of_writes (writeBitfield_writes _))
  pwdFinish_cases (P := fun x => Life x.1) m (fun _ => h1) (fun _ => h2) fun _ => onSt_stop _ _ _ (stop_life _ _ h2)

/-- A write that completes after the torrent was stopped finds nothing loaded: the result is stale and ignored
(fix C04-F9); a bad block still bans its sender. -/
theorem handlePieceWriteDone_life (m : M) (w : WriteJob) (e : Bool) (h : Life m.1) :
    Life (handlePieceWriteDone m w e).1 := by
  have h0 : Life (pwdReset m w).1 := h.congr (.of_writes (pwdReset_writes m w))
  have h1 : Life (pwdDone (pwdReset m w) w).1 := h0.congr (.of_writes (pwdDone_writes _ w))
  have hB := pwdBan_writes (pwdReset m w) w
  refine handlePieceWriteDone_cases (P := fun x => Life x.1) m w e
    (fun _ => h0.of_shrinks (.inr (pwdBan_shrinks _ w (.refl _))) hB (.inr ⟨hB.completed, hB.bf⟩)) (fun _ _ => h0)
    (fun _ _ _ _ => onSt_stop _ _ _ (stop_life _ _ h0)) (fun _ _ _ _ _ => h1.congr (.of_writes (crash_writes ..)))
    fun b _ _ _ hl (hb : (pwdDone (pwdReset m w) w).1.bf = some b) => ?_
  -- pieces are loaded only on a running torrent, a bitfield exists only once the metadata is known
  have hr : Running (pwdDone (pwdReset m w) w).1 := h1.running_of_loaded hl
  have hinfo : (pwdDone (pwdReset m w) w).1.info = true := h1.info_of fun i => nomatch i.2.2.2.2.symm.trans hb
  have hW := ((pwdSet_writes (pwdDone (pwdReset m w) w) w b).trans (pwdOthers_writes _ w)).trans (pwdHaves_writes _ w)
  exact pwdFinish_life _ (h1.of_shrinks (.inl hr) hW (.inl hinfo)) (hW.info.trans hinfo)

theorem closeDl_of_nil (s : St) (k : Nat) (h : s.dls = []) : s.closeDl k = s := by
  unfold St.closeDl
  simp [St.findDl, h]

structure Quiet (s : St) : Prop where
  nr : s.errC = false ∨ s.stopAnn = true
  peers : s.peers = []
  dls : s.dls = []

theorem Life.quiet {s : St} (h : Life s) (hq : s.errC = false ∨ s.stopAnn = true) : Quiet s :=
  ⟨hq, (h.idle hq).2.2.2.2.2.1, (h.idle hq).2.2.2.2.2.2.1⟩

theorem pwdOthers_of_nil (m : M) (w : WriteJob) (hd : m.1.dls = []) : pwdOthers m w = m := by
  unfold pwdOthers
  simp [hd]

theorem pwdHaves_of_nil (m : M) (w : WriteJob) (hp : m.1.peers = []) : pwdHaves m w = m := by
  unfold pwdHaves
  simp [hp]

theorem pwdFinish_life_quiet (m : M) (h : Life m.1) (hi : m.1.info = true) (hq : Quiet m.1) :
    Life (pwdFinish m).1 :=
  pwdFinish_life m h hi

theorem writerRun_life (m : M) (w : WriteJob) (h : Life m.1) : Life (writerRun m w).1 :=
  writerRun_job (P := fun x => Life x.1) m w (fun _ _ _ _ _ => handlePieceWriteDone_life _ _ _ (h.congr (by lframe)))
    (fun _ _ => h.congr (by lframe))

theorem runWorkers_life (fuel : Nat) (m : M) (h : Life m.1) : Life (runWorkers fuel m).1 :=
  runWorkers_inv (P := fun x => Life x.1) (fun m hs _ h => handleStopped_life m h hs)
    (fun m ha h => allocatorRun_life m h ha) (fun m hv h => handleVerificationDone_life m h hv)
    (fun m w _ _ => handlePieceWriteDone_life m w false) (fun m w _ => writerRun_life m w) fuel m h

theorem mutate_life (s : St) (f : Option Nat) (how : Mut) (h : Life s) (he : s.errC = false) :
    Life (mutate s f how) := by
  -- nothing is loaded on a stopped torrent, so the files may change
  have hW := mutate_writes s f how
  refine .of_quiet (by rw [hW.stopAnn, hW.errC]; exact h.sa) (.inl (hW.errC.trans he)) ?_ (hW.leaked.trans h.leaked) ?_
  · rw [hW.allocator, hW.verifier, hW.loaded, hW.acceptor, hW.openFiles, hW.peers, hW.dls, hW.idls]
    exact h.idle (.inl he)
  · rw [hW.info, hW.completed, hW.bf]
    exact fun hi => (h.ni hi).2.2.2

theorem handle_life (s : St) (p : Parked) (kn : Nat → Bool) (op : Op) (h : Life s) :
    Life (handle s p kn op).1.1 :=
  handle_ind s p kn op (fun _ _ _ _ _ _ _ _ _ _ _ ht => ht.congr (by lframe)) h
    (start_life (s, []) h) (stop_life _ false (h.congr (by lframe)))
    (fun _ => handleVerifyCommand_life ({ s with persisted := none }, []) (h.congr (by lframe)))
    (fun _ _ _ _ he => mutate_life s _ _ h he)
    (fun _ hW hg => h.of_shrinks (.inl (h.running_of_guard hg)) hW (.inr ⟨hW.completed, hW.bf⟩)) (fun _ hW => h.congr (.of_writes hW))
    (fun _ _ _ _ _ _ _ => handlePieceMessage_life (s, []) _ _ _ _ _ h)
    (fun _ _ _ _ _ hk => handleMetadataData_life (s, []) _ _ _ _ h (h.running_of_peer hk))

theorem step_life (s : St) (p : Parked) (kn : Nat → Bool) (op : Op) (h : Life s) :
    Life (step s p kn op).1.st :=
  step_inv s p kn op (handle_life _ p kn op (h.congr (by lframe))) (fun m => runWorkers_life 12 m)
    (fun m k i b l g hm _ => handlePieceMessage_life m k i b l g hm)

/-- What an error-free `reconcile` adopts: downloads the model already had, or admissible new ones — the
torrent is downloading, its pieces are loaded and the piece is not done. -/
theorem reconcile_dls (s : St) (impl : List ImplDl) (he : (reconcile s impl).2 = []) :
    ∀ d ∈ (reconcile s impl).1.dls, d ∈ s.dls ∨
      (s.status = .downloading ∧ s.loaded = true ∧ s.done.getD d.piece false = false) := by
  unfold reconcile at he ⊢
  dsimp only at he ⊢
  refine foldl_inv (fun acc : List Dl × List String => acc.2 = [] → ∀ d ∈ acc.1, d ∈ s.dls ∨
    (s.status = .downloading ∧ s.loaded = true ∧ s.done.getD d.piece false = false)) _ (fun acc x hacc => ?_) impl _
    (fun _ d hd => nomatch hd) (List.append_eq_nil_iff.1 he).2
  split
  · next d0 hd0 =>
    split
    · intro he d hd
      simp only [List.mem_append, List.mem_singleton] at hd
      rcases hd with hd | rfl
      · exact hacc he d hd
      · exact Or.inl (List.mem_of_find?_eq_some hd0)
    · intro he; simp at he
  · split
    · next hadm =>
      intro he d hd
      simp only [List.mem_append, List.mem_singleton] at hd
      rcases hd with hd | rfl
      · exact hacc he d hd
      · right
        unfold admissibleStart at hadm
        simp only [Bool.and_eq_true, decide_eq_true_eq] at hadm
        obtain ⟨⟨⟨⟨⟨a, b⟩, _⟩, c⟩, _⟩, _⟩ := hadm
        refine ⟨a, b, ?_⟩
        split at c
        · cases c
        · simp only [Bool.and_eq_true, Bool.not_eq_true', decide_eq_true_eq] at c
          exact c.1.1.1.2
    · intro he; simp at he

/-- Adopting piece downloads that are old, or were started while downloading: none is, on a torrent that is not
running. -/
theorem reconcile_life_sane (s : St) (impl : List ImplDl) (h : Life s)
    (hd : ∀ d ∈ (reconcile s impl).1.dls, d ∈ s.dls ∨
      (s.status = .downloading ∧ s.loaded = true ∧ s.done.getD d.piece false = false)) :
    Life (reconcile s impl).1 := by
  have hW := reconcile_writes s impl
  refine h.of_shrinks ((Classical.em (Running s)).imp_right fun hr =>
    ⟨reconcile_peers_kept s impl, fun d hd' => ?_, fun e he => ⟨e, hW.idls ▸ he, rfl⟩⟩) hW (.inr ⟨hW.completed, hW.bf⟩)
  have i7 := (h.idle (not_running hr)).2.2.2.2.2.2.1
  exact ((hd d hd').elim (fun h1 => nomatch i7 ▸ h1) fun h1 =>
    hr ⟨((status_downloading_iff s).1 h1.1).1, ((status_downloading_iff s).1 h1.1).2.1⟩).elim

theorem reconcile_life (s : St) (impl : List ImplDl) (h : Life s) (he : (reconcile s impl).2 = []) :
    Life (reconcile s impl).1 :=
  reconcile_life_sane s impl h (reconcile_dls s impl he)

theorem reconcileIdl_life (s : St) (impl : List Nat) (h : Life s) : Life (reconcileIdl s impl).1 := by
  have hW := reconcileIdl_writes s impl
  refine h.of_shrinks ((Classical.em (Running s)).imp_right fun hr => (Shrinks.refl s).of_sub
    (fun _ hq => hW.peers ▸ hq) (fun _ hq => hW.dls ▸ hq) fun e he => ?_) hW (.inr ⟨hW.completed, hW.bf⟩)
  -- not running: nobody is connected, so no metadata download is adopted
  obtain ⟨_, _, _, _, _, i6, _, i8⟩ := h.idle (not_running hr)
  have hidls : (reconcileIdl s impl).1.idls = [] := by
    unfold reconcileIdl
    dsimp only
    apply foldl_inv (fun acc : List IDl × List String => acc.1 = [])
    · intro acc k hacc
      simp [i8, St.findPeer, i6, hacc]
    · rfl
  exact nomatch hidls ▸ he

/-- The implementation's choice of piece downloads after event `e` was accepted by `reconcile`
(otherwise the driver reports a C09 violation and the run is not a run of the model). -/
def Ev.admissible (sp : St × Parked) (e : Ev) : Prop :=
  (reconcile (step sp.1 sp.2 e.known e.op).1.st e.impl).2 = []

def drunAdmissible : St × Parked → List Ev → Prop
  | _, [] => True
  | sp, e :: evs => e.admissible sp ∧ drunAdmissible (dstep sp e) evs

theorem dstep_life (sp : St × Parked) (e : Ev) (h : Life sp.1) (ha : e.admissible sp) : Life (dstep sp e).1 := by
  unfold dstep
  exact reconcileIdl_life _ _ (reconcile_life _ _ (step_life sp.1 sp.2 e.known e.op h) ha)

theorem drun_life (evs : List Ev) (sp : St × Parked) (h : Life sp.1) (ha : drunAdmissible sp evs) :
    Life (drun sp evs).1 := by
  induction evs generalizing sp with
  | nil => exact h
  | cons e evs ih => exact ih _ (dstep_life sp e h ha.1) ha.2

/-- Stopped means clean: nothing connected, nothing running, no handle open. -/
theorem Life.stopped_clean {s : St} (h : Life s) (hs : s.status = .stopped) :
    s.peers = [] ∧ s.dls = [] ∧ s.idls = [] ∧ s.openFiles = [] ∧ s.leaked = 0 ∧
    s.allocator = false ∧ s.verifier = false ∧ s.acceptor = false := by
  obtain ⟨i1, i2, i3, i4, i5, i6, i7, i8⟩ := h.idle (Or.inl ((status_stopped_iff s).1 hs))
  exact ⟨i6, i7, i8, i5, h.leaked, i1, i2, i4⟩

/-- Downloading or seeding means the pieces are loaded and every file is there. -/
theorem Life.files_of_running {s : St} (h : Life s)
    (hs : s.status = .downloading ∨ s.status = .seeding) : s.loaded = true ∧ FilesExist s ∧ s.info = true := by
  have key : s.errC = true ∧ s.stopAnn = false ∧ s.allocator = false ∧ (s.info = true ∨ s.completed = true) := by
    rcases hs with hs | hs
    · obtain ⟨he, hsa, ha, _, _, hi⟩ := (status_downloading_iff s).1 hs
      exact ⟨he, hsa, ha, Or.inl hi⟩
    · obtain ⟨he, hsa, ha, _, hc⟩ := (status_seeding_iff s).1 hs
      exact ⟨he, hsa, ha, Or.inr hc⟩
  obtain ⟨he, hsa, hal, hic⟩ := key
  have hinfo : s.info = true :=
    hic.elim id fun hc => h.info_of fun i => Bool.noConfusion (i.2.2.2.1.symm.trans hc)
  have hl := h.run he hsa hal hinfo
  exact ⟨hl, h.fe hl, hinfo⟩

end Rain.Loop
