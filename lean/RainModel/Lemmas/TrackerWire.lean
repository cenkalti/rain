import RainModel.Model.TrackerWire
import RainModel.Lemmas.Radix
namespace Rain.TrackerWire

theorem be_eq (k v : Nat) : be k v = Radix.digits 256 k v := by
  induction k with
  | zero => rfl
  | succ k ih => rw [be, Radix.digits, ih]

theorem unbe_eq (b : Bytes) : unbe b = Radix.ofDigits 256 b := by
  induction b with
  | nil => rfl
  | cons x r ih => rw [unbe, Radix.ofDigits_cons, ih]

@[simp] theorem length_be (k v : Nat) : (be k v).length = k := by
  rw [be_eq, Radix.length_digits]

theorem unbe_be_of_lt {k v : Nat} (h : v < 256 ^ k) : unbe (be k v) = v := by
  rw [unbe_eq, be_eq, Radix.ofDigits_digits_of_lt h]

theorem isBytes_iff {b : Bytes} : isBytes b = true ↔ ∀ x ∈ b, x < 256 := by
  simp [isBytes]

theorem isBytes_cons {x : Nat} {r : Bytes} : isBytes (x :: r) = true ↔ x < 256 ∧ isBytes r = true := by
  simp [isBytes]

theorem isBytes_of_mem {a b : Bytes} (h : isBytes b = true) (hs : ∀ x ∈ a, x ∈ b) : isBytes a = true :=
  isBytes_iff.2 fun x hx => isBytes_iff.1 h x (hs x hx)

theorem isBytes_be (k v : Nat) : isBytes (be k v) = true :=
  isBytes_iff.2 (be_eq k v ▸ Radix.digits_lt (by decide) k v)

theorem unbe_lt (b : Bytes) (h : isBytes b = true) : unbe b < 256 ^ b.length :=
  unbe_eq b ▸ Radix.ofDigits_lt (isBytes_iff.1 h)

theorem takeN_append {n : Nat} (a r : Bytes) (h : a.length = n) : takeN n (a ++ r) = some (a, r) := by
  unfold takeN
  have : ¬ (a ++ r).length < n := by simp [List.length_append]; omega
  simp only [this, if_false]
  subst h
  simp

theorem takeN_bind {α : Type} {n : Nat} (a r : Bytes) (h : a.length = n) (k : Bytes × Bytes → Option α) :
    (takeN n (a ++ r) >>= k) = k (a, r) := by
  rw [takeN_append a r h]; rfl

theorem toU_lt (n : Nat) (v : Int) : toU n v < 2 ^ n := by
  have hpos : (0 : Int) < 2 ^ n := Int.pow_pos (by decide)
  have h0 := Int.emod_nonneg v (Int.ne_of_gt hpos)
  have h1 := Int.emod_lt_of_pos v hpos
  have : ((2 ^ n : Nat) : Int) = 2 ^ n := by simp
  unfold toU
  omega

theorem toU_of_nonneg {n : Nat} {v : Int} (h0 : 0 ≤ v) (h1 : v < 2 ^ n) : toU n v = v.toNat := by
  rw [toU, Int.emod_eq_of_lt h0 h1]

theorem ofU_toU {n : Nat} (hn : 0 < n) {v : Int} (h1 : -(2 ^ (n - 1) : Int) ≤ v) (h2 : v < 2 ^ (n - 1)) :
    ofU n (toU n v) = v := by
  have hpow : (2 : Int) ^ n = 2 ^ (n - 1) * 2 := by
    have := Int.pow_succ 2 (n - 1)
    rwa [show (n - 1).succ = n by omega] at this
  have hcast : ((2 ^ (n - 1) : Nat) : Int) = 2 ^ (n - 1) := by simp
  have hM : (0 : Int) < 2 ^ (n - 1) := Int.pow_pos (by decide)
  unfold ofU toU
  rw [hpow]
  generalize (2 : Int) ^ (n - 1) = M at *
  generalize 2 ^ (n - 1) = m at *
  by_cases h0 : 0 ≤ v
  · rw [Int.emod_eq_of_lt h0 (by omega)]
    split <;> omega
  · rw [← Int.add_emod_right, Int.emod_eq_of_lt (by omega) (by omega)]
    split <;> omega

theorem nibVal_hexNib : ∀ n, n < 16 → nibVal (hexNib n) = some n := by decide

theorem hexDec_hexEnc (b : Bytes) (h : isBytes b = true) : hexDec (hexEnc b) = some b := by
  induction b with
  | nil => rfl
  | cons x r ih =>
    obtain ⟨hx, hr⟩ := isBytes_cons.1 h
    have ihr := ih hr
    have h1 := nibVal_hexNib (x / 16) (by omega)
    have h2 := nibVal_hexNib (x % 16) (by omega)
    simp only [hexEnc, hexDec, h1, h2, ihr, bind, Option.bind, pure]
    congr 2
    omega

theorem percentUnescape_escape (b : Bytes) (h : isBytes b = true) :
    percentUnescape (percentEscape b) = some b := by
  rw [← hexDec_hexEnc b h]
  clear h
  induction b with
  | nil => rfl
  | cons x r ih => simp only [percentEscape, percentUnescape, hexEnc, hexDec, ih]

theorem lookup_append (k : String) (a b : List (String × Val)) :
    lookup k (a ++ b) = (lookup k a).or (lookup k b) := by
  induction a with
  | nil => rfl
  | cons p r ih =>
    simp only [List.cons_append, lookup]
    split
    · rfl
    · exact ih

theorem wf_group {b : Bytes} (hb : isBytes b = true) (h : 6 ≤ b.length) :
    Peer.wf ⟨b.take 4, unbe ((b.drop 4).take 2)⟩ = true := by
  have hp := unbe_lt ((b.drop 4).take 2) (isBytes_of_mem hb fun _ hx => List.mem_of_mem_drop (List.mem_of_mem_take hx))
  rw [List.length_take, List.length_drop, Nat.min_eq_left (by omega)] at hp
  simpa [Peer.wf, isBytes_of_mem hb fun _ => List.mem_of_mem_take, Nat.min_eq_left (show 4 ≤ b.length by omega)] using hp

theorem compactLoop_spec (fuel : Nat) (b : Bytes) (hb : isBytes b = true) (h : b.length = 6 * fuel) :
    (compactLoop fuel b).length = fuel ∧ ∀ p ∈ compactLoop fuel b, p.wf = true := by
  induction fuel generalizing b with
  | zero => exact ⟨rfl, fun _ hp => nomatch hp⟩
  | succ f ih =>
    have hlen : ¬ b.length < 6 := by omega
    obtain ⟨hl, hw⟩ := ih (b.drop 6) (isBytes_of_mem hb fun _ => List.mem_of_mem_drop) (by rw [List.length_drop]; omega)
    rw [compactLoop, if_neg hlen]
    exact ⟨congrArg (· + 1) hl, List.forall_mem_cons.2 ⟨wf_group hb (by omega), hw⟩⟩

theorem decodeCompact_some {b : Bytes} {ps : List Peer} (hb : isBytes b = true) (h : decodeCompact b = some ps) :
    b.length % 6 = 0 ∧ ps.length = b.length / 6 ∧ ∀ p ∈ ps, p.wf = true := by
  unfold decodeCompact at h
  split at h
  · cases h
  · cases h
    exact ⟨by omega, compactLoop_spec _ b hb (by omega)⟩

theorem parseAnnounce_ok {buf : Bytes} {r : AnnounceReply} (h : parseAnnounce buf = .ok r) :
    20 ≤ buf.length ∧ actionOf buf = 1 ∧ decodeCompact (buf.drop 20) = some r.peers := by
  unfold parseAnnounce at h
  split at h
  · cases h
  split at h
  · cases h
  split at h
  · cases h
  split at h
  · cases h
  · rename_i _ h20 ha _ ps hps
    cases h
    exact ⟨by omega, Decidable.not_not.1 ha, hps⟩

theorem dictPeers_eq (ents : List (Option Bytes × Nat)) :
    dictPeers ents = ents.filterMap fun e => e.1.map (⟨·, e.2⟩) := by
  induction ents with
  | nil => rfl
  | cons e r ih => obtain ⟨_ | ip, port⟩ := e <;> simp [dictPeers, ih]

end Rain.TrackerWire
