import RainModel.Lemmas.LoopComp
import RainModel.Lemmas.LoopVerifyFlag
/-!
`Ends` is the way every op of the stop and verify families ends: stopped, or stopping behind a tracker that does not
answer.  It is closed under the workers (`Ends.workers`: nothing is loaded, so a write that was in flight completes
stale and touches no lifecycle field), a torrent that is not running gets there in one link (`settle_not_running`), and
the step then ends with the workers (`step_ends`).
-/
namespace Rain.Loop

/-- `stop` never panics: the resume write is guarded by `bitfield != nil`. -/
theorem stop_panicked (s : St) (e : Bool) : (s.stop e).panicked = s.panicked := by
  refine stop_cases (P := fun t => t.panicked = s.panicked) s e rfl fun _ => ?_
  -- of the pieces of `stopRun` only `stopWB` writes `panicked`
  have h1 := (stopA_writes s e).trans ((stopPeers_writes _).trans (stopClear_writes _))
  have h2 := fun x : St => (closeData_writes x).trans ((stopAlloc_writes _).trans ((stopVer_writes _).trans (stopFin_writes _)))
  refine (h2 _).panicked.trans (Eq.trans ?_ h1.panicked)
  unfold stopWB
  split
  · next h =>
    unfold St.writeBitfield
    split
    · rfl
    · next hn => rw [hn] at h; cases h
  · rfl

/-- A torrent that is not running has nobody a parked piece message could be delivered to. -/
theorem deliverParked_quiet (m : M) (p : Parked) (h : Life m.1) (hq : m.1.errC = false ∨ m.1.stopAnn = true) :
    (deliverParked m p).1 = m :=
  deliverParked_inv (P := fun x => x = m) m p rfl fun k _ _ _ _ _ hk => by
    rw [St.findPeer, (h.idle hq).2.2.2.2.2.1] at hk
    cases hk

/-- How an op ends that leaves the torrent winding down: `Stopped` with no verification pending — or, if a tracker does
not answer the `stopped` event (`hang`), `Stopping` with the stop announcer waiting and the request as `dv` says. -/
def Ends (hang dv : Bool) (t : St) : Prop :=
  (t.status = .stopped ∧ t.doVerify = false) ∨
  (hang = true ∧ t.status = .stopping ∧ t.stopHang = true ∧ t.doVerify = dv)

theorem Ends.not_running {hang dv : Bool} {t : St} (h : Ends hang dv t) : t.errC = false ∨ t.stopAnn = true :=
  h.elim (fun h => .inl ((status_stopped_iff t).1 h.1)) fun h => .inr ((status_stopping_iff t).1 h.2.1).2

theorem Ends.stopped {dv : Bool} {t : St} (h : Ends false dv t) : t.status = .stopped ∧ t.doVerify = false :=
  h.resolve_right fun h => Bool.noConfusion h.1

/-- While nothing is loaded a write result is stale (fix C04-F9): the job is forgotten and, after a failed hash, its
source banned. -/
theorem handlePieceWriteDone_writes_unloaded (m : M) (w : WriteJob) (e : Bool) (hl : m.1.loaded = false) :
    Writes ([.writing, .wflag] ++ [.peers, .dls, .idls, .mayStartI, .unchoked, .optimistic, .banned, .mayStart, .closedDl])
      m.1 (handlePieceWriteDone m w e).1 :=
  have stale := fun {α} (h : m.1.loaded = true) => (Bool.noConfusion (hl.symm.trans h) : α)
  handlePieceWriteDone_cases (P := fun x => Writes _ m.1 x.1) m w e
    (fun _ => (pwdReset_writes m w).trans (pwdBan_writes ..)) (fun _ _ => (pwdReset_writes m w).mono)
    (fun _ _ _ => stale) (fun _ _ _ h _ => stale h) fun _ _ _ _ h _ => stale h

/-- What the workers write on a torrent in an `Ends` state. -/
def endsW : List Fld :=
  [.sto, .bad, .writing, .wflag, .peers, .dls, .idls, .mayStartI, .unchoked, .optimistic, .banned, .mayStart, .closedDl]

theorem Ends.of_writes {hang dv : Bool} {s s' : St} (h : Ends hang dv s) (W : Writes endsW s s') : Ends hang dv s' := by
  unfold Ends
  rw [W.status, W.doVerify, W.stopHang]
  exact h

theorem writerRun_writes_unloaded (m : M) (w : WriteJob) (hl : m.1.loaded = false) :
    Writes endsW m.1 (writerRun m w).1 :=
  writerRun_job (P := fun x => Writes endsW m.1 x.1) m w
    (fun sto bad _ _ _ => Writes.trans (w₁ := [.sto, .bad]) (b := { m.1 with sto := sto, bad := bad }) (.intro rfl)
      (handlePieceWriteDone_writes_unloaded (_, m.2) _ _ hl))
    (fun _ _ => .intro rfl)

theorem Ends.workers {hang dv : Bool} (fuel : Nat) (m : M) (hl : Life m.1) (h : Ends hang dv m.1) :
    Ends hang dv (runWorkers fuel m).1 := by
  refine (runWorkers_inv (P := fun x => Life x.1 ∧ Ends hang dv x.1) ?_ ?_ ?_ ?_ ?_ fuel m ⟨hl, h⟩).2
  · rintro x hs hh ⟨hl, ⟨h, _⟩ | ⟨_, _, h, _⟩⟩
    · cases ((status_stopped_iff _).1 h).symm.trans (hl.sa hs)
    · cases hh.symm.trans h
  · exact fun x ha ⟨hl, h⟩ => Bool.noConfusion ((hl.idle h.not_running).1.symm.trans ha)
  · exact fun x hv ⟨hl, h⟩ => Bool.noConfusion ((hl.idle h.not_running).2.1.symm.trans hv)
  · exact fun x w _ _ ⟨hl, h⟩ => ⟨handlePieceWriteDone_life x w _ hl,
      h.of_writes ((handlePieceWriteDone_writes_unloaded x w _ (hl.idle h.not_running).2.2.1).mono (w₂ := endsW))⟩
  · exact fun x w _ ⟨hl, h⟩ => ⟨writerRun_life x w hl, h.of_writes (writerRun_writes_unloaded x w (hl.idle h.not_running).2.2.1)⟩

theorem runWorkers_stopped (n : Nat) (m : M) (h1 : m.1.panicked = none) (h2 : m.1.stopAnn = true)
    (h3 : m.1.stopHang = false) :
    runWorkers (n + 1) m = runWorkers n (handleStopped m) := by
  rw [runWorkers_succ]; simp [h1, h2, h3]

/-- The stop announcer reports (unless a tracker hangs), nothing but a write that was in flight completes, nothing is
restarted. -/
theorem settle_not_running (n : Nat) (r : M) {hang : Bool} (hl : Life r.1) (hpan : r.1.panicked = none)
    (hdv : r.1.doVerify = false) (hnr : r.1.errC = false ∨ r.1.stopAnn = true) (hh : r.1.stopHang = hang) :
    Ends hang false (runWorkers (n + 1) r).1 := by
  by_cases hs : r.1.stopAnn = true
  · cases hang
    · -- the stop announcer reports, `handleStopped` clears `errC`
      rw [runWorkers_stopped n r hpan hs hh]
      exact Ends.workers n _ (handleStopped_life r hl hs)
        (.inl ⟨(status_stopped_iff _).2 (by unfold handleStopped; simp [hdv]), by unfold handleStopped; simp [hdv]⟩)
    · exact Ends.workers _ r hl (.inr ⟨rfl, (status_stopping_iff _).2 ⟨hl.sa hs, hs⟩, hh, hdv⟩)
  · exact Ends.workers _ r hl (.inl ⟨(status_stopped_iff _).2 (hnr.resolve_right hs), hdv⟩)

theorem Life.opStart {s : St} (h : Life s) : Life s.opStart := by
  unfold St.opStart
  exact h.congr (by lframe)

/-- A step ends with its workers when they leave the torrent not running: nobody is connected a parked piece message
could be delivered to. -/
theorem step_st_quiet (s : St) (p : Parked) (kn : Nat → Bool) (op : Op)
    (hl : Life (handle s.opStart p kn op).1.1)
    (hq : (runWorkers 12 (handle s.opStart p kn op).1).1.errC = false ∨
      (runWorkers 12 (handle s.opStart p kn op).1).1.stopAnn = true) :
    (step s p kn op).1.st = (runWorkers 12 (handle s.opStart p kn op).1).1 := by
  rw [step_st]
  split
  · exact congrArg Prod.fst (deliverParked_quiet _ _ (runWorkers_life 12 _ hl) hq)
  · rfl

theorem step_ends (s : St) (p : Parked) (kn : Nat → Bool) (op : Op) {hang dv : Bool}
    (hl : Life (handle s.opStart p kn op).1.1) (h : Ends hang dv (runWorkers 12 (handle s.opStart p kn op).1).1) :
    Ends hang dv (step s p kn op).1.st :=
  step_st_quiet s p kn op hl h.not_running ▸ h

/-- The two stop commands (`Op.stopHeld` leaves the storage gates alone).  `handle` treats them alike: the pending
verification request is withdrawn (fix C04-F6), then `stop`. -/
def IsStopOp (op : Op) : Prop := op = .stop ∨ op = .stopHeld

/-- **The stop command withdraws a pending verification request** (fix C04-F6), at the end of the whole step,
from **every** state — no invariant, panicked or not, whatever the gates and the parked message. -/
theorem stopOp_withdraws_verify (s : St) (p : Parked) (kn : Nat → Bool) (op : Op) (hop : IsStopOp op) :
    (handle s p kn op).1.1.doVerify = false ∧ (step s p kn op).1.st.doVerify = false := by
  have hh : ∀ s : St, (handle s p kn op).1.1.doVerify = false := by
    intro s
    rcases hop with rfl | rfl <;> (simp only [handle, onSt_fst]; exact stop_doVerify_false _ _ rfl)
  refine ⟨hh s, ?_⟩
  exact step_inv (P := fun x => x.doVerify = false) s p kn op (hh _) (fun m => (runWorkers_pb 12 m).dv)
    (fun _ _ _ _ _ _ hm _ => by simpa using hm)

end Rain.Loop
