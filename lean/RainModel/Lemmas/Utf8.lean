import RainModel.Model.Path
/-!
Helper lemmas about the UTF-8 part of M-PATH, used for `clean_dotdot_iff` and `join_confined` (C07).
The decoder `runeLen` is seen through `Rune` (a complete sequence) and the one case analysis on lead
bytes, `runeLen_cases`; `ToValidUTF8` (`V`: `toValidAux` with the natural fuel) through what it does
on an invalid byte and on a complete sequence (`V_invalid`, `V_chunk`) and the induction `V_induction`.
-/
namespace Rain.Path

theorem runeLen_ascii (c : Nat) (t : Bytes) (h : c < 0x80) : runeLen (c :: t) = 1 := by
  unfold runeLen; exact if_pos h

/-- One complete well-formed sequence. -/
def Rune (p : Bytes) : Prop :=
  p ≠ [] ∧ p.length ≤ 4 ∧ (∀ b ∈ p.tail, 0x80 ≤ b) ∧ ∀ y, runeLen (p ++ y) = p.length

theorem isCont_ge {b : Nat} (h : isCont b = true) : 0x80 ≤ b := by
  simp [isCont] at h; exact h.1

/-- The four accepting branches of `runeLen` read nothing beyond the sequence. -/
theorem runeLen_cases (x : Bytes) : runeLen x = 0 ∨ ∃ p t, x = p ++ t ∧ Rune p := by
  fun_cases runeLen x
  case case2 c0 t h1 =>
    exact .inr ⟨[c0], t, rfl, by simp, by simp, by simp, fun y => runeLen_ascii c0 y h1⟩
  case case4 c0 h1 h2 h3 c1 t hc =>
    exact .inr ⟨[c0, c1], t, rfl, by simp, by simp, by simpa using isCont_ge hc,
      fun y => by
        show runeLen (c0 :: c1 :: y) = 2
        unfold runeLen; rw [if_neg h1, if_neg h2, if_pos h3]; exact if_pos hc⟩
  case case7 c0 h1 h2 h3 h4 c1 c2 t hc =>
    refine .inr ⟨[c0, c1, c2], t, rfl, by simp, by simp, ?_, fun y => by
      show runeLen (c0 :: c1 :: c2 :: y) = 3
      unfold runeLen; rw [if_neg h1, if_neg h2, if_neg h3, if_pos h4]; exact if_pos hc⟩
    simp only [Bool.and_eq_true, decide_eq_true_eq] at hc
    simp only [List.tail_cons, List.mem_cons, List.not_mem_nil, or_false, forall_eq_or_imp, forall_eq]
    exact ⟨by split at hc <;> omega, isCont_ge hc.2⟩
  case case10 c0 h1 h2 h3 h4 h5 c1 c2 c3 t hc =>
    refine .inr ⟨[c0, c1, c2, c3], t, rfl, by simp, by simp, ?_, fun y => by
      show runeLen (c0 :: c1 :: c2 :: c3 :: y) = 4
      unfold runeLen; rw [if_neg h1, if_neg h2, if_neg h3, if_neg h4, if_pos h5]; exact if_pos hc⟩
    simp only [Bool.and_eq_true, decide_eq_true_eq] at hc
    simp only [List.tail_cons, List.mem_cons, List.not_mem_nil, or_false, forall_eq_or_imp, forall_eq]
    exact ⟨by split at hc <;> omega, isCont_ge hc.1.2, isCont_ge hc.2⟩
  all_goals exact .inl rfl

/-- A byte below `0x80` after a truncated sequence does not complete it: it would be a later byte
of the complete one. -/
theorem runeLen_append_ascii (p q : Bytes) (a : Nat) (ha : a < 0x80) (hp : p ≠ []) (h0 : runeLen p = 0) :
    runeLen (p ++ a :: q) = 0 := by
  rcases runeLen_cases (p ++ a :: q) with h | ⟨r, t, e, hr, _, htail, h⟩
  · exact h
  · exfalso
    -- the complete sequence `r` reaches to the end of `p` or beyond, or ends inside `p`
    rcases List.append_eq_append_iff.1 e with ⟨a', rfl, e2⟩ | ⟨c', rfl, _⟩
    · cases a' with
      | nil =>
        have := h []
        simp only [List.append_nil] at this
        rw [h0] at this
        exact hp (List.length_eq_zero_iff.1 this.symm)
      | cons b a'' =>
        cases (List.cons.inj e2).1
        obtain ⟨c, p', rfl⟩ := List.exists_cons_of_ne_nil hp
        have := htail a (by simp)
        omega
    · rw [h c'] at h0
      exact hr (List.length_eq_zero_iff.1 h0)

theorem toValidAux_nil (r : Bytes) (f : Nat) (inv : Bool) : toValidAux r f inv [] = [] := by
  cases f <;> rfl

theorem toValidAux_fuel (r : Bytes) : ∀ (f1 f2 : Nat) (inv : Bool) (x : Bytes),
    x.length ≤ f1 → x.length ≤ f2 → toValidAux r f1 inv x = toValidAux r f2 inv x := by
  intro f1
  induction f1 with
  | zero =>
    intro f2 inv x h1 _
    have : x = [] := by cases x <;> simp_all
    subst this
    rw [toValidAux_nil, toValidAux_nil]
  | succ f1 ih =>
    intro f2 inv x h1 h2
    cases x with
    | nil => rw [toValidAux_nil, toValidAux_nil]
    | cons c rest =>
      cases f2 with
      | zero => simp at h2
      | succ f2 =>
        simp only [List.length_cons, Nat.add_le_add_iff_right] at h1 h2
        simp only [toValidAux]
        split
        · rw [ih f2 false rest h1 h2]
        · split
          · rw [ih f2 true rest h1 h2]
          · have hl : ((c :: rest).drop (runeLen (c :: rest))).length ≤ rest.length := by
              simp only [List.length_drop, List.length_cons]; omega
            rw [ih f2 false _ (by omega) (by omega)]

/-- `ToValidUTF8` with the natural fuel. -/
def V (r : Bytes) (inv : Bool) (x : Bytes) : Bytes := toValidAux r x.length inv x

theorem V_nil (r inv) : V r inv [] = [] := rfl

theorem V_ascii (r : Bytes) (inv : Bool) (c : Nat) (rest : Bytes) (h : c < 0x80) :
    V r inv (c :: rest) = c :: V r false rest := by
  simp [V, toValidAux, h]

theorem V_of_ascii (r : Bytes) (inv : Bool) (s : Bytes) (h : ∀ b ∈ s, b < 0x80) : V r inv s = s := by
  induction s generalizing inv with
  | nil => rfl
  | cons c t ih => rw [V_ascii _ _ _ _ (h c (by simp)), ih _ fun b hb => h b (by simp [hb])]

theorem V_invalid (r : Bytes) (inv : Bool) (c : Nat) (rest : Bytes) (hw : runeLen (c :: rest) = 0) :
    V r inv (c :: rest) = (if inv then [] else r) ++ V r true rest := by
  have h : ¬ c < 0x80 := fun h => by simp [runeLen_ascii c rest h] at hw
  simp [V, toValidAux, h, hw]

theorem V_chunk (r : Bytes) (inv : Bool) (p X : Bytes) (hp : Rune p) :
    V r inv (p ++ X) = p ++ V r false X := by
  obtain ⟨hne, _, _, h⟩ := hp
  cases p with
  | nil => exact absurd rfl hne
  | cons c p =>
    have hX := h X
    rw [List.cons_append] at hX ⊢
    by_cases hc : c < 0x80
    · rw [runeLen_ascii _ _ hc] at hX
      have : p = [] := List.length_eq_zero_iff.1 (by simpa using hX.symm)
      subst this
      exact V_ascii r inv c X hc
    · simp only [V, List.length_cons, toValidAux, hc, if_false, hX, Nat.succ_ne_zero]
      rw [← List.cons_append, List.take_left' (i := p.length + 1) rfl, List.drop_left' (i := p.length + 1) rfl]
      congr 1
      apply toValidAux_fuel <;> simp

/-- Induction along the loop of `ToValidUTF8`; an ASCII byte is a complete sequence of width 1. -/
theorem V_induction {motive : Bool → Bytes → Prop} (nil : ∀ inv, motive inv [])
    (invalid : ∀ inv c rest, runeLen (c :: rest) = 0 → motive true rest → motive inv (c :: rest))
    (rune : ∀ inv p t, Rune p → motive false t → motive inv (p ++ t)) :
    ∀ (inv : Bool) (x : Bytes), motive inv x
  | inv, [] => nil inv
  | inv, c :: rest =>
    match runeLen_cases (c :: rest) with
    | .inl hw => invalid inv c rest hw (V_induction nil invalid rune true rest)
    | .inr ⟨p, t, e, hp⟩ => e ▸ rune inv p t hp (V_induction nil invalid rune false t)
termination_by _ x => x.length
decreasing_by
  · simp
  · have := List.length_pos_iff.2 hp.1
    rw [e, List.length_append]; omega

theorem rune_replacement : Rune replacementChar :=
  ⟨by decide, by decide, by decide, fun _ => rfl⟩

/-- `ToValidUTF8(ToValidUTF8(s, "�"), "")` is the identity on the repaired string: the output
of `ToValidUTF8` is valid. -/
theorem V_idem (s : Bytes) (inv : Bool) :
    V [] false (V replacementChar inv s) = V replacementChar inv s := by
  induction inv, s using V_induction with
  | nil => rfl
  | invalid inv c rest hw ih =>
    rw [V_invalid _ _ _ _ hw]
    cases inv with
    | true => simpa using ih
    | false => simp only [Bool.false_eq_true, if_false]; rw [V_chunk _ _ _ _ rune_replacement, ih]
  | rune inv p t hp ih => rw [V_chunk _ _ _ _ hp, V_chunk _ _ _ _ hp, ih]

theorem V_ascii_output (s : Bytes) (h : ∀ b ∈ V replacementChar false s, b < 0x80) :
    V replacementChar false s = s := by
  induction s with
  | nil => rfl
  | cons c rest ih =>
    by_cases hc : c < 0x80
    · rw [V_ascii _ _ _ _ hc] at h ⊢
      rw [ih (fun b hb => h b (by simp [hb]))]
    · exfalso
      rcases runeLen_cases (c :: rest) with hw | ⟨p, t, e, hp⟩
      · rw [V_invalid _ _ _ _ hw] at h
        have := h 0xEF (by simp [replacementChar])
        omega
      · rw [e, V_chunk _ _ _ _ hp] at h
        obtain ⟨c', p', rfl⟩ := List.exists_cons_of_ne_nil hp.1
        cases (List.cons.inj e).1
        exact hc (h c (by simp))

theorem V_length_le (x : Bytes) (inv : Bool) : (V [] inv x).length ≤ x.length := by
  induction inv, x using V_induction with
  | nil => simp [V_nil]
  | invalid inv c rest hw ih =>
    rw [V_invalid _ _ _ _ hw]
    simp only [List.length_cons]
    split <;> simp <;> omega
  | rune inv p t hp ih =>
    rw [V_chunk _ _ _ _ hp]
    simp only [List.length_append]
    omega

/-- Fixed points of `ToValidUTF8(·, "")` = valid UTF-8 strings. -/
def ValidU (u : Bytes) : Prop := V [] false u = u

theorem ValidU_step (u : Bytes) (hu : ValidU u) (hne : u ≠ []) : ∃ p t, u = p ++ t ∧ Rune p ∧ ValidU t := by
  cases u with
  | nil => exact absurd rfl hne
  | cons c rest =>
    unfold ValidU at hu ⊢
    rcases runeLen_cases (c :: rest) with hw | ⟨p, t, e, hp⟩
    · exfalso
      rw [V_invalid _ _ _ _ hw] at hu
      have := V_length_le rest true
      have hl := congrArg List.length hu
      simp at hl
      omega
    · rw [e, V_chunk _ _ _ _ hp] at hu
      exact ⟨p, t, e, hp, List.append_cancel_left hu⟩

theorem V_take_length (n : Nat) : ∀ (k : Nat) (u y : Bytes) (inv : Bool), ValidU u → k ≤ u.length → 4 * n ≤ k →
    n ≤ (V [] inv (u.take k ++ y)).length := by
  induction n with
  | zero => intros; omega
  | succ n ih =>
    intro k u y inv hu hk hn
    have hne : u ≠ [] := by intro e; subst e; simp at hk; omega
    obtain ⟨p, t, rfl, hp, hv⟩ := ValidU_step u hu hne
    have h1 := List.length_pos_iff.2 hp.1
    have h4 := hp.2.1
    rw [List.length_append] at hk
    rw [List.take_append, List.take_of_length_le (by omega), List.append_assoc, V_chunk _ _ _ _ hp]
    have := ih (k - p.length) t y false hv (by omega) (by omega)
    simp only [List.length_append]
    omega

theorem V_split (r : Bytes) (inv : Bool) (x y : Bytes) (a : Nat) (ha : a < 0x80) :
    V r inv (x ++ a :: y) = V r inv x ++ a :: V r false y := by
  induction inv, x using V_induction with
  | nil => simp [V_nil, V_ascii _ _ _ _ ha]
  | invalid inv c x hw ih =>
    have hw' : runeLen (c :: (x ++ a :: y)) = 0 := runeLen_append_ascii (c :: x) y a ha (List.cons_ne_nil _ _) hw
    rw [List.cons_append, V_invalid _ _ _ _ hw', V_invalid _ _ _ _ hw, ih]
    simp
  | rune inv p t hp ih =>
    rw [List.append_assoc, V_chunk _ _ _ _ hp, V_chunk _ _ _ _ hp, ih, List.append_assoc]

theorem ValidU_suffix (pre y : Bytes) (a : Nat) (ha : a < 0x80) (h : ValidU (pre ++ a :: y)) : ValidU y := by
  unfold ValidU at h ⊢
  rw [V_split _ _ _ _ _ ha] at h
  have h1 := V_length_le pre false
  have h2 := V_length_le y false
  have hl := congrArg List.length h
  simp only [List.length_append, List.length_cons] at hl
  have hlen : (V [] false pre).length = pre.length := by omega
  have := (List.append_inj h hlen).2
  exact (List.cons.inj this).2

theorem extAux_spec (l acc : Bytes) :
    extAux l acc = [] ∨ ∃ pre e, extAux l acc = DOT :: e ∧ l.reverse ++ acc = pre ++ DOT :: e := by
  induction l generalizing acc with
  | nil => left; rfl
  | cons c rest ih =>
    unfold extAux
    by_cases h1 : c = SLASH
    · left; simp [h1]
    · by_cases h2 : c = DOT
      · right
        subst h2
        refine ⟨rest.reverse, acc, by simp [show ¬ DOT = SLASH by decide], by simp⟩
      · simp only [h1, h2, if_false]
        rcases ih (c :: acc) with h | ⟨pre, e, he, hs⟩
        · left; exact h
        · right; exact ⟨pre, e, he, by simpa using hs⟩

theorem pathExt_spec (u : Bytes) :
    pathExt u = [] ∨ ∃ pre e, pathExt u = DOT :: e ∧ u = pre ++ DOT :: e := by
  unfold pathExt
  rcases extAux_spec u.reverse [] with h | ⟨pre, e, he, hs⟩
  · left; exact h
  · right; exact ⟨pre, e, he, by simpa using hs⟩

/-! ### `cleanName` never manufactures an empty name, `.` or `..` -/

theorem toValidUTF8_eq_V (s r : Bytes) : toValidUTF8 s r = V r false s := rfl

theorem replaceSeparator_length (u : Bytes) : (replaceSeparator u).length = u.length := by
  simp [replaceSeparator]

theorem cleanName_short (s : Bytes) (h : (toValidUTF8 s replacementChar).length ≤ 255) :
    cleanName s = replaceSeparator (toValidUTF8 s replacementChar) := by
  unfold cleanName cleanNameN
  simp only
  have : trimName (toValidUTF8 s replacementChar) 255 = toValidUTF8 s replacementChar := by
    unfold trimName; simp [h]
  rw [this, toValidUTF8_eq_V, toValidUTF8_eq_V, V_idem]

theorem cleanName_long (s : Bytes) (h : 255 < (toValidUTF8 s replacementChar).length) :
    3 ≤ (cleanName s).length := by
  unfold cleanName cleanNameN
  simp only
  rw [replaceSeparator_length]
  have hu : ValidU (toValidUTF8 s replacementChar) := V_idem s false
  generalize toValidUTF8 s replacementChar = u at h hu
  rw [toValidUTF8_eq_V]
  unfold trimName
  have h1 : ¬ u.length ≤ 255 := by omega
  simp only [h1, if_false]
  split
  · -- extension longer than the limit: a plain cut
    have := V_take_length 3 255 u [] false hu (by omega) (by omega)
    simpa using this
  · rename_i hext
    by_cases hsmall : (pathExt u).length ≤ 243
    · exact V_take_length 3 (255 - (pathExt u).length) u (pathExt u) false hu (by omega) (by omega)
    · rcases pathExt_spec u with he | ⟨pre, e, he, hsplit⟩
      · rw [he] at hsmall; simp at hsmall
      · have hdot : DOT < 0x80 := by decide
        have hve : ValidU e := by
          have hu' := hu
          rw [hsplit] at hu'
          exact ValidU_suffix pre e DOT hdot hu'
        rw [he, V_split _ _ _ _ _ hdot]
        unfold ValidU at hve
        rw [hve]
        have : (pathExt u).length = e.length + 1 := by rw [he]; simp
        simp only [List.length_append, List.length_cons]
        omega

/-- An output without `_` had no separator to replace. -/
theorem replaceSeparator_eq (u t : Bytes) (h : replaceSeparator u = t) (hu : UNDERSCORE ∉ t) : u = t := by
  subst h
  have : ∀ b ∈ u, (if b = SLASH then UNDERSCORE else b) = b := fun b hb => by
    split
    · exact absurd (List.mem_map.2 ⟨b, hb, by simp [*]⟩) hu
    · rfl
  exact ((List.map_congr_left this).trans (List.map_id _)).symm

/-- A long repaired name stays longer than two bytes; a short one is only repaired and has its separators replaced. -/
theorem cleanName_eq_short (s t : Bytes) (hl : t.length ≤ 2) (hasc : ∀ b ∈ t, b < 0x80) (hu : UNDERSCORE ∉ t)
    (hc : cleanName s = t) : s = t := by
  by_cases hlong : 255 < (toValidUTF8 s replacementChar).length
  · have := cleanName_long s hlong
    rw [hc] at this; omega
  · rw [cleanName_short s (by omega)] at hc
    have hv := replaceSeparator_eq _ _ hc hu
    rw [toValidUTF8_eq_V] at hv
    rw [← V_ascii_output s (by rw [hv]; exact hasc), hv]

/-- The three facts `join_confined` needs about `cleanName`, for every byte string. -/
theorem cleanName_special (s : Bytes) :
    (cleanName s = [] → s = []) ∧ (cleanName s = dot → s = dot) ∧ (cleanName s = dotdot → s = dotdot) :=
  ⟨cleanName_eq_short s [] (by decide) (by decide) (by decide),
   cleanName_eq_short s dot (by decide) (by decide) (by decide),
   cleanName_eq_short s dotdot (by decide) (by decide) (by decide)⟩

end Rain.Path
