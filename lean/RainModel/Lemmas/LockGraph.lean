import RainModel.Model.Discipline
/-!
Soundness of the sink-elimination check of `Model/Discipline.lean`: an edge that lies on a cycle survives every
round of `prune`, so a graph accepted by `graphAcyclic` has no cycle.  Core Lean only.
-/
namespace Rain.Discipline

theorem Path.trans {g : List (Nat × Nat)} {a b c : Nat} (h : Path g a b) (h' : Path g b c) : Path g a c := by
  induction h with
  | single h1 => exact Path.cons h1 h'
  | cons h1 _ ih => exact Path.cons h1 (ih h')

theorem Path.first {g : List (Nat × Nat)} {a c : Nat} (h : Path g a c) :
    ∃ b, (a, b) ∈ g ∧ (b = c ∨ Path g b c) := by
  cases h with
  | single h1 => exact ⟨c, h1, Or.inl rfl⟩
  | cons h1 h2 => exact ⟨_, h1, Or.inr h2⟩

def OnCycle (g : List (Nat × Nat)) (e : Nat × Nat) : Prop := e ∈ g ∧ (e.2 = e.1 ∨ Path g e.2 e.1)

theorem OnCycle.next {g : List (Nat × Nat)} {e : Nat × Nat} (h : OnCycle g e) :
    ∃ f, OnCycle g f ∧ f.1 = e.2 := by
  obtain ⟨a, b⟩ := e
  obtain ⟨hm, hc⟩ := h
  simp only at hc
  rcases hc with hc | hc
  ·
    subst hc
    exact ⟨(b, b), ⟨hm, Or.inl rfl⟩, rfl⟩
  · obtain ⟨c, h1, h2⟩ := hc.first
    refine ⟨(b, c), ⟨h1, ?_⟩, rfl⟩
    rcases h2 with h2 | h2
    · subst h2
      by_cases hbc : c = b
      · exact Or.inl hbc
      · exact Or.inr (Path.single hm)
    · exact Or.inr (h2.trans (.single hm))

theorem onCycle_subset_prune {g k : List (Nat × Nat)} (hsub : ∀ e, OnCycle g e → e ∈ k) :
    ∀ e, OnCycle g e → e ∈ prune k := by
  intro e he
  obtain ⟨f, hf, hfe⟩ := he.next
  unfold prune
  rw [List.mem_filter]
  refine ⟨hsub e he, ?_⟩
  rw [List.any_eq_true]
  exact ⟨f, hsub f hf, by simp [hfe]⟩

theorem onCycle_subset_pruneN {g : List (Nat × Nat)} (n : Nat) :
    ∀ k : List (Nat × Nat), (∀ e, OnCycle g e → e ∈ k) → ∀ e, OnCycle g e → e ∈ pruneN n k := by
  induction n with
  | zero => intro k hsub; exact hsub
  | succ n ih =>
    intro k hsub
    exact ih (prune k) (onCycle_subset_prune hsub)

/-- A self-edge `a → a` counts as a cycle. -/
theorem no_cycle_of_graphAcyclic {g : List (Nat × Nat)} (h : graphAcyclic g = true) (a : Nat) : ¬ Path g a a := by
  intro hp
  obtain ⟨b, h1, h2⟩ := hp.first
  have hm := onCycle_subset_pruneN (g := g) g.length g (fun e he => he.1) (a, b) ⟨h1, h2⟩
  unfold graphAcyclic at h
  rw [List.isEmpty_iff] at h
  rw [h] at hm
  exact absurd hm List.not_mem_nil

theorem Walk.toPath {g : List (Nat × Nat)} : ∀ (ls : List Nat) (a b : Nat), Walk g a ls b → Path g a b
  | [], _, _, h => Path.single h
  | _ :: cs, _, b, h => Path.cons h.1 (Walk.toPath cs _ b h.2)

/-- A round of `prune` keeps an edge only if an edge of the list starts at its target, so a fixed point of `prune` is a
set of edges each followed by another of the set (being finite, it contains a cycle).  That a rejected graph ends in
such a fixed point is not proved. -/
theorem prune_fixed_of_rejected_step (g : List (Nat × Nat)) :
    ∀ e ∈ prune g, ∃ f ∈ g, f.1 = e.2 := by
  intro e he
  unfold prune at he
  rw [List.mem_filter, List.any_eq_true] at he
  obtain ⟨_, f, hf, hfe⟩ := he
  exact ⟨f, hf, by simpa using hfe⟩

end Rain.Discipline
