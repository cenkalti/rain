import RainModel.Model.Geometry
import RainModel.Lemmas.Geometry
import RainModel.Lemmas.ListFacts
/-! `filesection.Piece.ReadAt` / `Write` (C02 `read_write_roundtrip`). A piece holds the concatenation of what its
sections hold (`secBytes`); a write leaves the store the same outside the positions written (`Upd`); a read is a
`drop`/`take` of the concatenation. -/
namespace Rain.Geometry

theorem mem_bytesOf (i off len f o : Nat) : (f, o) ∈ bytesOf i off len ↔ f = i ∧ off ≤ o ∧ o < off + len := by
  unfold bytesOf
  simp only [List.mem_map, List.mem_range, Prod.mk.injEq]
  constructor
  · rintro ⟨k, hk, rfl, rfl⟩; omega
  · rintro ⟨rfl, h1, h2⟩; exact ⟨o - off, by omega, rfl, by omega⟩

theorem fileWrite_eq_ok {st st' : Store} {f off : Nat} {d : List Nat} :
    fileWrite st f off d = .ok st' ↔ ∃ bs, st[f]? = some (FileStore.data bs) ∧ off + d.length ≤ bs.length ∧
      st' = st.set f (.data (bs.take off ++ d ++ bs.drop (off + d.length))) := by
  unfold fileWrite
  split
  · rename_i bs hbs
    split <;> simp [*, eq_comm]
  · simp [*]
  · simp [*]

theorem getByte_fileWrite {st st' : Store} {f off : Nat} {d : List Nat} (h : fileWrite st f off d = .ok st')
    (f' o : Nat) :
    getByte st' f' o = if f' = f ∧ off ≤ o ∧ o < off + d.length then d[o - off]? else getByte st f' o := by
  obtain ⟨bs, hbs, hle, rfl⟩ := fileWrite_eq_ok.1 h
  unfold getByte
  by_cases hf : f' = f
  · subst hf
    rw [List.getElem?_set_self (List.getElem?_eq_some_iff.1 hbs).1, hbs]
    simp only [true_and, getElem?_overwrite bs off d hle]
    by_cases h1 : o < off
    · rw [if_pos h1, if_neg (by omega)]
    · by_cases h2 : o < off + d.length
      · rw [if_neg h1, if_pos h2, if_pos ⟨by omega, h2⟩]
      · rw [if_neg h1, if_neg h2, if_neg (by omega)]
  · rw [if_neg fun h => hf h.1, List.getElem?_set_ne (Ne.symm hf)]

/-- `st'` is `st` with bytes at positions in `X` overwritten. -/
structure Upd (X : List (Nat × Nat)) (st st' : Store) : Prop where
  len : st'.length = st.length
  pad : ∀ f : Nat, st[f]? = some FileStore.padding → st'[f]? = some FileStore.padding
  data : ∀ (f : Nat) (bs : List Nat), st[f]? = some (FileStore.data bs) → ∃ bs', st'[f]? = some (FileStore.data bs') ∧ bs'.length = bs.length
  frame : ∀ f o, (f, o) ∉ X → getByte st' f o = getByte st f o

theorem Upd.refl (X : List (Nat × Nat)) (st : Store) : Upd X st st :=
  ⟨rfl, fun _ h => h, fun _ bs h => ⟨bs, h, rfl⟩, fun _ _ _ => rfl⟩

theorem Upd.trans {X Y : List (Nat × Nat)} {a b c : Store} (h1 : Upd X a b) (h2 : Upd Y b c) : Upd (X ++ Y) a c :=
  ⟨by rw [h2.len, h1.len], fun f h => h2.pad f (h1.pad f h), fun f bs h => by
    obtain ⟨bs', hb, hl⟩ := h1.data f bs h
    obtain ⟨bs'', hc, hl'⟩ := h2.data f bs' hb
    exact ⟨bs'', hc, by omega⟩, fun f o h => by
    rw [List.mem_append, not_or] at h
    rw [h2.frame f o h.2, h1.frame f o h.1]⟩

theorem upd_fileWrite {st st' : Store} {f off : Nat} {d : List Nat} (h : fileWrite st f off d = .ok st') :
    Upd (bytesOf f off d.length) st st' := by
  have hfr : ∀ f' o, (f', o) ∉ bytesOf f off d.length → getByte st' f' o = getByte st f' o := fun f' o hno => by
    rw [getByte_fileWrite h, if_neg fun hin => hno ((mem_bytesOf ..).2 hin)]
  obtain ⟨bs, hbs, hle, rfl⟩ := fileWrite_eq_ok.1 h
  have hlt := (List.getElem?_eq_some_iff.1 hbs).1
  refine ⟨by simp, fun g hg => ?_, fun g bs0 hg => ?_, hfr⟩ <;> by_cases hgf : g = f
  · subst hgf; rw [hbs] at hg; cases hg
  · rwa [List.getElem?_set_ne (Ne.symm hgf)]
  · subst hgf
    rw [hbs] at hg; cases hg
    exact ⟨_, List.getElem?_set_self hlt, length_overwrite bs off d hle⟩
  · exact ⟨bs0, by rwa [List.getElem?_set_ne (Ne.symm hgf)], rfl⟩

def SecFits (st : Store) (s : Sec) : Prop :=
  (s.pad = true ∧ st[s.file]? = some FileStore.padding) ∨
  (s.pad = false ∧ ∃ bs, st[s.file]? = some (FileStore.data bs) ∧ s.off + s.len ≤ bs.length)

theorem fits_iff {st : Store} {p : List Sec} : fits st p = true ↔ ∀ s ∈ p, SecFits st s := by
  unfold fits SecFits
  rw [List.all_eq_true]
  refine forall_congr' fun s => imp_congr_right fun _ => ?_
  split <;> simp [*]

theorem SecFits.of_upd {X : List (Nat × Nat)} {st st' : Store} (h : Upd X st st') {s : Sec} : SecFits st s → SecFits st' s
  | .inl ⟨hp, hf⟩ => .inl ⟨hp, h.pad _ hf⟩
  | .inr ⟨hp, bs, hbs, hle⟩ => by
    obtain ⟨bs', hb', hl⟩ := h.data _ _ hbs
    exact .inr ⟨hp, bs', hb', hl ▸ hle⟩

theorem Upd.fits {X : List (Nat × Nat)} {st st' : Store} (h : Upd X st st') {p : List Sec} (hf : fits st p = true) :
    fits st' p = true :=
  fits_iff.2 fun s hs => (fits_iff.1 hf s hs).of_upd h

theorem fits_cons {st : Store} {s : Sec} {r : List Sec} (h : fits st (s :: r) = true) :
    SecFits st s ∧ fits st r = true :=
  (List.forall_mem_cons.1 (fits_iff.1 h)).imp_right fits_iff.2

theorem fileSlice_data {st : Store} {f off len : Nat} {bs : List Nat} (hbs : st[f]? = some (FileStore.data bs))
    (hle : off + len ≤ bs.length) : fileSlice st f off len = (bs.drop off).take len := by
  unfold fileSlice
  simp only [hbs]
  have : ((bs.drop off).take len).length = len := by simp; omega
  simp [this]

theorem length_fileSlice (st : Store) (f off len : Nat) : (fileSlice st f off len).length = len := by
  unfold fileSlice
  split
  · simp; omega
  · simp

theorem getElem?_fileSlice {st : Store} {f off len : Nat} {bs : List Nat} (hbs : st[f]? = some (FileStore.data bs))
    (hle : off + len ≤ bs.length) (k : Nat) (hk : k < len) :
    (fileSlice st f off len)[k]? = getByte st f (off + k) := by
  rw [fileSlice_data hbs hle]
  unfold getByte
  simp only [hbs]
  rw [List.getElem?_take_of_lt hk, List.getElem?_drop]

/-- Two slices agree when the underlying bytes agree. -/
theorem fileSlice_congr {st st' : Store} {f off len : Nat} {bs bs' : List Nat}
    (hbs : st[f]? = some (FileStore.data bs)) (hle : off + len ≤ bs.length)
    (hbs' : st'[f]? = some (FileStore.data bs')) (hle' : off + len ≤ bs'.length)
    (h : ∀ k, k < len → getByte st' f (off + k) = getByte st f (off + k)) :
    fileSlice st' f off len = fileSlice st f off len := by
  apply List.ext_getElem?
  intro k
  by_cases hk : k < len
  · rw [getElem?_fileSlice hbs' hle' k hk, getElem?_fileSlice hbs hle k hk, h k hk]
  · rw [List.getElem?_eq_none (by rw [length_fileSlice]; omega), List.getElem?_eq_none (by rw [length_fileSlice]; omega)]

def secBytes (st : Store) (s : Sec) : List Nat :=
  if s.pad then List.replicate s.len 0 else fileSlice st s.file s.off s.len

theorem pieceContent_cons (st : Store) (s : Sec) (r : List Sec) :
    pieceContent st (s :: r) = secBytes st s ++ pieceContent st r := rfl

theorem length_secBytes (st : Store) (s : Sec) : (secBytes st s).length = s.len := by
  unfold secBytes; split <;> simp [length_fileSlice]

theorem length_pieceContent (st : Store) (p : List Sec) : (pieceContent st p).length = secsLen p := by
  induction p with
  | nil => rfl
  | cons s r ih => simp [pieceContent_cons, length_secBytes, secsLen_cons, ih]

theorem dataStream_cons_pad {s : Sec} (r : List Sec) (h : s.pad = true) : dataStream (s :: r) = dataStream r := by
  simp [dataStream, h]

theorem dataStream_cons_data {s : Sec} (r : List Sec) (h : s.pad = false) :
    dataStream (s :: r) = bytesOf s.file s.off s.len ++ dataStream r := by
  simp [dataStream, h, secStream]

theorem Upd.secBytes_eq {X : List (Nat × Nat)} {st st' : Store} (h : Upd X st st') {s : Sec} (hs : SecFits st s)
    (hx : ∀ x ∈ bytesOf s.file s.off s.len, x ∉ X) : secBytes st' s = secBytes st s := by
  unfold secBytes
  split
  · rfl
  · obtain ⟨hp, _⟩ | ⟨_, bs, hbs, hle⟩ := hs
    · contradiction
    · obtain ⟨bs', hbs', hl⟩ := h.data _ _ hbs
      exact fileSlice_congr hbs hle hbs' (hl ▸ hle) fun k hk =>
        h.frame _ _ (hx _ ((mem_bytesOf ..).2 ⟨rfl, by omega, by omega⟩))

theorem secBytes_fileWrite {st st' : Store} {s : Sec} {d : List Nat} (h : fileWrite st s.file s.off d = .ok st')
    (hp : s.pad = false) (hd : d.length = s.len) : secBytes st' s = d := by
  obtain ⟨bs, hbs, hle, rfl⟩ := fileWrite_eq_ok.1 h
  have hlt := (List.getElem?_eq_some_iff.1 hbs).1
  have hl : (bs.take s.off).length = s.off := List.length_take_of_le (by omega)
  rw [secBytes, hp, if_neg (by simp), fileSlice_data (List.getElem?_set_self hlt)
    (by rw [length_overwrite bs _ d hle]; omega), ← hd, List.append_assoc, List.drop_left' hl, List.take_left' rfl]

theorem write_spec : ∀ (p : List Sec) (st : Store) (b : List Nat) (n : Nat),
    fits st p = true → (dataStream p).Nodup → secsLen p ≤ b.length →
    ∃ st', write st p b n = .ok st' (n + secsLen (p.filter fun s => !s.pad)) ∧ Upd (dataStream p) st st' ∧
      pieceContent st' p = zeroPadding p b
  | [], st, b, n, _, _, _ => ⟨st, rfl, Upd.refl _ st, rfl⟩
  | s :: r, st, b, n, hfit, hnd, hlen => by
    rw [secsLen_cons] at hlen
    obtain ⟨hs, hfitr⟩ := fits_cons hfit
    have hsl : s.len ≤ b.length := by omega
    have hlr : secsLen r ≤ (b.drop s.len).length := by rw [List.length_drop]; omega
    simp only [write, zeroPadding, pieceContent_cons, secBytes]
    rcases hs with ⟨hpad, _⟩ | hd
    · -- a padding section takes its share of the buffer and writes nothing
      rw [dataStream_cons_pad r hpad] at hnd ⊢
      simpa [hpad, hsl] using write_spec r st (b.drop s.len) n hfitr hnd hlr
    · have ⟨hpad, bs, hbs, hin⟩ := hd
      rw [dataStream_cons_data r hpad] at hnd ⊢
      obtain ⟨_, hndr, hdis⟩ := List.nodup_append.1 hnd
      have htake : (b.take s.len).length = s.len := List.length_take_of_le hsl
      obtain ⟨st1, hw1⟩ : ∃ st1, fileWrite st s.file s.off (b.take s.len) = .ok st1 :=
        ⟨_, fileWrite_eq_ok.2 ⟨bs, hbs, htake.symm ▸ hin, rfl⟩⟩
      have hu1 := upd_fileWrite hw1
      rw [htake] at hu1
      obtain ⟨st', hw, hu, hc⟩ := write_spec r st1 (b.drop s.len) (n + s.len) (hu1.fits hfitr) hndr hlr
      refine ⟨st', ?_, hu1.trans hu, ?_⟩
      · simp [hpad, hsl, hw1, hw, secsLen_cons, Nat.add_assoc]
      · -- the later sections do not touch what this one wrote
        rw [hc, ← secBytes, hu.secBytes_eq (.of_upd hu1 (.inr hd)) fun x hx hx' => hdis x hx x hx' rfl,
          secBytes_fileWrite hw1 hpad htake, hpad]
        rfl

theorem fileRead_eq {st : Store} {s : Sec} (h : SecFits st s) (a : Nat) :
    fileRead st s.file (s.off + a) (s.len - a) = (secBytes st s).drop a := by
  rcases h with ⟨hpad, hp⟩ | ⟨hpad, bs, hbs, hin⟩
  · simp [fileRead, secBytes, hp, hpad]
  · unfold secBytes
    simp only [hpad, Bool.false_eq_true, if_false]
    rw [fileSlice_data hbs hin]
    simp only [fileRead, hbs]
    rw [List.drop_take, List.drop_drop]

theorem fileRead_eq0 {st : Store} {s : Sec} (h : SecFits st s) :
    fileRead st s.file s.off s.len = secBytes st s := by
  simpa using fileRead_eq h 0

theorem moreSecs_take {st : Store} : ∀ (r : List Sec) (pos lim : Nat), (∀ t ∈ r, SecFits st t) →
    ((moreSecs r pos lim).flatMap fun t => fileRead st t.file t.off t.len).take (lim - pos) =
      (pieceContent st r).take (lim - pos)
  | [], _, _, _ => rfl
  | t :: q, pos, lim, h => by
    rw [moreSecs, List.flatMap_cons, fileRead_eq0 (h t (by simp)), pieceContent_cons, List.take_append,
      List.take_append, length_secBytes]
    congr 1
    split
    · rw [Nat.sub_eq_zero_of_le (by omega)]; rfl
    · rw [Nat.sub_sub]; exact moreSecs_take q _ lim fun x hx => h x (by simp [hx])

/-- `pos` is the length of the sections already skipped. -/
theorem skipTo_take {st : Store} : ∀ (p : List Sec) (pos off n : Nat), (∀ t ∈ p, SecFits st t) → pos ≤ off → 0 < n →
    off + n ≤ pos + secsLen p →
    ∃ s r pos', skipTo p pos off = some (s, r, pos') ∧
      (fileRead st s.file (s.off + (s.len - (pos' - off))) (s.len - (s.len - (pos' - off))) ++
        (moreSecs r pos' (off + n)).flatMap fun t => fileRead st t.file t.off t.len).take n =
      ((pieceContent st p).drop (off - pos)).take n
  | [], _, _, _, _, _, _, h => by simp [secsLen] at h; omega
  | t :: q, pos, off, n, hf, hpos, hn, hle => by
    rw [secsLen_cons] at hle
    rw [skipTo, pieceContent_cons, List.drop_append, length_secBytes]
    split
    · -- `off` lies in `t` (or at its end): the rest of `t`, then the following sections
      obtain ⟨a, rfl⟩ := Nat.exists_eq_add_of_le hpos
      have ha : a ≤ t.len := by omega
      refine ⟨_, _, _, rfl, ?_⟩
      rw [Nat.add_sub_add_left, Nat.sub_sub_self ha, fileRead_eq (hf t (by simp)), Nat.add_sub_cancel_left,
        Nat.sub_eq_zero_of_le ha, List.drop_zero, List.take_append, List.take_append, List.length_drop,
        length_secBytes, show n - (t.len - a) = pos + a + n - (pos + t.len) by omega,
        moreSecs_take q _ _ fun x hx => hf x (by simp [hx])]
    · obtain ⟨s, r, pos', hs, he⟩ :=
        skipTo_take q (pos + t.len) off n (fun x hx => hf x (by simp [hx])) (by omega) hn (by omega)
      refine ⟨s, r, pos', hs, ?_⟩
      rw [he, List.drop_eq_nil_of_le (as := secBytes st t) (by rw [length_secBytes]; omega), List.nil_append,
        Nat.sub_sub]

theorem readAt_spec (st : Store) (p : List Sec) (off n : Nat) (hfit : fits st p = true) (hn : 0 < n)
    (hle : off + n ≤ secsLen p) : readAt st p off n = .ok (((pieceContent st p).drop off).take n) := by
  obtain ⟨s, r, pos', hs, he⟩ := skipTo_take p 0 off n (fits_iff.1 hfit) (Nat.zero_le _) hn (by omega)
  rw [Nat.sub_zero] at he
  simp only [readAt, hs, he]
  rw [if_pos]
  simp only [List.length_take, List.length_drop, length_pieceContent]
  omega

/-! ### the executable oracle `writeOK` follows from the propositional facts -/

theorem writeOK_of {st st' : Store} {p : List Sec} {b : List Nat} {n : Nat}
    (hn : n = secsLen (p.filter fun s => !s.pad)) (hc : pieceContent st' p = zeroPadding p b)
    (hu : Upd (dataStream p) st st') :
    writeOK st p b (.ok st' n) = true := by
  unfold writeOK
  simp only [Bool.and_eq_true, beq_iff_eq, List.all_eq_true, List.mem_range]
  refine ⟨⟨⟨hn, hc⟩, hu.len⟩, ?_⟩
  intro f hf
  cases hst : st[f]? with
  | none => rw [List.getElem?_eq_none_iff] at hst; omega
  | some e =>
    cases e with
    | padding => simp only [hu.pad f hst]
    | data bs =>
      obtain ⟨bs', hbs', hl⟩ := hu.data f bs hst
      simp only [hbs', Bool.and_eq_true, beq_iff_eq, List.all_eq_true, Bool.or_eq_true]
      refine ⟨hl, ?_⟩
      rintro ⟨⟨x, y⟩, o⟩ hmem
      rw [List.mem_zipIdx_iff_getElem?] at hmem
      simp only at hmem
      rw [List.getElem?_zip_eq_some] at hmem
      simp only at hmem
      by_cases hin : (f, o) ∈ dataStream p
      · right; exact List.contains_iff_mem.mpr hin
      · left
        have := hu.frame f o hin
        simp only [getByte, hst, hbs', hmem.1, hmem.2] at this
        cases this; rfl

/-! ### the pieces built by `newPieces` meet the hypotheses of `read_write_roundtrip` -/

theorem nodup_bytesOf (i off len : Nat) : (bytesOf i off len).Nodup :=
  List.nodup_range.map _ fun a b hab e => hab (by injection e with _ e; omega)

theorem le_of_mem_fileStreamFrom : ∀ (fs : List FileEnt) (i : Nat) (x : Nat × Nat), x ∈ fileStreamFrom i fs → i ≤ x.1
  | [], _, _, h => by simp [fileStreamFrom] at h
  | f :: r, i, (a, b), h => by
    simp only [fileStreamFrom, List.mem_append] at h
    rcases h with h | h
    · have := (mem_bytesOf _ _ _ _ _).mp h; simp only; omega
    · have := le_of_mem_fileStreamFrom r (i + 1) _ h; simp only at this ⊢; omega

theorem nodup_fileStreamFrom : ∀ (fs : List FileEnt) (i : Nat), (fileStreamFrom i fs).Nodup
  | [], _ => by simp [fileStreamFrom]
  | f :: r, i => by
    simp only [fileStreamFrom]
    rw [List.nodup_append]
    refine ⟨nodup_bytesOf _ _ _, nodup_fileStreamFrom r (i + 1), ?_⟩
    intro a ha b hb hab
    subst hab
    obtain ⟨x, y⟩ := a
    have h1 := (mem_bytesOf _ _ _ _ _).mp ha
    have h2 := le_of_mem_fileStreamFrom r (i + 1) _ hb
    simp only at h2
    omega

theorem flatMap_sublist {α β} (f : α → List β) {l₁ l₂ : List α} (h : l₁.Sublist l₂) :
    (l₁.flatMap f).Sublist (l₂.flatMap f) := by
  induction h with
  | slnil => exact .slnil
  | cons a _ ih => exact ih.trans (List.sublist_append_right _ _)
  | cons_cons a _ ih => exact List.Sublist.append (.refl _) ih

/-- In a tiling every byte position occurs once, so the data sections of each piece are pairwise
disjoint (and so are different pieces). -/
theorem nodup_of_tiles {files : List FileEnt} {pl n L : Nat} {ps : List Piece} (h : TilesFiles files pl n L ps = true) :
    (secStream (allSecs ps)).Nodup ∧ ∀ p ∈ ps, (dataStream p.secs).Nodup := by
  have hnd : (secStream (allSecs ps)).Nodup := by
    rw [(tilesFiles_iff.1 h).2.1]; exact nodup_fileStreamFrom files 0
  -- the data sections of a piece are a sublist of all sections
  refine ⟨hnd, fun p hp => hnd.sublist (flatMap_sublist _ (List.filter_sublist.trans ?_))⟩
  rw [allSecs, List.flatMap_def]
  exact List.sublist_flatten_of_mem (List.mem_map_of_mem hp)

theorem fits_of_storeMatches {files : List FileEnt} {st : Store} (hm : storeMatches files st = true)
    (secs : List Sec) (hs : ∀ s ∈ secs, secMetaOK files s = true) : fits st secs = true := by
  unfold storeMatches at hm
  rw [Bool.and_eq_true, beq_iff_eq, List.all_eq_true] at hm
  refine fits_iff.2 fun s hsm => ?_
  obtain ⟨f, hf, hpad, _, hle⟩ := secMetaOK_iff.1 (hs s hsm)
  have hlt : s.file < st.length := hm.1 ▸ (List.getElem?_eq_some_iff.1 hf).1
  have he : st[s.file]? = some st[s.file] := List.getElem?_eq_getElem hlt
  have hz : (files.zip st)[s.file]? = some (f, st[s.file]) := List.getElem?_zip_eq_some.mpr ⟨hf, he⟩
  have := hm.2 _ (List.mem_of_getElem? hz)
  simp only at this
  unfold SecFits
  rw [he, hpad]
  cases hst : st[s.file] with
  | padding => simpa [hst] using this
  | data bs =>
    simp only [hst, Bool.and_eq_true, Bool.not_eq_true', beq_iff_eq] at this
    simp [this.1]; omega

end Rain.Geometry
