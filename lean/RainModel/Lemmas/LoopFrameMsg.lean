import RainModel.Lemmas.LoopFrame
/-!
What the peer-message handlers write.  For the larger handlers a structure `Fr_x s s'` lists, field by field, what
`x` leaves alone; `x_frame` packs the projections of `x_writes` into it; some `@[simp]` lemmas `x_f` are read off
`x_frame`, the rest off `x_writes`.  A block message has its case principle here, `handlePieceMessage_ind`, the cases
stated as `Writes` facts; what it writes is an instance.
-/
namespace Rain.Loop
open Fld

@[frame] theorem updateInterested_writes (m : M) (k : Nat) : Writes [peers] m.1 (updateInterested m k).1 :=
  .intro (by unfold updateInterested; dsimp only; (repeat' split) <;> frame)
@[simp] theorem updateInterested_status (m : M) (k : Nat) : (updateInterested m k).1.status = m.1.status := (updateInterested_writes m k).status
@[simp] theorem updateInterested_n (m : M) (k : Nat) : (updateInterested m k).1.n = m.1.n := (updateInterested_writes m k).n
@[simp] theorem updateInterested_diskOKi (m : M) (k : Nat) (i : Nat) : (updateInterested m k).1.diskOKi i = m.1.diskOKi i := (updateInterested_writes m k).diskOKi i
@[simp] theorem updateInterested_diskOK (m : M) (k : Nat) : (updateInterested m k).1.diskOK = m.1.diskOK := (updateInterested_writes m k).diskOK
@[simp] theorem updateInterested_findDl (m : M) (k : Nat) (k' : Nat) : (updateInterested m k).1.findDl k' = m.1.findDl k' := (updateInterested_writes m k).findDl k'

@[frame] theorem haveOne_writes (m : M) (k i : Nat) : Writes [peers] m.1 (haveOne m k i).1 :=
  .intro (by unfold haveOne; frame)
@[simp] theorem haveOne_wflag (m : M) (k i : Nat) : (haveOne m k i).1.wflag = m.1.wflag := (haveOne_writes m k i).wflag
@[simp] theorem haveOne_mayStartI (m : M) (k i : Nat) : (haveOne m k i).1.mayStartI = m.1.mayStartI := (haveOne_writes m k i).mayStartI
@[simp] theorem haveOne_unchoked (m : M) (k i : Nat) : (haveOne m k i).1.unchoked = m.1.unchoked := (haveOne_writes m k i).unchoked
@[simp] theorem haveOne_optimistic (m : M) (k i : Nat) : (haveOne m k i).1.optimistic = m.1.optimistic := (haveOne_writes m k i).optimistic
@[simp] theorem haveOne_mayStart (m : M) (k i : Nat) : (haveOne m k i).1.mayStart = m.1.mayStart := (haveOne_writes m k i).mayStart
@[simp] theorem haveOne_closedDl (m : M) (k i : Nat) : (haveOne m k i).1.closedDl = m.1.closedDl := (haveOne_writes m k i).closedDl
@[simp] theorem haveOne_status (m : M) (k i : Nat) : (haveOne m k i).1.status = m.1.status := (haveOne_writes m k i).status
@[simp] theorem haveOne_n (m : M) (k i : Nat) : (haveOne m k i).1.n = m.1.n := (haveOne_writes m k i).n
@[simp] theorem haveOne_diskOKi (m : M) (k i : Nat) (i : Nat) : (haveOne m k i).1.diskOKi i = m.1.diskOKi i := (haveOne_writes m k i).diskOKi i
@[simp] theorem haveOne_diskOK (m : M) (k i : Nat) : (haveOne m k i).1.diskOK = m.1.diskOK := (haveOne_writes m k i).diskOK
@[simp] theorem haveOne_findDl (m : M) (k i : Nat) (k' : Nat) : (haveOne m k i).1.findDl k' = m.1.findDl k' := (haveOne_writes m k i).findDl k'

/-- The peer is closed or the block recorded in its download (`hw`), or, with the last block of the piece, a job goes
to the writer (`hj`). -/
theorem handlePieceMessage_ind (P : M → Prop) (m : M) (k i b l : Nat) (g : Bool)
    (hw : ∀ m' : M, Writes [.peers, .dls, .idls, .mayStartI, .unchoked, .optimistic, .mayStart, .closedDl] m.1 m'.1 → P m')
    (hj : ∀ (m' : M) (w : WriteJob), Writes [.writing, .wflag, .dls, .panicked, .mayStart, .closedDl] m.1 m'.1 →
      m'.1.writing = some w → w.written = false → w.gen = m'.1.gen → P m') :
    P (handlePieceMessage m k i b l g) := by
  have h : P m := hw m (.intro rfl)
  have hc : P (closePeerM m k) := hw _ (closePeer_writes m.1 k)
  unfold handlePieceMessage
  dsimp only
  refine ite_ind (fun _ => hc) fun _ => ite_ind (fun _ => hc) fun _ => ?_
  cases m.1.findDl k with
  | none => exact h
  | some d =>
    dsimp only
    refine ite_ind (fun _ => h) fun _ => ite_ind (fun _ => hc) fun _ => ite_ind (fun _ => h) fun _ =>
      ite_ind (fun _ => hw _ (.intro rfl)) fun _ => ?_
    exact hj _ _ (.intro (by frame)) rfl rfl rfl

structure Fr_handlePieceMessage (s s' : St) : Prop where
  cfg : s'.cfg = s.cfg
  info : s'.info = s.info
  infoAtAdd : s'.infoAtAdd = s.infoAtAdd
  errC : s'.errC = s.errC
  stopAnn : s'.stopAnn = s.stopAnn
  allocator : s'.allocator = s.allocator
  verifier : s'.verifier = s.verifier
  completed : s'.completed = s.completed
  completeCClosed : s'.completeCClosed = s.completeCClosed
  doVerify : s'.doVerify = s.doVerify
  lastErr : s'.lastErr = s.lastErr
  loaded : s'.loaded = s.loaded
  gen : s'.gen = s.gen
  acceptor : s'.acceptor = s.acceptor
  openFiles : s'.openFiles = s.openFiles
  leaked : s'.leaked = s.leaked
  bf : s'.bf = s.bf
  done : s'.done = s.done
  fileExists : s'.fileExists = s.fileExists
  known : s'.known = s.known
  bad : s'.bad = s.bad
  isize : s'.isize = s.isize
  maxMeta : s'.maxMeta = s.maxMeta
  parMeta : s'.parMeta = s.parMeta
  metaDone : s'.metaDone = s.metaDone
  nUnchoke : s'.nUnchoke = s.nUnchoke
  nOptimistic : s'.nOptimistic = s.nOptimistic
  stopHang : s'.stopHang = s.stopHang
  dials : s'.dials = s.dials
  banned : s'.banned = s.banned
  gateOpen : s'.gateOpen = s.gateOpen
  gateWrite : s'.gateWrite = s.gateWrite
  gateRead : s'.gateRead = s.gateRead
  failWrite : s'.failWrite = s.failWrite
  failOpen : s'.failOpen = s.failOpen
  failAt : s'.failAt = s.failAt
  gateWriteDone : s'.gateWriteDone = s.gateWriteDone
  sto : s'.sto = s.sto
  persisted : s'.persisted = s.persisted
  tainted : s'.tainted = s.tainted
@[frame] theorem handlePieceMessage_writes (m : M) (k i b l : Nat) (g : Bool) :
    Writes [writing, wflag, peers, dls, idls, mayStartI, unchoked, optimistic, panicked, mayStart, closedDl]
    m.1 (handlePieceMessage m k i b l g).1 :=
  handlePieceMessage_ind (fun r => Writes _ m.1 r.1) m k i b l g (fun _ h => h.mono) fun _ _ h _ _ _ => h.mono
theorem handlePieceMessage_frame (m : M) (k i b l : Nat) (g : Bool) : Fr_handlePieceMessage m.1 (handlePieceMessage m k i b l g).1 :=
  have h := handlePieceMessage_writes m k i b l g
  ⟨h.cfg, h.info, h.infoAtAdd, h.errC, h.stopAnn, h.allocator, h.verifier, h.completed, h.completeCClosed,
   h.doVerify, h.lastErr, h.loaded, h.gen, h.acceptor, h.openFiles, h.leaked, h.bf, h.done, h.fileExists,
   h.known, h.bad, h.isize, h.maxMeta, h.parMeta, h.metaDone, h.nUnchoke, h.nOptimistic, h.stopHang, h.dials,
   h.banned, h.gateOpen, h.gateWrite, h.gateRead, h.failWrite, h.failOpen, h.failAt, h.gateWriteDone, h.sto,
   h.persisted, h.tainted⟩
@[simp] theorem handlePieceMessage_doVerify (m : M) (k i b l : Nat) (g : Bool) : (handlePieceMessage m k i b l g).1.doVerify = m.1.doVerify := (handlePieceMessage_frame m k i b l g).doVerify
@[simp] theorem handlePieceMessage_status (m : M) (k i b l : Nat) (g : Bool) : (handlePieceMessage m k i b l g).1.status = m.1.status := (handlePieceMessage_writes m k i b l g).status
@[simp] theorem handlePieceMessage_n (m : M) (k i b l : Nat) (g : Bool) : (handlePieceMessage m k i b l g).1.n = m.1.n := (handlePieceMessage_writes m k i b l g).n
@[simp] theorem handlePieceMessage_diskOKi (m : M) (k i b l : Nat) (g : Bool) (i : Nat) : (handlePieceMessage m k i b l g).1.diskOKi i = m.1.diskOKi i := (handlePieceMessage_writes m k i b l g).diskOKi i
@[simp] theorem handlePieceMessage_diskOK (m : M) (k i b l : Nat) (g : Bool) : (handlePieceMessage m k i b l g).1.diskOK = m.1.diskOK := (handlePieceMessage_writes m k i b l g).diskOK

structure Fr_handlePeerMessage (s s' : St) : Prop where
  cfg : s'.cfg = s.cfg
  info : s'.info = s.info
  infoAtAdd : s'.infoAtAdd = s.infoAtAdd
  errC : s'.errC = s.errC
  stopAnn : s'.stopAnn = s.stopAnn
  allocator : s'.allocator = s.allocator
  verifier : s'.verifier = s.verifier
  completed : s'.completed = s.completed
  completeCClosed : s'.completeCClosed = s.completeCClosed
  doVerify : s'.doVerify = s.doVerify
  lastErr : s'.lastErr = s.lastErr
  loaded : s'.loaded = s.loaded
  gen : s'.gen = s.gen
  acceptor : s'.acceptor = s.acceptor
  openFiles : s'.openFiles = s.openFiles
  leaked : s'.leaked = s.leaked
  bf : s'.bf = s.bf
  done : s'.done = s.done
  fileExists : s'.fileExists = s.fileExists
  known : s'.known = s.known
  bad : s'.bad = s.bad
  isize : s'.isize = s.isize
  maxMeta : s'.maxMeta = s.maxMeta
  parMeta : s'.parMeta = s.parMeta
  metaDone : s'.metaDone = s.metaDone
  nUnchoke : s'.nUnchoke = s.nUnchoke
  nOptimistic : s'.nOptimistic = s.nOptimistic
  stopHang : s'.stopHang = s.stopHang
  dials : s'.dials = s.dials
  banned : s'.banned = s.banned
  gateOpen : s'.gateOpen = s.gateOpen
  gateWrite : s'.gateWrite = s.gateWrite
  gateRead : s'.gateRead = s.gateRead
  failWrite : s'.failWrite = s.failWrite
  failOpen : s'.failOpen = s.failOpen
  failAt : s'.failAt = s.failAt
  gateWriteDone : s'.gateWriteDone = s.gateWriteDone
  sto : s'.sto = s.sto
  persisted : s'.persisted = s.persisted
  tainted : s'.tainted = s.tainted
theorem handlePeerMessage_writes_of_ne_piece (m : M) (k : Nat) (msg : Msg) (hnp : ∀ i b l g, msg ≠ .piece i b l g) :
    Writes [peers, dls, idls, mayStartI, unchoked, optimistic, mayStart, closedDl] m.1
      (handlePeerMessage m k msg).1 :=
  .intro (by
    unfold handlePeerMessage
    cases msg with
    | piece i b l g => exact absurd rfl (hnp i b l g)
    | choke | unchoke | reject => dsimp only; cases m.1.findDl k <;> frame
    | request | cancel => dsimp only; cases m.1.findPeer k <;> frame
    | interested => dsimp only; split <;> frame
    | _ => frame)
@[frame] theorem handlePeerMessage_writes (m : M) (k : Nat) (msg : Msg) :
    Writes [writing, wflag, peers, dls, idls, mayStartI, unchoked, optimistic, panicked, mayStart, closedDl]
    m.1 (handlePeerMessage m k msg).1 := by
  by_cases h : ∃ i b l g, msg = .piece i b l g
  · obtain ⟨i, b, l, g, rfl⟩ := h
    exact handlePieceMessage_writes m k i b l g
  · exact (handlePeerMessage_writes_of_ne_piece m k msg fun i b l g he => h ⟨i, b, l, g, he⟩).mono
theorem handlePeerMessage_frame (m : M) (k : Nat) (msg : Msg) : Fr_handlePeerMessage m.1 (handlePeerMessage m k msg).1 :=
  have h := handlePeerMessage_writes m k msg
  ⟨h.cfg, h.info, h.infoAtAdd, h.errC, h.stopAnn, h.allocator, h.verifier, h.completed, h.completeCClosed,
   h.doVerify, h.lastErr, h.loaded, h.gen, h.acceptor, h.openFiles, h.leaked, h.bf, h.done, h.fileExists,
   h.known, h.bad, h.isize, h.maxMeta, h.parMeta, h.metaDone, h.nUnchoke, h.nOptimistic, h.stopHang, h.dials,
   h.banned, h.gateOpen, h.gateWrite, h.gateRead, h.failWrite, h.failOpen, h.failAt, h.gateWriteDone, h.sto,
   h.persisted, h.tainted⟩
@[simp] theorem handlePeerMessage_status (m : M) (k : Nat) (msg : Msg) : (handlePeerMessage m k msg).1.status = m.1.status := (handlePeerMessage_writes m k msg).status
@[simp] theorem handlePeerMessage_n (m : M) (k : Nat) (msg : Msg) : (handlePeerMessage m k msg).1.n = m.1.n := (handlePeerMessage_writes m k msg).n
@[simp] theorem handlePeerMessage_diskOKi (m : M) (k : Nat) (msg : Msg) (i : Nat) : (handlePeerMessage m k msg).1.diskOKi i = m.1.diskOKi i := (handlePeerMessage_writes m k msg).diskOKi i
@[simp] theorem handlePeerMessage_diskOK (m : M) (k : Nat) (msg : Msg) : (handlePeerMessage m k msg).1.diskOK = m.1.diskOK := (handlePeerMessage_writes m k msg).diskOK

@[frame] theorem processQueued_writes (m : M) :
    Writes [writing, wflag, peers, dls, idls, mayStartI, unchoked, optimistic, panicked, mayStart, closedDl]
    m.1 (processQueued m).1 :=
  .intro (by
    unfold processQueued
    refine foldl_keep (fun m : M => m.1.mask _) _ (fun m k => ?_) _ _
    split <;> frame)
@[simp] theorem processQueued_acceptor (m : M) : (processQueued m).1.acceptor = m.1.acceptor := (processQueued_writes m).acceptor
@[simp] theorem processQueued_status (m : M) : (processQueued m).1.status = m.1.status := (processQueued_writes m).status
@[simp] theorem processQueued_n (m : M) : (processQueued m).1.n = m.1.n := (processQueued_writes m).n
@[simp] theorem processQueued_diskOKi (m : M) (i : Nat) : (processQueued m).1.diskOKi i = m.1.diskOKi i := (processQueued_writes m).diskOKi i
@[simp] theorem processQueued_diskOK (m : M) : (processQueued m).1.diskOK = m.1.diskOK := (processQueued_writes m).diskOK

end Rain.Loop
