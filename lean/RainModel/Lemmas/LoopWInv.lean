import RainModel.Lemmas.LoopNoPanic
/-!
C04, no panic (`no_panic_step`, `no_panic_full_partial` in `Props/C04`), the inductive part: invariant `WInv` tying
`writing`, `wflag`, `dls`, `done`, `bf`, `gen`, `idls` and the message queues together, and the frame relation `WFrame`
(what the handlers that do not touch the write machinery are allowed to change).
A handler that does touch it is frame steps around one move: a job starts (`WInv.setJob`) or is marked written
(`WInv.setWritten`), ends (`pwdReset_winv`) and is recorded (`pwdOthers_winv`); a verification ends (`WInv.verified`);
the pieces are dropped or reloaded, which leaves no current job (`WInv.unloaded`, `WInv.of_noJob`).
-/
namespace Rain.Loop

/-- A piece that has blocks has a non-padding section (what `calcBlocks` guarantees: blocks cover exactly the
non-padding bytes).  Converse of `CfgWF`.  No theorem about the loop assumes it; it is proved for the driver's
configurations (`parseNew_blocksHaveData`). -/
def Cfg.blocksHaveData (c : Cfg) : Bool :=
  (List.range c.n).all fun i =>
    (c.blocks.getD i []).isEmpty || (c.sections i).any fun sc => !(c.fpads.getD sc.file false)

theorem Cfg.blocksHaveData_spec (c : Cfg) (h : c.blocksHaveData = true) (i : Nat) (hi : i < c.n)
    (hb : (c.blocks.getD i []).isEmpty = false) :
    (c.sections i).filter (fun sc => !(c.fpads.getD sc.file false)) ≠ [] := by
  unfold Cfg.blocksHaveData at h
  rw [List.all_eq_true] at h
  have := h i (List.mem_range.2 hi)
  rw [hb, Bool.false_or, List.any_eq_true] at this
  obtain ⟨sc, hsc, hp⟩ := this
  intro hnil
  have : sc ∈ (c.sections i).filter (fun sc => !(c.fpads.getD sc.file false)) := List.mem_filter.2 ⟨hsc, hp⟩
  rw [hnil] at this
  cases this

/-- The write/download invariant of the event loop. -/
structure WInv (s : St) : Prop where
  /-- only messages that need the metadata are queued -/
  q : QueueOK s
  /-- a set `Writing` flag belongs to the write in flight, which is of the current generation -/
  wf : s.loaded = true → ∀ i, s.wflag.getD i false = true → ∃ w, s.writing = some w ∧ w.piece = i ∧ w.gen = s.gen
  /-- a job never comes from the future -/
  wg : ∀ w, s.writing = some w → w.gen ≤ s.gen
  /-- a current job on loaded pieces: no verifier, and its piece is not yet held -/
  wc : ∀ w, s.writing = some w → w.gen = s.gen → s.loaded = true →
    s.verifier = false ∧ bitOf s.bf w.piece = false
  /-- the `Writing` flags of loaded pieces: one per piece -/
  wl : s.loaded = true → s.wflag.length = s.n
  /-- a current job on loaded pieces — in particular one whose storage calls have returned and whose result is
  held (`written`) — has its piece's `Writing` flag set, and the piece is not done -/
  wd : ∀ w, s.writing = some w → w.gen = s.gen → s.loaded = true →
    s.wflag.getD w.piece false = true ∧ s.done.getD w.piece false = false
  /-- bits ⊆ `done` while loaded and not verifying -/
  bd : s.loaded = true → s.verifier = false → ∀ b, s.bf = some b →
    b.length ≤ s.done.length ∧ ∀ i, b.getD i false = true → s.done.getD i false = true
  /-- nobody downloads a piece that is done -/
  dd : ∀ d ∈ s.dls, s.done.getD d.piece false = false
  /-- piece downloads exist only while downloading -/
  dl : s.dls ≠ [] → s.loaded = true ∧ s.allocator = false ∧ s.verifier = false ∧ s.completed = false
  /-- the allocator runs before the pieces are loaded -/
  al : s.allocator = true → s.loaded = false
  /-- metadata downloads exist only while the metadata is unknown -/
  id : s.info = true → s.idls = []

/-- What a handler that stays away from the write machinery may change: downloads may be closed or
modified in place, metadata downloads may not appear from nothing, queues only grow by messages that
need the metadata, `completed` only becomes true with all downloads closed. -/
structure WFrame (s s' : St) : Prop where
  cfg : s'.cfg = s.cfg
  wflag : s'.wflag = s.wflag
  writing : s'.writing = s.writing
  gen : s'.gen = s.gen
  loaded : s'.loaded = s.loaded
  verifier : s'.verifier = s.verifier
  allocator : s'.allocator = s.allocator
  bf : s'.bf = s.bf
  done : s'.done = s.done
  info : s'.info = s.info
  completed : s'.completed = true → s.completed = true ∨ s'.dls = []
  dls : ∀ d' ∈ s'.dls, ∃ d ∈ s.dls, d.piece = d'.piece
  idls : s.idls = [] → s'.idls = []
  q : ∀ p' ∈ s'.peers, ∀ msg ∈ p'.queued, needsInfo msg = true ∨ ∃ p ∈ s.peers, msg ∈ p.queued

theorem WFrame.refl (s : St) : WFrame s s :=
  ⟨rfl, rfl, rfl, rfl, rfl, rfl, rfl, rfl, rfl, rfl, fun h => Or.inl h, fun d hd => ⟨d, hd, rfl⟩, fun h => h,
    fun p hp _ hm => Or.inr ⟨p, hp, hm⟩⟩

theorem WFrame.dls_nil {s s' : St} (f : WFrame s s') (h : s.dls = []) : s'.dls = [] := by
  cases hd : s'.dls with
  | nil => rfl
  | cons d l =>
    obtain ⟨d0, hd0, _⟩ := f.dls d (by rw [hd]; exact List.mem_cons_self ..)
    rw [h] at hd0; cases hd0

theorem WFrame.trans {a b c : St} (h1 : WFrame a b) (h2 : WFrame b c) : WFrame a c := by
  refine ⟨h2.cfg.trans h1.cfg, h2.wflag.trans h1.wflag, h2.writing.trans h1.writing, h2.gen.trans h1.gen,
    h2.loaded.trans h1.loaded, h2.verifier.trans h1.verifier, h2.allocator.trans h1.allocator, h2.bf.trans h1.bf,
    h2.done.trans h1.done, h2.info.trans h1.info, ?_, ?_, fun h => h2.idls (h1.idls h), ?_⟩
  · intro hc
    rcases h2.completed hc with hb | hd
    · rcases h1.completed hb with ha | hd
      · exact Or.inl ha
      · exact Or.inr (h2.dls_nil hd)
    · exact Or.inr hd
  · intro d'' hd''
    obtain ⟨d', hd', e'⟩ := h2.dls d'' hd''
    obtain ⟨d, hd, e⟩ := h1.dls d' hd'
    exact ⟨d, hd, e.trans e'⟩
  · intro p'' hp'' msg hm
    rcases h2.q p'' hp'' msg hm with h | ⟨p', hp', hm'⟩
    · exact Or.inl h
    · exact h1.q p' hp' msg hm'

theorem WFrame.of_lists {s s' : St} (h1 : s'.cfg = s.cfg) (h2 : s'.wflag = s.wflag) (h3 : s'.writing = s.writing)
    (h4 : s'.gen = s.gen) (h5 : s'.loaded = s.loaded) (h6 : s'.verifier = s.verifier)
    (h7 : s'.allocator = s.allocator) (h8 : s'.bf = s.bf) (h9 : s'.done = s.done) (h10 : s'.info = s.info)
    (h11 : s'.completed = s.completed)
    (h12 : ∀ d' ∈ s'.dls, ∃ d ∈ s.dls, d.piece = d'.piece) (h13 : s.idls = [] → s'.idls = [])
    (h14 : ∀ p' ∈ s'.peers, ∀ msg ∈ p'.queued, needsInfo msg = true ∨ ∃ p ∈ s.peers, msg ∈ p.queued) :
    WFrame s s' :=
  ⟨h1, h2, h3, h4, h5, h6, h7, h8, h9, h10, fun h => Or.inl (h11 ▸ h), h12, h13, h14⟩

theorem WFrame.of_eq {s s' : St} (h1 : s'.cfg = s.cfg) (h2 : s'.wflag = s.wflag) (h3 : s'.writing = s.writing)
    (h4 : s'.gen = s.gen) (h5 : s'.loaded = s.loaded) (h6 : s'.verifier = s.verifier)
    (h7 : s'.allocator = s.allocator) (h8 : s'.bf = s.bf) (h9 : s'.done = s.done) (h10 : s'.info = s.info)
    (h11 : s'.completed = s.completed) (h12 : s'.dls = s.dls) (h13 : s'.idls = s.idls) (h14 : s'.peers = s.peers) :
    WFrame s s' :=
  .of_lists h1 h2 h3 h4 h5 h6 h7 h8 h9 h10 h11 (fun d hd => ⟨d, h12 ▸ hd, rfl⟩) (fun h => h13.trans h)
    (fun p hp _ hm => Or.inr ⟨p, h14 ▸ hp, hm⟩)

/-- Closes `WFrame s s'` when `s'` is `s` with fields updated that `WInv` does not read.  (`with_reducible`: each
`rfl` compares a field of a record update of `s` with that field of `s`; left to itself the unifier first tries to
identify the two states, and unfolds the handler call that `s` is.) -/
macro "wframe_eq" : tactic =>
  `(tactic| with_reducible exact WFrame.of_eq rfl rfl rfl rfl rfl rfl rfl rfl rfl rfl rfl rfl rfl rfl)

theorem WFrame.of_writes {w : List Fld} {s s' : St} (h : Writes w s s')
    (h12 : ∀ d' ∈ s'.dls, ∃ d ∈ s.dls, d.piece = d'.piece) (h13 : s.idls = [] → s'.idls = [])
    (h14 : ∀ p' ∈ s'.peers, ∀ msg ∈ p'.queued, needsInfo msg = true ∨ ∃ p ∈ s.peers, msg ∈ p.queued)
    (hw : ∀ x ∈ [Fld.cfg, .wflag, .writing, .gen, .loaded, .verifier, .allocator, .bf, .done, .info, .completed],
      x ∉ w := by decide) : WFrame s s' := by
  simp only [List.forall_mem_cons, List.not_mem_nil, false_imp_iff, implies_true, and_true] at hw
  obtain ⟨w1, w2, w3, w4, w5, w6, w7, w8, w9, w10, w11⟩ := hw
  exact .of_lists (h.cfg w1) (h.wflag w2) (h.writing w3) (h.gen w4) (h.loaded w5) (h.verifier w6) (h.allocator w7)
    (h.bf w8) (h.done w9) (h.info w10) (h.completed w11) h12 h13 h14

theorem WFrame.of_writes_eq {w : List Fld} {s s' : St} (h : Writes w s s')
    (hw : ∀ x ∈ [Fld.cfg, .wflag, .writing, .gen, .loaded, .verifier, .allocator, .bf, .done, .info, .completed],
      x ∉ w := by decide)
    (hd : Fld.dls ∉ w := by decide) (hi : Fld.idls ∉ w := by decide) (hp : Fld.peers ∉ w := by decide) :
    WFrame s s' :=
  .of_writes h (fun d hd' => ⟨d, h.dls hd ▸ hd', rfl⟩) (fun h0 => (h.idls hi).trans h0)
    (fun p hp' _ hm => Or.inr ⟨p, h.peers hp ▸ hp', hm⟩) hw

theorem QueueOK.frame {s s' : St} (h : QueueOK s) (f : WFrame s s') : QueueOK s' :=
  fun p' hp' msg hm => (f.q p' hp' msg hm).elim id fun ⟨p, hp, hm'⟩ => h p hp msg hm'

theorem WInv.frame {s s' : St} (h : WInv s) (f : WFrame s s') : WInv s' := by
  refine ⟨h.q.frame f, ?_, ?_, ?_, ?_, ?_, ?_, ?_, ?_, ?_, ?_⟩
  · rw [f.loaded, f.wflag, f.writing, f.gen]; exact h.wf
  · rw [f.writing, f.gen]; exact h.wg
  · rw [f.writing, f.gen, f.loaded, f.verifier, f.bf]; exact h.wc
  · rw [f.loaded, f.wflag]; unfold St.n; rw [f.cfg]; exact h.wl
  · rw [f.writing, f.gen, f.loaded, f.wflag, f.done]; exact h.wd
  · rw [f.loaded, f.verifier, f.bf, f.done]; exact h.bd
  · intro d' hd'
    obtain ⟨d, hd, e⟩ := f.dls d' hd'
    rw [f.done, ← e]; exact h.dd d hd
  · intro hne
    have hne0 : s.dls ≠ [] := fun h0 => hne (f.dls_nil h0)
    obtain ⟨a, b, c, d⟩ := h.dl hne0
    refine ⟨f.loaded ▸ a, f.allocator ▸ b, f.verifier ▸ c, ?_⟩
    cases hc : s'.completed
    · rfl
    · rcases f.completed hc with h1 | h1
      · rw [d] at h1; cases h1
      · exact absurd h1 hne
  · rw [f.allocator, f.loaded]; exact h.al
  · rw [f.info]; intro hi; exact f.idls (h.id hi)

theorem WInv.of_writes {w : List Fld} {s s' : St} (h : WInv s) (W : Writes w s s') (hq : QueueOK s')
    (hdd : ∀ d ∈ s'.dls, s.done.getD d.piece false = false)
    (hdl : s'.dls ≠ [] → s.loaded = true ∧ s.allocator = false ∧ s.verifier = false ∧ s.completed = false)
    (hid : s.info = true → s'.idls = [])
    (hw : ∀ x ∈ [Fld.cfg, .wflag, .writing, .gen, .loaded, .verifier, .allocator, .bf, .done, .info, .completed],
      x ∉ w := by decide) : WInv s' := by
  simp only [List.forall_mem_cons, List.not_mem_nil, false_imp_iff, implies_true, and_true] at hw
  obtain ⟨w1, w2, w3, w4, w5, w6, w7, w8, w9, w10, w11⟩ := hw
  refine ⟨hq, ?_, ?_, ?_, ?_, ?_, ?_, ?_, ?_, ?_, ?_⟩
  · rw [W.loaded w5, W.wflag w2, W.writing w3, W.gen w4]; exact h.wf
  · rw [W.writing w3, W.gen w4]; exact h.wg
  · rw [W.writing w3, W.gen w4, W.loaded w5, W.verifier w6, W.bf w8]; exact h.wc
  · rw [W.loaded w5, W.wflag w2, W.n w1]; exact h.wl
  · rw [W.writing w3, W.gen w4, W.loaded w5, W.wflag w2, W.done w9]; exact h.wd
  · rw [W.loaded w5, W.verifier w6, W.bf w8, W.done w9]; exact h.bd
  · rw [W.done w9]; exact hdd
  · rw [W.loaded w5, W.allocator w7, W.verifier w6, W.completed w11]; exact hdl
  · rw [W.allocator w7, W.loaded w5]; exact h.al
  · rw [W.info w10]; exact hid

theorem WInv.no_dls {s : St} (h : WInv s)
    (hn : ¬(s.loaded = true ∧ s.allocator = false ∧ s.verifier = false ∧ s.completed = false)) : s.dls = [] :=
  List.eq_nil_iff_forall_not_mem.2 fun _ hd => hn (h.dl (List.ne_nil_of_mem hd))

theorem WInv.no_flag {s : St} (h : WInv s) (hw : s.writing = none) (hl : s.loaded = true) (i : Nat) :
    s.wflag.getD i false = false :=
  Bool.eq_false_iff.2 fun hi => let ⟨_, hw', _⟩ := h.wf hl i hi; nomatch hw.symm.trans hw'

theorem WInv.ite {c : Prop} [Decidable c] {x y : M} (hx : c → WInv x.1) (hy : ¬c → WInv y.1) :
    WInv (if c then x else y).1 :=
  ite_ind (P := fun x : M => WInv x.1) hx hy

theorem WFrame.of_shrinks {w : List Fld} {s s' : St} (hW : Writes w s s') (hS : Shrinks s s')
    (hw : ∀ x ∈ [Fld.cfg, .wflag, .writing, .gen, .loaded, .verifier, .allocator, .bf, .done, .info, .completed],
      x ∉ w := by decide) : WFrame s s' :=
  .of_writes hW hS.dls hS.widls hS.wq hw

theorem closeDl_dls (s : St) (k : Nat) : (s.closeDl k).dls = s.dls.filter (fun d => !decide (d.k = k)) := by
  unfold St.closeDl
  split
  · simp
  · next h =>
    have : s.dls.find? (fun d => decide (d.k = k)) = none := by
      simpa [St.findDl] using h
    exact (find?_none_filter _ _ this).symm

theorem closePeer_wframe (s : St) (k : Nat) : WFrame s (s.closePeer k) :=
  .of_shrinks (closePeer_writes s k) ((Shrinks.refl s).closePeer k)
theorem updPeer_wframe (s : St) (k : Nat) (f : Peer → Peer)
    (hf : ∀ p, ∀ msg ∈ (f p).queued, needsInfo msg = true ∨ msg ∈ p.queued) : WFrame s (s.updPeer k f) := by
  refine WFrame.of_lists rfl rfl rfl rfl rfl rfl rfl rfl rfl rfl rfl (fun d hd => ⟨d, hd, rfl⟩) (fun h => h) ?_
  · intro p' hp' msg hm
    simp only [St.updPeer, List.mem_map] at hp'
    obtain ⟨p, hp, rfl⟩ := hp'
    split at hm
    · rcases hf p msg hm with h | h
      · exact Or.inl h
      · exact Or.inr ⟨p, hp, h⟩
    · exact Or.inr ⟨p, hp, hm⟩

end Rain.Loop
