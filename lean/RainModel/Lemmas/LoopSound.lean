import RainModel.Lemmas.LoopWritten
/-!
Soundness of the bitfield and of the resume bitfield (C01/C05): preservation by every handler.  Each handler is an
admissible step `Adv`, and each `Adv` is built in one of three ways — no bit is gained (`Adv.keep` and its special cases
`of_eq`, `frame`, `of_writes`, `of_no_new_file`), bits are gained that the disk justifies (`Adv.gain`), files are re-created
and no old bit survives (`Adv.created`) — or composed of such steps (`Adv.trans`).
-/
namespace Rain.Loop

/-- Static well-formedness that every step keeps, whatever happens to the files. -/
structure Sound0 (s : St) : Prop where
  cfg : CfgWF s.cfg
  bad : BadWF s

/-- The soundness invariant: bits and resume bits only for pieces whose bytes are on disk. -/
structure Sound (s : St) : Prop where
  cfg : CfgWF s.cfg
  bad : BadWF s
  bits : ∀ i, bitOf s.bf i = true → s.diskOKi i = true
  pers : PersistedSound s

theorem Sound.zero {s : St} (h : Sound s) : Sound0 s := ⟨h.cfg, h.bad⟩

/-- Bits may be stale only where a file is missing (the weaker statement that survives files being
deleted behind the client's back: the missing file is noticed by the next allocation). -/
def WS (s : St) : Prop :=
  ∀ i, bitOf s.bf i = true → ∀ x ∈ s.bad, x.1 = i → s.fileExists.getD x.2 false = false

structure WSound (s : St) : Prop where
  cfg : CfgWF s.cfg
  bad : BadWF s
  ws : WS s

theorem WSound.zero {s : St} (h : WSound s) : Sound0 s := ⟨h.cfg, h.bad⟩

def BfLen (s : St) : Prop := ∀ b, s.bf = some b → b.length = s.n

/-- Piece `i` exists and its recorded hash is not the hash of its true content (a padding-only piece
with a wrong recorded hash): it can never be verified. -/
def Unver (c : Cfg) (i : Nat) : Prop := i < c.n ∧ c.padOK i = false

def NoBit (s : St) : Prop := ∀ i, Unver s.cfg i → bitOf s.bf i = false

theorem BfLen.of_eq {s s' : St} (h : BfLen s) (hc : s'.cfg = s.cfg) (hbf : s'.bf = s.bf ∨ s'.bf = none) : BfLen s' := by
  intro b hb
  rcases hbf with h' | h'
  · rw [h'] at hb
    have := h b hb
    unfold St.n at *
    rw [hc]; exact this
  · rw [h'] at hb; cases hb

/-- No file that holds a bad section of piece `i` in `s'` has come into existence between `s` and `s'`. -/
def FEle (s s' : St) (i : Nat) : Prop :=
  ∀ x ∈ s'.bad, x.1 = i → s'.fileExists.getD x.2 false = true → s.fileExists.getD x.2 false = true

/-- `s'` is an admissible successor of `s` as far as soundness goes: nothing gets worse on disk, new
bits and new resume bits are justified by the disk, old bits are kept only if no missing file of the
piece was re-created in between; a bitfield keeps its length (`len`). -/
structure Adv (s s' : St) : Prop where
  cfg : s'.cfg = s.cfg
  bad : ∀ x ∈ s'.bad, x ∈ s.bad
  bf : ∀ i, bitOf s'.bf i = true → (bitOf s.bf i = true ∧ FEle s s' i) ∨ s'.diskOKi i = true
  per : ∀ i, bitOf s'.persisted i = true → bitOf s.persisted i = true ∨ bitOf s.bf i = true ∨ s'.diskOKi i = true
  len : BfLen s → BfLen s'
  /-- with a piece that can never be verified (and has no bit) the torrent does not become complete -/
  nc : BfLen s → NoBit s → (∃ i, Unver s.cfg i) → s.completed = false → s'.completed = false

theorem FEle.of_eq {s s' : St} (h : s'.fileExists = s.fileExists) (i : Nat) : FEle s s' i :=
  fun _ _ _ hx => h ▸ hx

/-- A new bit is justified by the disk, and `diskOKi` includes the recorded hash being right. -/
theorem Adv.noBit {s s' : St} (a : Adv s s') (h : NoBit s) : NoBit s' := by
  intro i hi
  have hi' : Unver s.cfg i := a.cfg ▸ hi
  cases hb : bitOf s'.bf i with
  | false => rfl
  | true =>
    rcases a.bf i hb with ⟨h', _⟩ | h'
    · rw [h i hi'] at h'; cases h'
    · have := ((diskOKi_eq_true s' i).1 h').2
      rw [hi.2] at this; cases this

theorem Adv.trans {a b c : St} (h1 : Adv a b) (h2 : Adv b c) : Adv a c where
  cfg := h2.cfg.trans h1.cfg
  bad := fun x hx => h1.bad x (h2.bad x hx)
  bf := fun i hi => by
    rcases h2.bf i hi with ⟨h, f2⟩ | h
    · rcases h1.bf i h with ⟨h, f1⟩ | h
      · exact Or.inl ⟨h, fun x hx hxi hF => f1 x (h2.bad x hx) hxi (f2 x hx hxi hF)⟩
      · exact Or.inr (diskOKi_mono h2.cfg h2.bad i h)
    · exact Or.inr h
  per := fun i hi => by
    rcases h2.per i hi with h | h | h
    · rcases h1.per i h with h | h | h
      · exact Or.inl h
      · exact Or.inr (Or.inl h)
      · exact Or.inr (Or.inr (diskOKi_mono h2.cfg h2.bad i h))
    · rcases h1.bf i h with ⟨h, _⟩ | h
      · exact Or.inr (Or.inl h)
      · exact Or.inr (Or.inr (diskOKi_mono h2.cfg h2.bad i h))
    · exact Or.inr (Or.inr h)
  len := fun h => h2.len (h1.len h)
  nc := fun hl hn hu hc =>
    h2.nc (h1.len hl) (h1.noBit hn) (h1.cfg ▸ hu) (h1.nc hl hn hu hc)

theorem Sound0.of_sub {s s' : St} (h : Sound0 s) (hc : s'.cfg = s.cfg) (hb : ∀ x ∈ s'.bad, x ∈ s.bad) : Sound0 s' where
  cfg := hc ▸ h.cfg
  bad := fun x hx => by
    have := h.bad x (hb x hx)
    rwa [hc]

theorem Sound0.adv {s s' : St} (h : Sound0 s) (a : Adv s s') : Sound0 s' := h.of_sub a.cfg a.bad

theorem Sound.adv {s s' : St} (h : Sound s) (a : Adv s s') : Sound s' where
  cfg := (h.zero.adv a).cfg
  bad := (h.zero.adv a).bad
  bits := fun i hi => by
    rcases a.bf i hi with ⟨h', _⟩ | h'
    · exact diskOKi_mono a.cfg a.bad i (h.bits i h')
    · exact h'
  pers := fun i hi => by
    rcases a.per i hi with h' | h' | h'
    · exact diskOKi_mono a.cfg a.bad i (h.pers i h')
    · exact diskOKi_mono a.cfg a.bad i (h.bits i h')
    · exact h'

theorem WSound.adv {s s' : St} (h : WSound s) (a : Adv s s') : WSound s' where
  cfg := (h.zero.adv a).cfg
  bad := (h.zero.adv a).bad
  ws := fun i hi x hx hxi => by
    rcases a.bf i hi with ⟨h', f⟩ | h'
    · have hmiss := h.ws i h' x (a.bad x hx) hxi
      cases hF : s'.fileExists.getD x.2 false
      · rfl
      · have := f x hx hxi hF
        rw [hmiss] at this; cases this
    · rw [diskOKi_eq_true] at h'
      exact absurd hxi (h'.1 x hx)

theorem allTrue_false_of_bit {b : List Bool} {i : Nat} (hi : i < b.length) (hb : b.getD i false = false) :
    allTrue b = false := by
  cases h : allTrue b with
  | false => rfl
  | true =>
    unfold allTrue at h
    rw [List.all_eq_true] at h
    have hm : b[i] ∈ b := List.getElem_mem hi
    have := h _ hm
    simp only [id] at this
    rw [List.getD_eq_getElem?_getD, List.getElem?_eq_getElem hi] at hb
    simp only [Option.getD_some] at hb
    rw [hb] at this; cases this

theorem Adv.keep {s s' : St} (hc : s'.cfg = s.cfg) (hb : ∀ x ∈ s'.bad, x ∈ s.bad)
    (hbf : (s'.bf = s.bf ∧ ∀ f, s'.fileExists.getD f false = true → s.fileExists.getD f false = true) ∨ s'.bf = none)
    (hp : s'.persisted = s.persisted ∨ s'.persisted = s.bf ∨ s'.persisted = none)
    (hcm : s'.completed = true → s.completed = true ∨ ∃ b, s.bf = some b ∧ allTrue b = true) : Adv s s' where
  len := fun h => h.of_eq hc (hbf.imp_left (·.1))
  -- a piece that cannot be verified has no bit, so not every bit is set
  nc := fun hl hn ⟨i, hi⟩ h => Bool.eq_false_iff.2 fun hc' => by
    rcases hcm hc' with h' | ⟨b, hb, ha⟩
    · rw [h] at h'; cases h'
    · have hbit := hn i hi
      rw [hb] at hbit
      rw [allTrue_false_of_bit (by rw [hl b hb]; exact hi.1) hbit] at ha
      cases ha
  cfg := hc
  bad := hb
  bf := fun i hi => by
    rcases hbf with ⟨h, hF⟩ | h
    · exact Or.inl ⟨h ▸ hi, fun x _ _ => hF x.2⟩
    · rw [h] at hi; cases hi
  per := fun i hi => by
    rcases hp with h | h | h
    · exact Or.inl (h ▸ hi)
    · exact Or.inr (Or.inl (h ▸ hi))
    · rw [h] at hi; cases hi

/-- `hcm` (here, in `Adv.frame`, `Adv.gain` and `stop_adv'`) is found by itself where `s'.completed` reduces to
`s.completed`; otherwise the caller gives it. -/
theorem Adv.of_eq {s s' : St} (hc : s'.cfg = s.cfg) (hb : s'.bad = s.bad) (hf : s'.fileExists = s.fileExists)
    (hbf : s'.bf = s.bf ∨ s'.bf = none)
    (hp : s'.persisted = s.persisted ∨ s'.persisted = s.bf ∨ s'.persisted = none)
    (hcm : s'.completed = true → s.completed = true := by exact id) : Adv s s' :=
  .keep hc (fun _ hx => hb ▸ hx) (hbf.imp_left (⟨·, fun _ hx => hf ▸ hx⟩)) hp fun h => .inl (hcm h)

theorem Adv.frame {s s' : St} (hc : s'.cfg = s.cfg) (hb : s'.bad = s.bad) (hf : s'.fileExists = s.fileExists)
    (hbf : s'.bf = s.bf) (hp : s'.persisted = s.persisted)
    (hcm : s'.completed = true → s.completed = true := by exact id) : Adv s s' :=
  Adv.of_eq hc hb hf (Or.inl hbf) (Or.inl hp) hcm

theorem Adv.refl (s : St) : Adv s s := Adv.frame rfl rfl rfl rfl rfl

theorem Adv.of_no_new_file {w : List Fld} {s s' : St} (h : Writes w s s')
    (hF : ∀ f, s'.fileExists.getD f false = true → s.fileExists.getD f false = true)
    (hw : ∀ x ∈ [Fld.cfg, .bad, .bf, .persisted, .completed], x ∉ w := by decide) : Adv s s' := by
  simp only [List.forall_mem_cons, List.not_mem_nil, false_imp_iff, implies_true, and_true] at hw
  exact .keep (h.cfg hw.1) (fun _ hx => h.bad hw.2.1 ▸ hx) (.inl ⟨h.bf hw.2.2.1, hF⟩) (.inl (h.persisted hw.2.2.2.1))
    fun hc => .inl (h.completed hw.2.2.2.2 ▸ hc)

theorem Adv.of_writes {w : List Fld} {s s' : St} (h : Writes w s s')
    (hw : ∀ x ∈ [Fld.cfg, .bad, .fileExists, .completed, .bf, .persisted], x ∉ w := by decide) : Adv s s' := by
  simp only [List.forall_mem_cons, List.not_mem_nil, false_imp_iff, implies_true, and_true] at hw
  exact .frame (h.cfg hw.1) (h.bad hw.2.1) (h.fileExists hw.2.2.1) (h.bf hw.2.2.2.2.1) (h.persisted hw.2.2.2.2.2)
    fun hc => h.completed hw.2.2.2.1 ▸ hc

theorem Adv.gain {s s' : St} {b' : List Bool} (hc : s'.cfg = s.cfg) (hb : s'.bad = s.bad)
    (hf : s'.fileExists = s.fileExists) (hbf : s'.bf = some b') (hl : BfLen s → b'.length = s.n)
    (hok : ∀ i, b'.getD i false = true → bitOf s.bf i = true ∨ s.diskOKi i = true)
    (hp : s'.persisted = s.persisted ∨ s'.persisted = some b')
    (hcm : s'.completed = true → s.completed = true := by exact id) : Adv s s' := by
  have hok' : ∀ i, bitOf (some b') i = true → bitOf s.bf i = true ∨ s'.diskOKi i = true := fun i hi =>
    (hok i hi).imp_right (diskOKi_mono hc (fun _ hx => hb ▸ hx) i)
  refine ⟨hc, fun _ hx => hb ▸ hx, fun i hi => (hok' i (hbf ▸ hi)).imp_left (⟨·, FEle.of_eq hf i⟩), fun i hi => ?_,
    fun h b hb' => ?_, fun _ _ _ h => Bool.eq_false_iff.2 (mt hcm (Bool.eq_false_iff.1 h))⟩
  · rcases hp with h | h
    · exact Or.inl (h ▸ hi)
    · exact Or.inr (hok' i (h ▸ hi))
  · rw [hbf] at hb'
    cases hb'
    rw [hl h, St.n, St.n, hc]

/-- Files may come into existence in a step that leaves everything else `Adv` reads alone, if no old bit survives what
follows: every bit afterwards is justified by the disk. -/
theorem Adv.created {w : List Fld} {a b c : St} (h1 : Writes w a b) (h2 : Adv b c)
    (hbf : ∀ i, bitOf c.bf i = true → c.diskOKi i = true)
    (hw : ∀ x ∈ [Fld.cfg, .bad, .bf, .persisted, .completed], x ∉ w := by decide) : Adv a c := by
  simp only [List.forall_mem_cons, List.not_mem_nil, false_imp_iff, implies_true, and_true] at hw
  obtain ⟨e1, e2, e3, e4, e5⟩ := hw
  have e1 := h1.cfg e1
  have e3 := h1.bf e3
  have hl : BfLen a → BfLen b := fun hl => hl.of_eq e1 (Or.inl e3)
  refine ⟨h2.cfg.trans e1, fun x hx => h1.bad e2 ▸ h2.bad x hx, fun i hi => Or.inr (hbf i hi), fun i hi => ?_,
    fun h => h2.len (hl h), fun h hn hu hc => h2.nc (hl h) (fun i hi => by rw [e3]; exact hn i (e1 ▸ hi))
      (e1 ▸ hu) ((h1.completed e5).trans hc)⟩
  have := h2.per i hi
  rwa [h1.persisted e4, e3] at this

theorem stop_persisted' (s : St) (e : Bool) {p b : Option (List Bool)} (hp : s.persisted = p) (hb : s.bf = b) :
    (s.stop e).persisted = p ∨ (s.stop e).persisted = b ∨ (s.stop e).persisted = none :=
  hp ▸ hb ▸ stop_persisted s e

theorem writeBitfield_adv (s : St) : Adv s s.writeBitfield :=
  have W := writeBitfield_writes s
  .of_eq W.cfg W.bad W.fileExists (.inl W.bf) ((writeBitfield_persisted s).imp_right .inl) fun hc => W.completed ▸ hc

theorem stop_bf' (s : St) (e : Bool) {b : Option (List Bool)} (hb : s.bf = b) :
    (s.stop e).bf = b ∨ (s.stop e).bf = none := hb ▸ stop_bf s e

theorem stop_adv (s : St) (e : Bool) : Adv s (s.stop e) :=
  .keep (stop_writes s e).cfg (fun _ hx => (stop_writes s e).bad ▸ hx) ((stop_record s e).imp (fun h => ⟨h.1, h.2.2⟩) (·.1))
    (stop_persisted s e) fun hc => .inl ((stop_writes s e).completed ▸ hc)

theorem stop_adv' (a s : St) (e : Bool) (hc : s.cfg = a.cfg) (hb : s.bad = a.bad) (hf : s.fileExists = a.fileExists)
    (hbf : s.bf = a.bf) (hp : s.persisted = a.persisted)
    (hcm : s.completed = true → a.completed = true := by exact id) : Adv a (s.stop e) :=
  (Adv.frame hc hb hf hbf hp hcm).trans (stop_adv s e)

theorem handlePieceMessage_adv (m : M) (k i b l : Nat) (g : Bool) : Adv m.1 (handlePieceMessage m k i b l g).1 :=
  .of_writes (handlePieceMessage_writes m k i b l g)
theorem processQueued_adv (m : M) : Adv m.1 (processQueued m).1 := .of_writes (processQueued_writes m)
theorem startCore_adv (m : M) : Adv m.1 (startCore m).1 := .of_writes (startCore_writes m)

theorem checkCompletion_adv (s : St) : Adv s s.checkCompletion.1 :=
  have hW := checkCompletion_writes s
  .keep hW.cfg (fun _ hx => hW.bad ▸ hx) (.inl ⟨hW.bf, fun _ hx => hW.fileExists ▸ hx⟩) (.inl hW.persisted) fun hc =>
    (checkCompletion_flags s).elim (fun h => .inl (h.1 ▸ hc)) fun h => .inr h.2.2

theorem hmdStart_adv (m : M) : Adv m.1 (hmdStart m).1 :=
  hmdStart_cases (P := fun x => Adv m.1 x.1) m (fun _ => onSt_stop _ _ _ (stop_adv _ _))
    fun _ => .of_writes (hmdStart_alloc_writes m)

theorem hmdAdopt_adv (m : M) : Adv m.1 (hmdAdopt m).1 :=
  hmdAdopt_cases (P := fun x => Adv m.1 x.1) m (fun _ => onSt_stop _ _ _ (stop_adv' _ _ _ rfl rfl rfl rfl rfl))
    fun _ _ => .trans (b := { m.1 with idls := [], info := true, metaDone := true }) (Adv.frame rfl rfl rfl rfl rfl)
      (hmdStart_adv (_, m.2))

theorem handleMetadataData_adv (m : M) (k i len : Nat) (g : Bool) :
    Adv m.1 (handleMetadataData m k i len g).1 :=
  handleMetadataData_ind (Adv m.1) m k i len g (fun _ hW => .of_writes hW)
    fun _ hW => (Adv.of_writes hW).trans (hmdAdopt_adv _)

/-- Finishing a stop drops the bitfield if a verify is pending. -/
theorem handleStopped_adv (m : M) : Adv m.1 (handleStopped m).1 := by
  unfold handleStopped
  dsimp only
  split
  · refine .trans ?_ (startCore_adv _)
    exact Adv.of_eq rfl rfl rfl (.inr rfl) (.inl rfl)
  · exact Adv.frame rfl rfl rfl rfl rfl

theorem start_adv (m : M) : Adv m.1 (start m).1 :=
  start_inv (P := Adv m.1) m (.refl _)
    (fun _ => (Adv.frame rfl rfl rfl rfl rfl : Adv m.1 { m.1 with stopHang := false }).trans (handleStopped_adv (_, m.2)))
    fun x h _ => h.trans (startCore_adv x)

theorem handleVerifyCommand_adv (m : M) : Adv m.1 (handleVerifyCommand m).1 := by
  refine handleVerifyCommand_cases (P := fun x => Adv m.1 x.1) m (fun _ => .trans ?_ (startCore_adv _))
    fun _ => onSt_stop _ _ _ (stop_adv' _ _ _ rfl rfl rfl rfl rfl)
  exact Adv.of_eq rfl rfl rfl (.inr rfl) (.inl rfl)

theorem length_foldl_setAt (idx : List Nat) (l : List Bool) :
    (idx.foldl (fun d i => setAt d i true) l).length = l.length := by
  induction idx generalizing l with
  | nil => rfl
  | cons a idx ih => rw [List.foldl_cons, ih]; simp [setAt]

theorem markPaddingPieces_adv (s : St) (h : Sound0 s) : Adv s s.markPaddingPieces := by
  unfold St.markPaddingPieces
  split
  · exact .refl s
  · next b hbf =>
    refine .gain rfl rfl rfl rfl (fun hl => by rw [length_foldl_setAt]; exact hl b hbf) (fun i hi => ?_) (.inl rfl)
    refine (getD_foldl_setAt_true _ _ _ hi).imp (fun h1 => by rw [hbf]; exact h1) fun h1 => ?_
    simp only [List.mem_filter, List.mem_range, Bool.and_eq_true] at h1
    exact diskOKi_of_no_data s h.bad i (h.cfg i h1.2.1.1) h1.2.2

theorem hadCheck_adv (m : M) : Adv m.1 (hadCheck m).1 :=
  hadCheck_cases (P := fun x => Adv m.1 x.1) m (fun _ => onSt_stop _ _ _ ((checkCompletion_adv m.1).trans (stop_adv _ _)))
    ((checkCompletion_adv m.1).trans (.of_writes (hadReady_writes _)))

theorem freshBf_adv (s : St) : Adv s { s with bf := some (List.replicate s.n false) } :=
  .gain rfl rfl rfl rfl (fun _ => List.length_replicate) (fun i hi => by simp at hi) (.inl rfl)

theorem resetCompletion_adv (s : St) : Adv s s.resetCompletion := by
  have hW := resetCompletion_writes s
  refine Adv.frame hW.cfg hW.bad hW.fileExists hW.bf hW.persisted ?_
  unfold St.resetCompletion
  split
  · intro h; cases h
  · exact id

theorem hadFreshInstall_adv (m : M) (h : Sound0 m.1) : Adv m.1 (hadFreshInstall m).1 := by
  unfold hadFreshInstall
  simp only [onSt_fst]
  have a1 := (freshBf_adv m.1).trans (resetCompletion_adv _)
  exact a1.trans (markPaddingPieces_adv _ (h.adv a1))

theorem hadFresh_adv (m : M) (h : Sound0 m.1) : Adv m.1 (hadFresh m).1 :=
  (hadFreshInstall_adv m h).trans (hadFresh_cases (P := fun x => Adv (hadFreshInstall m).1 x.1) m
    (fun _ => onSt_stop _ _ _ (stop_adv' _ _ _ rfl rfl rfl rfl rfl)) fun _ => hadCheck_adv _)

theorem hadTrust_adv (m : M) (b : List Bool) (h : Sound0 m.1) : Adv m.1 (hadTrust m b).1 := by
  unfold hadTrust
  refine Adv.trans ?_ (hadCheck_adv _)
  simp only [onSt_fst]
  have a1 : Adv m.1 { m.1 with done := b } := Adv.frame rfl rfl rfl rfl rfl
  exact a1.trans (markPaddingPieces_adv _ (h.adv a1))

theorem hadInstall_adv (m : M) : Adv m.1 (hadInstall m).1 := .of_writes (hadInstall_writes m)

theorem hadForget_adv (m : M) (mi : Bool) : Adv m.1 (hadForget m mi).1 := by
  unfold hadForget
  simp only [onSt_fst]
  split
  · exact Adv.of_eq rfl rfl rfl (Or.inr rfl) (Or.inr (Or.inr rfl))
  · exact Adv.refl _

theorem handleAllocationDone_adv_from (m : M) (ex mi : Bool) (h : Sound0 m.1) :
    Adv (hadForget (hadInstall m) mi).1 (handleAllocationDone m ex mi).1 :=
  have h0 := h.adv ((hadInstall_adv m).trans (hadForget_adv _ mi))
  handleAllocationDone_cases (P := fun x => Adv (hadForget (hadInstall m) mi).1 x.1) m ex mi
    (fun b _ _ => hadTrust_adv _ b h0) (fun _ _ => hadFresh_adv _ h0) fun _ _ => Adv.frame rfl rfl rfl rfl rfl

theorem handleAllocationDone_adv (m : M) (ex mi : Bool) (h : Sound0 m.1) :
    Adv m.1 (handleAllocationDone m ex mi).1 :=
  ((hadInstall_adv m).trans (hadForget_adv _ mi)).trans (handleAllocationDone_adv_from m ex mi h)

theorem handleAllocationDone_missing (m : M) (ex : Bool) (h : Sound0 m.1) :
    ∀ i, bitOf (handleAllocationDone m ex true).1.bf i = true → (handleAllocationDone m ex true).1.diskOKi i = true := by
  intro i hi
  have hnone := (hadForget_true (hadInstall m)).1
  rcases (handleAllocationDone_adv_from m ex true h).bf i hi with ⟨hb, _⟩ | hok
  · rw [hnone] at hb; cases hb
  · exact hok

/-- An allocation whose `Open` fails part-way: either no file came into existence, or the bitfield is forgotten
(fix for finding C05-F2), then `stop(err)`. -/
theorem allocFail_adv (m : M) : Adv m.1 (allocFail m).1 := by
  have hst : (allocFail m).1 = ((hadForget (allocFailOpen m) (allocFailMissing m.1)).1).stop true := by simp [allocFail]
  rw [hst]
  refine Adv.trans ?_ (stop_adv _ true)
  cases hmiss : allocFailMissing m.1
  · have hx : (hadForget (allocFailOpen m) false).1 = (allocFailOpen m).1 := by simp [hadForget]
    rw [hx]
    exact .of_no_new_file (allocFailOpen_writes m) fun _ => no_new_file hmiss
  · exact .created (allocFailOpen_writes m) (hadForget_adv _ true) fun i hi => by
      rw [(hadForget_true (allocFailOpen m)).1] at hi; cases hi

theorem allocatorRun_adv (m : M) (h : Sound0 m.1) : Adv m.1 (allocatorRun m).1 := by
  refine allocatorRun_cases (P := fun x => Adv m.1 x.1) m (fun _ => allocFail_adv m) fun _ => ?_
  have hW := allocOkOpen_writes m
  have h1 : Sound0 (allocOkOpen m).1 := h.of_sub hW.cfg fun _ hx => hW.bad ▸ hx
  cases hmiss : (allocData m.1).any (fun i => !(m.1.fileExists.getD i false))
  · -- nothing was missing: no file came into existence
    exact (Adv.of_no_new_file hW fun _ => no_new_file hmiss).trans (handleAllocationDone_adv _ _ _ h1)
  · -- files were missing: every bit afterwards is justified by the disk
    exact .created hW (handleAllocationDone_adv _ _ true h1) (handleAllocationDone_missing _ _ h1)

theorem hvdInstall_adv (m : M) : Adv m.1 (hvdInstall m).1 := by
  have hW := hvdPre_writes m
  have a : Adv m.1 (hvdPre m).1 := .gain hW.cfg hW.bad hW.fileExists (hvdPre_record m).1 (fun _ => by simp [St.diskOK])
    (fun i hi => .inr ((diskOK_getD m.1 i).1 hi).2) (.inr (hvdPre_record m).2) fun hc => hW.completed ▸ hc
  rw [hvdInstall_eq]
  refine a.trans ?_
  simp only [onSt_fst]
  split
  · exact resetCompletion_adv _
  · exact Adv.refl _

theorem handleVerificationDone_adv (m : M) : Adv m.1 (handleVerificationDone m).1 :=
  (hvdInstall_adv m).trans (handleVerificationDone_cases (P := fun x => Adv (hvdInstall m).1 x.1) m
    (fun _ => onSt_stop _ _ _ (stop_adv' _ _ _ rfl rfl rfl rfl rfl))
    fun _ => (Adv.of_writes (hvdHaves_writes _)).trans (hadCheck_adv _))

theorem pwdSet_adv (m : M) (w : WriteJob) (b : List Bool) (hb : m.1.bf = some b)
    (hok : m.1.diskOKi w.piece = true) : Adv m.1 (pwdSet m w b).1 := by
  have hW := pwdSet_writes m w b
  refine .gain hW.cfg hW.bad hW.fileExists (pwdSet_bf m w b) (fun hl => by simp only [setAt, List.length_set]; exact hl b hb)
    (fun i hi => ?_) (.inl hW.persisted) fun hc => hW.completed ▸ hc
  rw [getD_setAt] at hi
  split at hi
  · next h => right; rw [h.1]; exact hok
  · left; rw [hb]; exact hi

theorem pwdFinish_adv (m : M) : Adv m.1 (pwdFinish m).1 := by
  have h1 := checkCompletion_adv m.1
  have h2 := h1.trans (writeBitfield_adv _)
  refine pwdFinish_cases (P := fun x => Adv m.1 x.1) m (fun _ => h1) (fun _ => ?_) fun _ => ?_
  · simp only [onSt_fst]; exact h2
  · simp only [onSt_fst]; exact h2.trans (stop_adv _ _)

theorem pwdOk_adv (m : M) (w : WriteJob) (b : List Bool) (hb : m.1.bf = some b)
    (hok : m.1.diskOKi w.piece = true) : Adv m.1 (pwdOk m w b).1 := by
  unfold pwdOk
  exact (((pwdSet_adv m w b hb hok).trans (.of_writes (pwdOthers_writes _ w))).trans (.of_writes (pwdHaves_writes _ w))).trans
    (pwdFinish_adv _)

theorem handlePieceWriteDone_adv (m : M) (w : WriteJob) (e : Bool)
    (hok : w.good = true → e = false → w.gen = m.1.gen → m.1.loaded = true → m.1.diskOKi w.piece = true) :
    Adv m.1 (handlePieceWriteDone m w e).1 :=
  have h0 : Adv m.1 (pwdReset m w).1 := .of_writes (pwdReset_writes m w)
  have hW := (pwdReset_writes m w).trans (pwdDone_writes _ w)
  have h1 : Adv m.1 (pwdDone (pwdReset m w) w).1 := .of_writes hW
  handlePieceWriteDone_cases (P := fun x => Adv m.1 x.1) m w e (fun _ => h0.trans (.of_writes (pwdBan_writes _ w)))
    (fun _ _ => h0) (fun _ _ _ _ => onSt_stop _ _ _ (h0.trans (stop_adv _ _)))
    (fun _ _ _ _ _ => h1.trans (.of_writes (crash_writes _ _)))
    fun b hg he hgen hl hb => h1.trans (pwdOk_adv _ w b (hW.bf.trans hb) ((hW.diskOKi _).trans (hok hg he hgen hl)))

theorem writerRun_adv (m : M) (w : WriteJob) (h : Sound0 m.1) : Adv m.1 (writerRun m w).1 := by
  refine writerRun_cases (P := fun x => Adv m.1 x.1) m w
    (fun hg => handlePieceWriteDone_adv m w false fun hg' => by rw [hg] at hg'; cases hg')
    (fun hs => handlePieceWriteDone_adv m _ false fun hg _ _ _ => diskOKi_of_no_stored m.1 h.bad _ hs ?_)
    (fun _ => ?_) fun sc l sto hs _ _ _ _ => ?_
  · simp only [Bool.and_eq_true] at hg
    exact hg.2
  · refine Adv.trans ?_ (handlePieceWriteDone_adv _ w true fun _ h => by cases h)
    exact Adv.frame rfl rfl rfl rfl rfl
  · have a1 : Adv m.1 { m.1 with sto := sto, bad := m.1.bad.filter (fun b => b.1 ≠ w.piece) } :=
      .keep rfl (fun _ hx => (List.mem_filter.1 hx).1) (.inl ⟨rfl, fun _ => id⟩) (.inl rfl) .inl
    refine ⟨a1.trans (Adv.frame rfl rfl rfl rfl rfl), ?_⟩
    refine Adv.trans ?_ (handlePieceWriteDone_adv _ w false fun _ _ _ _ => written_diskOKi m.1 w.piece sc l hs _ rfl rfl)
    exact a1

theorem Link.adv {m m' : M} (l : Link m m') (h : Sound0 m.1) (hw : WrOK m.1) : Adv m.1 m'.1 ∧ WrOK m'.1 := by
  cases l with
  | stopped hs _ => exact ⟨handleStopped_adv m, handleStopped_wrOK m hw hs⟩
  | alloc ha => exact ⟨allocatorRun_adv m h, allocatorRun_wrOK m hw ha⟩
  | verify hv => exact ⟨handleVerificationDone_adv m, handleVerificationDone_wrOK m hw hv⟩
  | deliver j hj hwr =>
    -- a held result is delivered: its bytes are on disk if it is still current
    exact ⟨handlePieceWriteDone_adv m j false fun _ _ hg hl => hw.ok j hj hwr hg hl, handlePieceWriteDone_wrOK m j false hw⟩
  | write j hj _ => exact ⟨writerRun_adv m j h, writerRun_wrOK m j hw hj⟩

theorem runWorkers_adv (fuel : Nat) (m : M) (h : Sound0 m.1) (hw : WrOK m.1) : Adv m.1 (runWorkers fuel m).1 :=
  (runWorkers_ind (P := fun x => Adv m.1 x.1 ∧ WrOK x.1)
    (fun _ _ l ⟨a, w⟩ => let ⟨a', w'⟩ := l.adv (h.adv a) w; ⟨a.trans a', w'⟩) fuel m ⟨Adv.refl _, hw⟩).1

theorem handle_adv (s : St) (p : Parked) (kn : Nat → Bool) (op : Op) (hop : op.isMutate = false) :
    Adv s (handle s p kn op).1.1 :=
  handle_ind s p kn op
    (fun _ _ _ _ _ _ _ _ _ _ hpe ht => ht.trans (Adv.of_eq rfl rfl rfl (Or.inl rfl) (hpe.imp_right Or.inl)))
    (Adv.refl s) (start_adv (s, [])) (stop_adv' s _ false rfl rfl rfl rfl rfl)
    (fun _ => (Adv.of_eq rfl rfl rfl (Or.inl rfl) (Or.inr (Or.inr rfl)) : Adv s { s with persisted := none }).trans
      (handleVerifyCommand_adv ({ s with persisted := none }, [])))
    (fun _ _ e => by rw [e] at hop; cases hop) (fun _ hW _ => .of_writes hW) (fun _ hW => .of_writes hW)
    (fun _ _ _ _ _ _ _ => handlePieceMessage_adv (s, []) ..) fun _ _ _ _ _ _ => handleMetadataData_adv (s, []) ..

theorem step_adv_of {a : St} (s : St) (p : Parked) (kn : Nat → Bool) (op : Op)
    (ha : Adv a (handle s.opStart p kn op).1.1)
    (h : Sound0 a)
    (hw : WrOK (handle s.opStart p kn op).1.1) :
    Adv a (step s p kn op).1.st :=
  (step_inv (P := fun t => Adv a t ∧ WrOK t) s p kn op ⟨ha, hw⟩
    (fun m ⟨a, w⟩ => ⟨a.trans (runWorkers_adv 12 m (h.adv a) w), runWorkers_wrOK 12 m w⟩)
    fun m k i b l g ⟨a, w⟩ _ => ⟨a.trans (handlePieceMessage_adv ..), handlePieceMessage_wrOK m k i b l g w⟩).1

theorem dstep_after_step (sp : St × Parked) (e : Ev) : Adv (step sp.1 sp.2 e.known e.op).1.st (dstep sp e).1 := by
  unfold dstep
  exact (Adv.of_writes (reconcile_writes _ e.impl)).trans (.of_writes (reconcileIdl_writes _ e.implI))

/-! ### Invariants that follow `Adv`

`Sound`, `WSound`, `PadInv` are each carried along `Adv` (`X.adv`) and imply `Sound0` (`X.zero`); the only event
that is not an `Adv` is an external change of the files, whose handler is `mutate` or nothing. -/
section
variable {X : St → Prop} (adv : ∀ {s s'}, X s → Adv s s' → X s')
include adv

theorem handle_of_adv (s : St) (p : Parked) (kn : Nat → Bool) (op : Op) (h : X s)
    (hmut : ∀ f how, op = .mutate f how → X (mutate s f how)) : X (handle s p kn op).1.1 := by
  cases hm : op.isMutate
  · exact adv h (handle_adv s p kn op hm)
  · cases op with
    | mutate f how => exact ite_ind (P := fun y : M × String × Parked => X y.1.1) (fun _ => h) fun _ => hmut f how rfl
    | _ => cases hm

variable (zero : ∀ {s}, X s → Sound0 s)
include zero

theorem step_of_adv (s : St) (p : Parked) (kn : Nat → Bool) (op : Op) (h : X s) (hw : WrOK s)
    (hmut : ∀ f how, op = .mutate f how → ∀ t, X t → X (mutate t f how)) : X (step s p kn op).1.st :=
  have h0 : X s.opStart :=
    adv h (Adv.frame rfl rfl rfl rfl rfl)
  have h1 := handle_of_adv adv _ p kn op h0 fun f how e => hmut f how e _ h0
  adv h1 (step_adv_of s p kn op (Adv.refl _) (zero h1) (handle_wrOK _ p kn op hw.of_frame))

theorem dstep_of_adv (sp : St × Parked) (e : Ev) (h : X sp.1) (hw : WrOK sp.1)
    (hmut : ∀ f how, e.op = .mutate f how → ∀ t, X t → X (mutate t f how)) : X (dstep sp e).1 :=
  adv (step_of_adv adv zero sp.1 sp.2 e.known e.op h hw hmut) (dstep_after_step sp e)

theorem drun_of_adv (evs : List Ev) (sp : St × Parked) (h : X sp.1) (hw : WrOK sp.1)
    (hmut : ∀ e ∈ evs, ∀ f how, e.op = .mutate f how → ∀ t, X t → X (mutate t f how)) : X (drun sp evs).1 :=
  (foldl_inv_mem (fun sp => X sp.1 ∧ WrOK sp.1) evs dstep
    (fun sp e he ⟨h, hw⟩ => ⟨dstep_of_adv adv zero sp e h hw (hmut e he), dstep_wrOK sp e hw⟩) sp ⟨h, hw⟩).1

end

theorem Op.not_mutate {op : Op} (hop : op.isMutate = false) {f how} (e : op = .mutate f how) {P : Prop} : P := by
  subst e; cases hop

/-- **Soundness is preserved by every event except an external change of the files.** -/
theorem step_sound (s : St) (p : Parked) (kn : Nat → Bool) (op : Op) (hop : op.isMutate = false)
    (h : Sound s) (hw : WrOK s) : Sound (step s p kn op).1.st :=
  step_of_adv Sound.adv Sound.zero s p kn op h hw fun _ _ e => Op.not_mutate hop e

theorem drun_sound (evs : List Ev) (sp : St × Parked) (hop : ∀ e ∈ evs, e.op.isMutate = false)
    (h : Sound sp.1) (hw : WrOK sp.1) : Sound (drun sp evs).1 :=
  drun_of_adv Sound.adv Sound.zero evs sp h hw fun e he _ _ eq => Op.not_mutate (hop e he) eq

end Rain.Loop
