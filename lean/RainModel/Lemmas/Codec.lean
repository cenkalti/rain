import RainModel.Model.Codec
import RainModel.Lemmas.Bencode
import RainModel.Lemmas.Radix
namespace Rain.Codec
open Rain.Bencode (Bytes ExtPayload take?)

theorem be32_eq (n : Nat) : be32 n = Radix.digits 256 4 n := by simp [be32, Radix.digits]

theorem rd32_eq (a b c d : Nat) : rd32 a b c d = Radix.ofDigits 256 [a, b, c, d] := by
  simp only [rd32, Radix.ofDigits, List.foldl]; omega

theorem rd32_digits (n : Nat) (h : n < 4294967296) :
    rd32 (n / 16777216 % 256) (n / 65536 % 256) (n / 256 % 256) (n % 256) = n := by
  rw [rd32_eq]; exact (congrArg _ (be32_eq n)).trans (Radix.ofDigits_digits_of_lt h)

theorem get32_be32 (n : Nat) (h : n < 4294967296) (r : Bytes) : get32 (be32 n ++ r) = some (n, r) := by
  simp only [be32, get32, List.cons_append, List.nil_append, rd32_digits n h]

theorem get16_be16 (n : Nat) (h : n < 65536) (r : Bytes) : get16 (be16 n ++ r) = some (n, r) := by
  have e : n / 256 % 256 * 256 + n % 256 = n := by
    simpa [Radix.digits, Radix.ofDigits] using Radix.ofDigits_digits_of_lt (b := 256) (k := 2) h
  simp only [be16, get16, List.cons_append, List.nil_append, e]

theorem take?_append (a r : Bytes) : take? a.length (a ++ r) = some (a, r) := by
  simp [take?]

theorem take?_append_of_length {n : Nat} (a r : Bytes) (h : a.length = n) : take? n (a ++ r) = some (a, r) :=
  h ▸ take?_append a r

theorem take?_length {n : Nat} {bs a r : Bytes} (h : take? n bs = some (a, r)) :
    bs = a ++ r ∧ a.length = n := by
  refine ⟨?_, (Bencode.take?_len' h).1⟩
  unfold take? at h
  split at h <;> cases h
  exact (List.take_append_drop n bs).symm

theorem get32x3_be32 (i b l : Nat) (hi : i < 4294967296) (hb : b < 4294967296) (hl : l < 4294967296) (r : Bytes) :
    get32x3 (be32 i ++ (be32 b ++ (be32 l ++ r))) = some (i, b, l, r) := by
  simp only [get32x3, get32_be32 _ hi, get32_be32 _ hb, get32_be32 _ hl]

theorem be32_length (n : Nat) : (be32 n).length = 4 := rfl
theorem be16_length (n : Nat) : (be16 n).length = 2 := rfl

theorem step_frame (max len id : Nat) (hl : len + 1 < 4294967296) (r : Bytes) :
    step max (be32 (1 + len) ++ id :: r) =
      if len > max then .stop .oversize [] else dispatch id len r := by
  have h1 : 1 + len < 4294967296 := by omega
  rw [step, get32_be32 _ h1]
  have h0 : ¬ (1 + len = 0) := by omega
  have h2 : 1 + len - 1 = len := by omega
  simp only [h0, if_false, h2]

/-- Well-formed message relative to the reader's limit `max`: fields fit their wire width, the
body fits `max`, request length and block length are within 16 KiB, an extension message carries
the extended id its payload type is dispatched on and a well-formed payload record
(`Bencode.WFPayload`). -/
def WFMsg (max : Nat) : Msg → Prop
  | .choke | .unchoke | .interested | .notInterested | .haveAll | .haveNone => True
  | .have i | .allowedFast i => i < 4294967296 ∧ 4 ≤ max
  | .bitfield d => d.length ≤ max ∧ d.length + 1 < 4294967296
  | .request i b l => i < 4294967296 ∧ b < 4294967296 ∧ l ≤ 16384 ∧ 12 ≤ max
  | .cancel i b l | .reject i b l => i < 4294967296 ∧ b < 4294967296 ∧ l < 4294967296 ∧ 12 ≤ max
  | .piece i b d => i < 4294967296 ∧ b < 4294967296 ∧ d.length ≤ 16384 ∧ 8 + d.length ≤ max
  | .port p => p < 65536 ∧ 2 ≤ max
  | .ext eid p => eid = Bencode.kindId p ∧ 1 + (Bencode.encPayload p).length ≤ max
      ∧ (Bencode.encPayload p).length + 2 < 4294967296
      ∧ Bencode.WFPayload p

/-- Allocation effects of decoding the frame of `m`. -/
def effsOf : Msg → List Eff
  | .bitfield d => [.make d.length]
  | .piece _ _ d => [.poolGet d.length]
  | .ext _ p => .make (1 + (Bencode.encPayload p).length) ::
      (Bencode.parseExt (Bencode.kindId p) (Bencode.encPayload p)).2.map .make
  | _ => []

theorem WFMsg.body_fits {max : Nat} {m : Msg} (h : WFMsg max m) :
    (body m).length ≤ max ∧ (body m).length + 1 < 4294967296 := by
  cases m <;> simp [WFMsg, body, be32_length, be16_length] at h ⊢ <;> omega

theorem step_encode_frame (max : Nat) (m : Msg) (h : WFMsg max m) (rest : Bytes) :
    step max (encode m ++ rest) = dispatch (msgId m) (body m).length (body m ++ rest) := by
  rw [encode, List.append_assoc, List.cons_append, step_frame _ _ _ h.body_fits.2, if_neg (Nat.not_lt.2 h.body_fits.1)]

theorem step_encode (max : Nat) (m : Msg) (h : WFMsg max m) (rest : Bytes) :
    step max (encode m ++ rest) = .msg m (effsOf m) rest := by
  rw [step_encode_frame max m h rest]
  cases m with
  | choke | unchoke | interested | notInterested | haveAll | haveNone => rfl
  | «have» i | allowedFast i => simp [msgId, body, dispatch, get32_be32 _ h.1, effsOf]
  | bitfield d => simp [msgId, body, dispatch, take?_append, effsOf]
  | request i b l =>
    obtain ⟨hi, hb, hl, -⟩ := h
    have h2 : ¬ (l > maxBlock) := by simp [maxBlock]; omega
    simp [h2, msgId, body, dispatch, get32x3_be32 _ _ _ hi hb (by omega : l < 4294967296), effsOf]
  | cancel i b l | reject i b l => simp [msgId, body, dispatch, get32x3_be32 _ _ _ h.1 h.2.1 h.2.2.1, effsOf]
  | port p => simp [msgId, body, dispatch, get16_be16 _ h.1, effsOf]
  | piece i b d =>
    obtain ⟨hi, hb, hd, -⟩ := h
    have hbl : (body (.piece i b d)).length = 8 + d.length := by simp [body, be32_length]; omega
    rw [hbl]
    have h3 : (8 + d.length + 4294967288) % 4294967296 = d.length := by omega
    have h2 : ¬ (maxBlock < d.length) := by simp [maxBlock]; omega
    have h5 : ¬ (poolBufLen < d.length) := by simp [poolBufLen]; omega
    simp [msgId, body, dispatch, get32_be32 _ hi, get32_be32 _ hb, pieceLen, h3, h2, h5, take?_append, effsOf]
  | ext eid p =>
    obtain ⟨rfl, -, -, hwp⟩ := h
    -- the reader matches on the pair the decoder returns: its first component is `p`, its second enters `effsOf`
    have hrt : Bencode.parseExt (Bencode.kindId p) (Bencode.encPayload p) =
        (some p, (Bencode.parseExt (Bencode.kindId p) (Bencode.encPayload p)).2) :=
      Prod.ext (Bencode.parseExt_encPayload p hwp) rfl
    simp only [msgId, dispatch, take?_append, body]
    rw [hrt]
    simp [effsOf, Nat.add_comm]

theorem get32_len {r r' : Bytes} {x : Nat} (h : get32 r = some (x, r')) : r'.length + 4 = r.length := by
  unfold get32 at h
  split at h
  · cases h; simp
  · cases h

theorem get16_len {r r' : Bytes} {x : Nat} (h : get16 r = some (x, r')) : r'.length + 2 = r.length := by
  unfold get16 at h
  split at h
  · cases h; simp
  · cases h

theorem get32x3_len {r r' : Bytes} {i b l : Nat} (h : get32x3 r = some (i, b, l, r')) : r'.length + 12 = r.length := by
  unfold get32x3 at h
  split at h
  · cases h
  · rename_i i1 r1 h1
    split at h
    · cases h
    · rename_i b1 r2 h2
      split at h
      · cases h
      · rename_i l1 r3 h3
        cases h
        have := get32_len h1; have := get32_len h2; have := get32_len h3
        omega

def StepOk (max n : Nat) : Step → Prop
  | .msg m e rest => rest.length < n ∧ (∀ x ∈ e, EffOk max x) ∧ MsgOk max m
  | .skip rest => rest.length < n
  | .stop err e => (∀ x ∈ e, EffOk max x) ∧ err ≠ .panic ∧ err ≠ .fuel

/- Every branch of `dispatch` reads the body with readers that each take a fixed number of bytes off the front
(`get32_len`, `get16_len`, `get32x3_len`, `take?_len'`), so the rest is no longer than `r`; what it allocates is a
length it has read and compared with `len` or the block limit. The readers are kept opaque so that `simp` leaves
their equations as hypotheses for these lemmas. -/
attribute [local irreducible] get32 get16 get32x3 Bencode.take? Bencode.parseExt pieceLen in
theorem dispatch_ok (max id len : Nat) (r : Bytes) {n : Nat} (hlen : len ≤ max) (hn : r.length < n) :
    StepOk max n (dispatch id len r) := by
  fun_cases dispatch id len r
  all_goals simp [StepOk, EffOk, MsgOk, hlen, hn]
  -- left are the branches that took a body off `r`, in the order of the `switch`: have, bitfield, request, reject,
  -- cancel, piece (three ends), allowedFast, port, extension (two ends), unknown id
  · have := get32_len ‹_›; omega
  · have := Bencode.take?_len' ‹_›; omega
  · have := get32x3_len ‹_›; omega
  · have := get32x3_len ‹_›; omega
  · have := get32x3_len ‹_›; omega
  · exact ‹¬pieceLen len > maxBlock› ‹_›                  -- the pool's buffers are `maxBlock` long
  · omega
  · have := get32_len ‹get32 r = _›
    have := get32_len ‹_›
    have := Bencode.take?_len' ‹_›
    omega
  · have := get32_len ‹_›; omega
  · have := get16_len ‹_›; omega
  · obtain ⟨h, -⟩ := Bencode.take?_len' ‹_›               -- the decoder's strings lie within the payload
    intro a ha
    have := Bencode.parseExt_strLens ‹_› a ha
    rw [List.length_cons] at h; omega
  · obtain ⟨h, _⟩ := Bencode.take?_len' ‹_›
    refine ⟨by omega, fun a ha => ?_⟩
    have := Bencode.parseExt_strLens ‹_› a ha
    rw [List.length_cons] at h; omega
  · have := Bencode.take?_len' ‹_›; omega

theorem step_ok {max : Nat} {bs : Bytes} {st : Step} (h : step max bs = st) : StepOk max bs.length st := by
  subst h
  fun_cases step max bs
  · simp [StepOk]
  · have := get32_len ‹_›; simp [StepOk]; omega
  · simp [StepOk]
  · simp [StepOk]
  · have := get32_len ‹_›
    exact dispatch_ok max _ _ _ (by omega) (by rw [List.length_cons] at this; omega)

theorem runAux_ok (max : Nat) : ∀ (f : Nat) (bs : Bytes), bs.length < f →
    (runAux max f bs).err ≠ .panic ∧ (runAux max f bs).err ≠ .fuel ∧
    (∀ x ∈ (runAux max f bs).effs, EffOk max x) ∧ (∀ m ∈ (runAux max f bs).msgs, MsgOk max m) := by
  intro f
  induction f with
  | zero => intro bs h; omega
  | succ f ih =>
    intro bs h
    unfold runAux
    cases hstep : step max bs with
    | stop err e =>
      obtain ⟨he, hp, hf⟩ := step_ok hstep
      exact ⟨hp, hf, he, fun _ hm => nomatch hm⟩
    | skip rest =>
      have hlt : rest.length < bs.length := step_ok hstep
      exact ih rest (by omega)
    | msg m e rest =>
      obtain ⟨hlt, he, hm⟩ := step_ok hstep
      obtain ⟨hp, hf, hes, hms⟩ := ih rest (by omega)
      exact ⟨hp, hf, fun x hx => (List.mem_append.1 hx).elim (he x) (hes x), List.forall_mem_cons.2 ⟨hm, hms⟩⟩

theorem runAux_fuel (max : Nat) : ∀ (f1 f2 : Nat) (bs : Bytes), bs.length < f1 → bs.length < f2 →
    runAux max f1 bs = runAux max f2 bs := by
  intro f1
  induction f1 with
  | zero => intro f2 bs h; omega
  | succ f1 ih =>
    intro f2 bs h1 h2
    cases f2 with
    | zero => omega
    | succ f2 =>
      unfold runAux
      cases hstep : step max bs with
      | stop e effs => rfl
      | skip rest =>
        have hlt : rest.length < bs.length := step_ok hstep
        exact ih f2 rest (by omega) (by omega)
      | msg m e rest =>
        obtain ⟨hlt, -, -⟩ := step_ok hstep
        simp only
        rw [ih f2 rest (by omega) (by omega)]

/-- The reader loop as an equation on streams (fuel eliminated). -/
theorem run_eq (max : Nat) (bs : Bytes) :
    run max bs = match step max bs with
      | .stop e effs => ⟨[], effs, e⟩
      | .skip rest => run max rest
      | .msg m effs rest => ⟨m :: (run max rest).msgs, effs ++ (run max rest).effs, (run max rest).err⟩ := by
  unfold run
  rw [runAux]
  cases hstep : step max bs with
  | stop e effs => rfl
  | skip rest =>
    have hlt : rest.length < bs.length := step_ok hstep
    exact runAux_fuel max _ _ rest (by omega) (by omega)
  | msg m e rest =>
    obtain ⟨hlt, -, -⟩ := step_ok hstep
    simp only
    rw [runAux_fuel max _ (rest.length + 1) rest (by omega) (by omega)]

theorem run_nil (max : Nat) : run max [] = ⟨[], [], .eof⟩ := by
  rw [run_eq]; rfl

theorem run_encode_cons (max : Nat) (m : Msg) (h : WFMsg max m) (rest : Bytes) :
    run max (encode m ++ rest) =
      ⟨m :: (run max rest).msgs, effsOf m ++ (run max rest).effs, (run max rest).err⟩ := by
  rw [run_eq, step_encode max m h rest]

theorem run_keepAlive (max : Nat) (rest : Bytes) : run max (keepAlive ++ rest) = run max rest := by
  rw [run_eq]; rfl

theorem run_encodeAll (max : Nat) (ms : List Msg) (h : ∀ m ∈ ms, WFMsg max m) (tail : Bytes) :
    run max (encodeAll ms ++ tail) =
      ⟨ms ++ (run max tail).msgs, ms.flatMap effsOf ++ (run max tail).effs, (run max tail).err⟩ := by
  induction ms with
  | nil => simp [encodeAll]
  | cons m r ih =>
    have hm := h m (by simp)
    have hr : ∀ x ∈ r, WFMsg max x := fun x hx => h x (by simp [hx])
    simp only [encodeAll, List.flatMap_cons, List.append_assoc]
    rw [run_encode_cons max m hm]
    have := ih hr
    simp only [encodeAll] at this
    rw [this]
    simp

end Rain.Codec
