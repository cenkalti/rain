import RainModel.Lemmas.LoopHaves
import RainModel.Lemmas.LoopPeers
import RainModel.Lemmas.LoopWeak
/-!
`reported_only_verified` for a whole `step`: every string the loop sends other than the two families of
`have:i` messages (after a completed write, after a verification) is not a `have` message, so every
`have:i` in the outputs of a step names a piece whose verified bytes are on disk at the end of the step.
-/
namespace Rain.Loop

/-- Every `have:i` among the messages sent so far in this op names a piece whose bytes on disk are verified. -/
def HavesOK (m : M) : Prop := ∀ o ∈ m.2, ∀ i, o.msg = haveMsg i → m.1.diskOKi i = true

theorem HavesOK.next {m m' : M} (h : HavesOK m) (a : Adv m.1 m'.1) (hn : NewOK m m') : HavesOK m' := by
  intro o ho i hi
  rcases hn o ho with h' | h'
  · exact diskOKi_mono a.cfg a.bad i (h o h' i hi)
  · exact h' i hi

theorem HavesOK.nil (s : St) : HavesOK (s, []) := fun _ ho => by cases ho

theorem Link.newOK {m m' : M} (l : Link m m') (h : Sound0 m.1) (hw : WrOK m.1) : NewOK m m' := by
  cases l with
  | stopped _ _ => exact (Sends.congr (handleStopped_snd m)).2 (Sends.refl m)
  | alloc _ => exact allocatorRun_sends (Sends.refl m)
  | verify _ => exact handleVerificationDone_newOK m
  | deliver j hj hwr => exact handlePieceWriteDone_haves m j false fun _ _ hg hl => hw.ok j hj hwr hg hl
  | write j _ _ => exact writerRun_haves m j h

theorem handle_sound0 (s : St) (p : Parked) (kn : Nat → Bool) (op : Op) (h : Sound0 s) :
    Sound0 (handle s p kn op).1.1 :=
  handle_of_adv Sound0.adv s p kn op h fun f how _ => mutate_sound0 s f how h

/-- **Every `have:i` the loop sends in a step names a piece whose verified bytes are on disk at the end of
the step** (any op, any parameters, a parked piece message or not). -/
theorem step_havesOK (s : St) (p : Parked) (kn : Nat → Bool) (op : Op) (h : Sound0 s) (hw : WrOK s) :
    ∀ o ∈ (step s p kn op).1.outs, ∀ i, o.msg = haveMsg i → (step s p kn op).1.st.diskOKi i = true :=
  (step_invM (P := fun m => Sound0 m.1 ∧ WrOK m.1 ∧ HavesOK m) s p kn op
    ⟨handle_sound0 _ p kn op ⟨h.cfg, h.bad⟩, handle_wrOK _ p kn op hw.of_frame,
      fun o ho i hi => absurd hi (handle_noHave _ p kn op o ho i)⟩
    (runWorkers_ind (fun _ _ l ⟨h, hw, hv⟩ => let ⟨a, w'⟩ := l.adv h hw; ⟨h.adv a, w', hv.next a (l.newOK h hw)⟩) 12)
    fun m k i b l g ⟨h, hw, hv⟩ _ =>
      have a := handlePieceMessage_adv m k i b l g
      ⟨h.adv a, handlePieceMessage_wrOK m k i b l g hw,
        hv.next a ((Sends.congr (handlePieceMessage_snd ..)).2 (Sends.refl m))⟩).2.2

/-! `Sound0` needs nothing about held write results: the configuration is constant and `bad` only shrinks. -/

theorem writerRun_bad_sub (m : M) (w : WriteJob) : ∀ x ∈ (writerRun m w).1.bad, x ∈ m.1.bad := by
  intro x hx
  rcases writerRun_disk m w with h | ⟨_, _, _, _, h, _⟩ <;> rw [h] at hx
  · exact hx
  · exact (List.mem_filter.1 hx).1

theorem runWorkers_bad_sub (fuel : Nat) (m : M) : ∀ x ∈ (runWorkers fuel m).1.bad, x ∈ m.1.bad := by
  refine runWorkers_inv (P := fun m' => ∀ x ∈ m'.1.bad, x ∈ m.1.bad) ?_ ?_ ?_ ?_ ?_ fuel m (fun _ hx => hx)
  · intro m' _ _ h; rwa [(handleStopped_writes m').bad]
  · intro m' _ h; rwa [(allocatorRun_writes m').bad]
  · intro m' _ h; rwa [(handleVerificationDone_writes m').bad]
  · intro m' w _ _ h; rwa [(handlePieceWriteDone_writes m' w false).bad]
  · intro m' w _ h x hx; exact h x (writerRun_bad_sub m' w x hx)

/-- After the handler a step keeps the configuration and only shrinks `bad`: what survives that survives the step. -/
theorem step_of_bad_sub {P : St → Prop}
    (mono : ∀ {t t' : St}, P t → t'.cfg = t.cfg → (∀ x ∈ t'.bad, x ∈ t.bad) → P t')
    (s : St) (p : Parked) (kn : Nat → Bool) (op : Op)
    (h : P (handle s.opStart p kn op).1.1) :
    P (step s p kn op).1.st :=
  step_inv s p kn op h (fun m h => mono h (runWorkers_writes 12 m).cfg (runWorkers_bad_sub 12 m))
    fun m k i b l g h _ =>
      mono h (handlePieceMessage_writes m k i b l g).cfg fun _ hx => (handlePieceMessage_writes m k i b l g).bad ▸ hx

theorem step_sound0 (s : St) (p : Parked) (kn : Nat → Bool) (op : Op) (h : Sound0 s) :
    Sound0 (step s p kn op).1.st :=
  step_of_bad_sub Sound0.of_sub s p kn op (handle_sound0 _ p kn op ⟨h.cfg, h.bad⟩)

theorem dstep_sound0 (sp : St × Parked) (e : Ev) (h : Sound0 sp.1) : Sound0 (dstep sp e).1 :=
  (step_sound0 sp.1 sp.2 e.known e.op h).adv (dstep_after_step sp e)

theorem drun_sound0 (evs : List Ev) (sp : St × Parked) (h : Sound0 sp.1) : Sound0 (drun sp evs).1 :=
  foldl_inv (fun sp => Sound0 sp.1) dstep dstep_sound0 evs sp h

end Rain.Loop
