import RainModel.Lemmas.LoopWInvMsg
import RainModel.Lemmas.LoopStart
import RainModel.Lemmas.LoopWeak
/-!
`WInv` (continued): states without a current job (`WInv.of_noJob`, `WInv.unloaded`, the initial state), commands
(`stop`, `start`, `verify`), the end of the metadata download, and the completion check.
-/
namespace Rain.Loop

/-- No current job: any write in flight is stale, or no pieces are loaded. -/
theorem WInv.of_noJob {s : St}
    (hg : ∀ w, s.writing = some w → w.gen ≤ s.gen ∧ (s.loaded = true → w.gen ≠ s.gen))
    (hwf : s.loaded = true → ∀ i, s.wflag.getD i false = false) (hwl : s.loaded = true → s.wflag.length = s.n)
    (hd : s.dls = []) (hq : QueueOK s)
    (hbd : s.loaded = true → s.verifier = false → ∀ b, s.bf = some b →
      b.length ≤ s.done.length ∧ ∀ i, b.getD i false = true → s.done.getD i false = true)
    (hal : s.allocator = true → s.loaded = false) (hid : s.info = true → s.idls = []) : WInv s :=
  ⟨hq, fun hl i hi => Bool.noConfusion ((hwf hl i).symm.trans hi), fun w hw => (hg w hw).1,
    fun w hw e hl => absurd e ((hg w hw).2 hl), hwl, fun w hw e hl => absurd e ((hg w hw).2 hl), hbd,
    fun d hd' => (nomatch (hd ▸ hd' : d ∈ [])), fun hne => absurd hd hne, hal, hid⟩

theorem WInv.unloaded {s s' : St} (h : WInv s) (h3 : s'.writing = s.writing)
    (h4 : s'.gen = s.gen) (hl : s'.loaded = false) (hd : s'.dls = []) (hi : s'.info = true → s'.idls = [])
    (hq : QueueOK s') : WInv s' :=
  have no {p : Prop} (hl' : s'.loaded = true) : p := Bool.noConfusion (hl.symm.trans hl')
  .of_noJob (fun w hw => ⟨h4 ▸ h.wg w (h3 ▸ hw), no⟩) no no hd hq no (fun _ => hl) hi

theorem queueOK_of_nil {s : St} (h : s.peers = []) : QueueOK s := by
  intro p hp; rw [h] at hp; cases hp

theorem InitLike.winv {s : St} (h : InitLike s) (hw : ∀ w, s.writing = some w → w.gen ≤ s.gen) : WInv s :=
  have no {p : Prop} (hl : s.loaded = true) : p := Bool.noConfusion (h.loaded.symm.trans hl)
  .of_noJob (fun w hw' => ⟨hw w hw', no⟩) no no h.dls (queueOK_of_nil h.peers) no
    (fun ha => Bool.noConfusion (h.allocator.symm.trans ha)) fun _ => h.idls

theorem stop_winv (s : St) (e : Bool) (h : WInv s) : WInv (s.stop e) :=
  stop_cases s e h fun _ =>
    have F := stopRun_fields s e
    have W := stopRun_writes s e
    h.unloaded W.writing W.gen F.loaded F.dls (fun _ => F.idls) (queueOK_of_nil F.peers)

theorem WInv.unloaded_of_writes {w : List Fld} {s s' : St} (h : WInv s) (W : Writes w s s') (hl : s.loaded = false)
    (hd : s.dls = [])
    (hw : ∀ x ∈ [Fld.writing, .gen, .loaded, .dls, .info, .idls, .peers], x ∉ w := by decide) : WInv s' := by
  simp only [List.forall_mem_cons, List.not_mem_nil, false_imp_iff, implies_true, and_true] at hw
  obtain ⟨w2, w3, w4, w5, w6, w7, w8⟩ := hw
  exact h.unloaded (W.writing w2) (W.gen w3) ((W.loaded w4).trans hl) ((W.dls w5).trans hd)
    (by rw [W.info w6, W.idls w7]; exact h.id) (h.q.of_peers (W.peers w8))

theorem startCore_winv (m : M) (h : WInv m.1) (hl : m.1.loaded = false) (hd : m.1.dls = []) :
    WInv (startCore m).1 :=
  h.unloaded_of_writes (startCore_writes m) hl hd

theorem handleStopped_winv (m : M) (h : WInv m.1) (l : Life m.1) (hs : m.1.stopAnn = true) :
    WInv (handleStopped m).1 := by
  obtain ⟨_, _, i3, _, _, _, i7, _⟩ := l.idle (Or.inr hs)
  exact h.unloaded_of_writes (handleStopped_writes m) i3 i7

theorem start_winv (m : M) (h : WInv m.1) (l : Life m.1) : WInv (start m).1 := by
  by_cases hr : m.1.errC = true ∧ m.1.stopAnn = false
  · rw [start_of_running m hr.1 hr.2]; exact h
  · obtain ⟨_, _, i3, _, _, _, i7, _⟩ := l.idle (not_running hr)
    exact h.unloaded_of_writes (start_writes m) i3 i7

theorem handleVerifyCommand_winv (m : M) (h : WInv m.1) (l : Life m.1) : WInv (handleVerifyCommand m).1 :=
  handleVerifyCommand_cases (P := fun x => WInv x.1) m
    (fun hst =>
      have ⟨_, _, i3, _, _, _, i7, _⟩ := l.idle (Or.inl ((status_stopped_iff _).1 hst))
      startCore_winv _ (h.unloaded rfl rfl i3 i7 h.id h.q) i3 i7)
    fun _ => onSt_stop _ _ _ (stop_winv _ _ (h.frame (by wframe_eq)))

theorem hmdStart_winv (m : M) (h : WInv m.1) (hl : m.1.loaded = false) (hd : m.1.dls = []) (hid : m.1.idls = []) :
    WInv (hmdStart m).1 :=
  hmdStart_cases (P := fun x => WInv x.1) m (fun _ => onSt_stop _ _ _ (stop_winv _ _ h)) fun _ => by
    simp only [onSt_fst]
    split
    · exact h.unloaded_of_writes (crash_writes m.1 _) hl hd
    · exact h.unloaded rfl rfl hl hd (fun _ => hid) h.q

/-- The last block has arrived and is stored (`m'`): the metadata downloads are dropped and the info is adopted. -/
theorem hmdAdopt_winv (m m' : M) (h : WInv m.1) (W : Writes [.idls] m.1 m'.1) (hl : m.1.loaded = false)
    (hd : m.1.dls = []) : WInv (hmdAdopt m').1 :=
  have hl' := W.loaded.trans hl
  have hd' := W.dls.trans hd
  have h0 : ∀ i md, WInv ({ m'.1 with idls := [], info := i, metaDone := md } : St) := fun _ _ =>
    h.unloaded W.writing W.gen hl' hd' (fun _ => rfl) (h.q.of_peers W.peers)
  hmdAdopt_cases (P := fun x => WInv x.1) m' (fun _ => onSt_stop _ _ _ (stop_winv _ _ (h0 _ _))) fun _ _ =>
    hmdStart_winv _ (h0 _ _) hl' hd' rfl

theorem handleMetadataData_winv (m : M) (k i len : Nat) (g : Bool) (h : WInv m.1) (l : Life m.1) :
    WInv (handleMetadataData m k i len g).1 := by
  cases hi : m.1.info
  · -- the info is unknown, so nothing is loaded and no piece is downloaded; every block but the last is bookkeeping
    obtain ⟨_, _, n3, _⟩ := l.ni hi
    exact handleMetadataData_ind (fun s' => Shrinks m.1 s' → WInv s') m k i len g
      (fun _ W S => h.frame (.of_shrinks W S))
      (fun m' W _ => hmdAdopt_winv m m' h W n3 (h.no_dls fun c => Bool.noConfusion (n3.symm.trans c.1)))
      (handleMetadataData_shrinks m k i len g (.refl _))
  · -- the info is known: no metadata download runs, the block is dropped
    rw [handleMetadataData_eq, h.id hi]
    exact h

theorem foldl_closeDl_dls (l : List Dl) (t : St) :
    ∀ x ∈ (l.foldl (fun s d => s.closeDl d.k) t).dls, x ∈ t.dls ∧ ∀ d ∈ l, x.k ≠ d.k := by
  induction l generalizing t with
  | nil => intro x hx; exact ⟨hx, fun d hd => by cases hd⟩
  | cons a l ih =>
    intro x hx
    obtain ⟨h1, h2⟩ := ih (t.closeDl a.k) x hx
    rw [closeDl_dls, List.mem_filter] at h1
    refine ⟨h1.1, fun d hd => ?_⟩
    rcases List.mem_cons.1 hd with rfl | hd
    · simpa using h1.2
    · exact h2 d hd

theorem foldl_closeDl_self (t : St) : (t.dls.foldl (fun s d => s.closeDl d.k) t).dls = [] := by
  rw [List.eq_nil_iff_forall_not_mem]
  intro x hx
  obtain ⟨h1, h2⟩ := foldl_closeDl_dls t.dls t x hx
  exact h2 x h1 rfl

theorem checkCompletion_closed (s : St) :
    s.checkCompletion.1.completed = true → s.completed = true ∨ s.checkCompletion.1.dls = [] := by
  unfold St.checkCompletion
  split
  · exact .inl
  split
  · exact fun h => .inl ((crash_writes s _).completed ▸ h)
  split
  · exact .inl
  · exact fun _ => .inr (foldl_closeDl_self _)

theorem checkCompletion_wframe (s : St) : WFrame s s.checkCompletion.1 :=
  have W := checkCompletion_writes s
  have S := checkCompletion_shrinks s (.refl s)
  ⟨W.cfg, W.wflag, W.writing, W.gen, W.loaded, W.verifier, W.allocator, W.bf, W.done, W.info,
    checkCompletion_closed s, S.dls, S.widls, S.wq⟩

theorem QueueOK.checkCompletion {s : St} (h : QueueOK s) : QueueOK s.checkCompletion.1 :=
  (checkCompletion_shrinks s (.refl s)).queueOK h

theorem hadReady_wframe (m : M) (h : QueueOK m.1) : WFrame m.1 (hadReady m).1 := by
  unfold hadReady
  simp only [onSt_fst]
  exact ((processQueued_wframe m h).1.trans (by wframe_eq)).trans (.of_writes_eq (startDls_writes _))

theorem hadCheck_winv (m : M) (h : WInv m.1) : WInv (hadCheck m).1 :=
  have h1 : WInv m.1.checkCompletion.1 := h.frame (checkCompletion_wframe _)
  hadCheck_cases (P := fun x => WInv x.1) m (fun _ => onSt_stop _ _ _ (stop_winv _ _ h1))
    (h1.frame (hadReady_wframe (m.1.checkCompletion.1, m.2) h1.q))

theorem hadCheck_no_panic (m : M) (hbf : m.1.bf.isSome = true) (hcc : m.1.completeCClosed = true → m.1.completed = true)
    (hq : QueueOK m.1) : (hadCheck m).1.panicked = m.1.panicked :=
  have h1 := checkCompletion_no_panic m.1 (Or.inr hbf) hcc
  hadCheck_cases (P := fun x => x.1.panicked = m.1.panicked) m (fun _ => (stop_panicked _ _).trans h1)
    (by unfold hadReady
        simp only [onSt_fst, startDls_panicked]
        exact (processQueued_no_panic (m.1.checkCompletion.1, m.2) hq.checkCompletion).1.trans h1)

theorem pwdFinish_winv (m : M) (h : WInv m.1) : WInv (pwdFinish m).1 :=
  have h1 : WInv m.1.checkCompletion.1 := h.frame (checkCompletion_wframe _)
  have h2 := h1.frame (.of_writes_eq (writeBitfield_writes _))
  pwdFinish_cases (P := fun x => WInv x.1) m (fun _ => h1) (fun _ => h2) fun _ => onSt_stop _ _ _ (stop_winv _ _ h2)

end Rain.Loop
