import RainModel.Model.Adopt
import RainModel.Lemmas.InfoDownloader
/-! Helper lemmas for `adopt_only_if_hash` and `size_cap` (C13). -/
namespace Rain.Adopt
open Rain.InfoDL

variable {Hash : Type}

/-- The announced size passes the cap and the peer supports `ut_metadata`. -/
def GoodHs (env : Env Hash) (h : Handshake) : Prop :=
  0 < h.msize ∧ h.msize ≤ env.maxSize ∧ h.hasMeta = true

/-- A metadata request that is justified against the peer table `peers`. -/
def ReqOk (env : Env Hash) (peers : List Peer) (o : Out) : Prop :=
  ∀ p i, o = Out.request p i →
    ∃ pe ∈ peers, pe.id = p ∧ ∃ h, pe.hs = some h ∧ GoodHs env h ∧ i < numBlocks blockSize (peerMetadataSize h)

structure Inv (env : Env Hash) (s : State) : Prop where
  nodup : (s.peers.map (·.id)).Nodup
  nonneg : ∀ pe ∈ s.peers, ∀ h, pe.hs = some h → 0 ≤ h.msize
  dls : ∀ e ∈ s.dls, ∃ pe ∈ s.peers, pe.id = e.1 ∧ ∃ h, pe.hs = some h ∧ GoodHs env h ∧
          WF blockSize (peerMetadataSize h) e.2
  hash : ∀ b, s.info = some b → env.H b = env.infoHash ∧ env.parseInfo b = some false
  nopanic : s.panicked = false

def Ok (env : Env Hash) (r : State × List Out) : Prop := Inv env r.1 ∧ ∀ o ∈ r.2, ReqOk env r.1.peers o

theorem Ok.quiet {env : Env Hash} {s : State} (h : Inv env s) : Ok env (s, []) := ⟨h, nofun⟩

theorem Ok.closed {env : Env Hash} {r : State × List Out} (h : Ok env r) (p : PeerId) :
    Ok env (r.1, Out.closePeer p :: r.2) :=
  ⟨h.1, fun o ho => (List.mem_cons.1 ho).elim (fun e _ _ e' => by cases e.symm.trans e') (h.2 o)⟩

theorem inv_init (env : Env Hash) : Inv env State.init :=
  ⟨List.nodup_nil, nofun, nofun, nofun, rfl⟩

theorem nextInfoDownload_spec (env : Env Hash) (s : State) (pick : Option PeerId) (pe : Peer)
    (h : nextInfoDownload env s pick = some pe) : pe ∈ s.peers ∧ eligible env s pe = true := by
  unfold nextInfoDownload at h
  dsimp only at h
  split at h
  · rename_i p hp
    cases h
    obtain ⟨id, _, hf⟩ := Option.bind_eq_some_iff.1 hp
    exact List.mem_filter.1 (List.mem_of_find?_eq_some hf)
  · exact List.mem_filter.1 (List.mem_of_mem_head? h)

theorem eligible_good (env : Env Hash) (s : State) (pe : Peer) (hne : ∀ h, pe.hs = some h → 0 ≤ h.msize)
    (he : eligible env s pe = true) : ∃ h, pe.hs = some h ∧ GoodHs env h := by
  unfold eligible at he
  cases hh : pe.hs with
  | none => simp [hh] at he
  | some h =>
    simp only [hh, Bool.and_eq_true, Bool.not_eq_eq_eq_not, Bool.not_true, bne_iff_ne, ne_eq,
      decide_eq_false_iff_not, Int.not_lt] at he
    have := hne h hh
    refine ⟨h, rfl, ?_, he.2.1.2, he.2.2⟩
    have := he.2.1.1
    omega

theorem reqOk_requestBlocks (env : Env Hash) {peers : List Peer} {pe : Peer} (hmem : pe ∈ peers) {h : Handshake}
    (hh : pe.hs = some h) (hg : GoodHs env h) {id : ID} (hwf : WF blockSize (peerMetadataSize h) id) (q : Int) :
    ∀ o ∈ (requestBlocks id q).2.map (Out.request pe.id), ReqOk env peers o := by
  intro o ho
  obtain ⟨i, hi, rfl⟩ := List.mem_map.1 ho
  intro p j e
  cases e
  exact ⟨pe, hmem, rfl, h, hh, hg, requestBlocks_sent_lt hwf q _ hi⟩

theorem inv_closePeer (env : Env Hash) (s : State) (p : PeerId) (hI : Inv env s) : Inv env (closePeer s p) := by
  refine ⟨?_, ?_, ?_, hI.hash, hI.nopanic⟩
  · exact hI.nodup.sublist ((List.filter_sublist).map _)
  · intro pe hpe; exact hI.nonneg pe (List.mem_filter.1 hpe).1
  · intro e he
    have he' := List.mem_filter.1 he
    obtain ⟨pe, hpe, hid, rest⟩ := hI.dls e he'.1
    refine ⟨pe, List.mem_filter.2 ⟨hpe, ?_⟩, hid, rest⟩
    rw [hid]; exact he'.2

theorem mem_setDl {dls : List (PeerId × ID)} {p : PeerId} {id : ID} {e : PeerId × ID} (h : e ∈ setDl dls p id) :
    e = (p, id) ∨ e ∈ dls := by
  obtain ⟨e', he', rfl⟩ := List.mem_map.1 h
  split
  · exact .inl rfl
  · exact .inr he'

theorem inv_setHs (env : Env Hash) {s : State} (hI : Inv env s) {pe0 : Peer} {p : PeerId} (hpe0 : pe0 ∈ s.peers)
    (hid0 : pe0.id = p) (hnone : pe0.hs = none) (h : Handshake) (h0 : 0 ≤ h.msize) :
    Inv env { s with peers := s.peers.map fun x => if x.id == p then ⟨p, some h⟩ else x } := by
  refine ⟨?_, ?_, ?_, hI.hash, hI.nopanic⟩
  · have : (s.peers.map fun x => if x.id == p then (⟨p, some h⟩ : Peer) else x).map (·.id) = s.peers.map (·.id) := by
      rw [List.map_map]
      apply List.map_congr_left
      intro x _
      by_cases hx : x.id = p <;> simp [hx]
    simp only [this]; exact hI.nodup
  · intro pe hpe h' hh
    obtain ⟨x, hx, rfl⟩ := List.mem_map.1 hpe
    by_cases hxp : x.id = p
    · simp only [hxp, beq_self_eq_true, ↓reduceIte, Option.some.injEq] at hh
      subst hh
      exact h0
    · simp only [beq_iff_eq, hxp, ↓reduceIte] at hh
      exact hI.nonneg x hx h' hh
  · intro e he
    obtain ⟨pe, hpe, hid, h', hh, rest⟩ := hI.dls e he
    have hne : pe.id ≠ p := by
      intro heq
      have := eq_of_nodup_map (·.id) hI.nodup hpe hpe0 (heq.trans hid0.symm)
      subst this
      rw [hnone] at hh; cases hh
    exact ⟨pe, List.mem_map.2 ⟨pe, hpe, by simp [hne]⟩, hid, h', hh, rest⟩

theorem startLoop_spec (env : Env Hash) :
    ∀ (fuel : Nat) (s : State) (picks : List PeerId) (outs : List Out),
      Ok env (s, outs) → Ok env (startLoop env fuel s picks outs) := by
  intro fuel
  induction fuel with
  | zero => exact fun _ _ _ h => h
  | succ fuel ih =>
    intro s picks outs hok
    have hI : Inv env s := hok.1
    simp only [startLoop]
    split
    · split
      · exact hok
      · rename_i pe hpe
        obtain ⟨hmem, hel⟩ := nextInfoDownload_spec env s _ pe hpe
        obtain ⟨h, hh, hg⟩ := eligible_good env s pe (hI.nonneg pe hmem) hel
        simp only [hh]
        have hwf : WF blockSize (peerMetadataSize h) (new (peerMetadataSize h)) := wf_new blockSize_pos
        obtain ⟨w, _⟩ := requestBlocks_spec hwf (env.queue pe.id)
        refine ih _ _ _ ⟨⟨hI.nodup, hI.nonneg, fun e he => ?_, hI.hash, hI.nopanic⟩, fun o hmo => ?_⟩
        · rcases List.mem_append.1 he with he | he
          · exact hI.dls e he
          · cases List.mem_singleton.1 he
            exact ⟨pe, hmem, rfl, h, hh, hg, w⟩
        · rcases List.mem_append.1 hmo with h1 | h1
          · exact hok.2 o h1
          · exact reqOk_requestBlocks env hmem hh hg hwf _ o h1
    · exact hok

theorem start_after (env : Env Hash) (s : State) (picks : List PeerId) (hI : Inv env s) :
    Ok env (startInfoDownloaders env s picks) := by
  unfold startInfoDownloaders
  split
  · exact .quiet hI
  · exact startLoop_spec env _ s picks [] (.quiet hI)

variable [DecidableEq Hash]

/-- `.stop r true` is the resume-write error path, which has set `t.info` as adoption does. -/
theorem decide_spec (env : Env Hash) (bytes : Bytes) :
    (decide_ env bytes = .adopt ↔
      env.H bytes = env.infoHash ∧ env.parseInfo bytes = some false ∧ env.writeOk bytes = true) ∧
    (∀ r, decide_ env bytes = .stop r true → env.H bytes = env.infoHash ∧ env.parseInfo bytes = some false) := by
  unfold decide_
  by_cases hH : env.H bytes = env.infoHash
  · simp only [hH, ne_eq, not_true_eq_false, ↓reduceIte, true_and]
    cases env.parseInfo bytes with
    | none => simp
    | some pv => cases pv <;> cases env.writeOk bytes <;> simp
  · simp [hH]

/-- The requests sent are justified against the peer table *after* the event. -/
theorem step_spec (env : Env Hash) (s : State) (e : Event) (hI : Inv env s) : Ok env (step env s e) := by
  cases e with
  | connect p =>
    by_cases hnot : s.peers.any (·.id == p) = true
    · simp only [step, if_pos hnot]; exact .quiet hI
    · simp only [step, if_neg hnot]
      refine .quiet ⟨?_, ?_, ?_, hI.hash, hI.nopanic⟩
      · simp only [List.map_append, List.map_cons, List.map_nil]
        refine nodup_concat hI.nodup fun ha => hnot ?_
        obtain ⟨pe, hpe, rfl⟩ := List.mem_map.1 ha
        simp only [List.any_eq_true, beq_iff_eq]
        exact ⟨pe, hpe, rfl⟩
      · intro pe hpe h hh
        rcases List.mem_append.1 hpe with h1 | h1
        · exact hI.nonneg pe h1 h hh
        · simp only [List.mem_singleton] at h1; subst h1; cases hh
      · intro e he
        obtain ⟨pe, hpe, rest⟩ := hI.dls e he
        exact ⟨pe, List.mem_append_left _ hpe, rest⟩
  | handshake p raw hasMeta picks =>
    cases hfind : s.peers.find? (·.id == p) with
    | none => simp only [step, hfind]; exact .quiet hI
    | some pe0 =>
      have hpe0 := List.mem_of_find?_eq_some hfind
      have hid0 : pe0.id = p := by simpa using List.find?_some hfind
      cases hnone : pe0.hs with
      | some _ => simp only [step, hfind, hnone, Option.isSome_some, if_true]; exact .quiet hI
      | none =>
        have hI1 := inv_setHs env hI hpe0 hid0 hnone ⟨clampSize raw, hasMeta⟩
          (by simp only [clampSize]; split <;> omega)
        simp only [step, hfind, hnone, Option.isSome_none, Bool.false_eq_true, if_false]
        cases hasMeta with
        | true => exact start_after env _ picks hI1
        | false => exact .quiet hI1
  | data p index data picks =>
    cases hfind : s.dls.find? (·.1 == p) with
    | none => simp only [step, hfind]; exact .quiet hI
    | some xd =>
      obtain ⟨x, id⟩ := xd
      have hmem := List.mem_of_find?_eq_some hfind
      have hxp : x = p := by simpa using List.find?_some hfind
      subst hxp
      obtain ⟨pe, hpe, hid, h, hh, hg, hwf⟩ := hI.dls _ hmem
      simp only at hid hwf
      have hI2 := inv_closePeer env s x hI
      rcases gotBlock_cases blockSize_pos hwf index data with ⟨_, e⟩ | ⟨hn, hl, hrc, e⟩
      · simp only [step, hfind, e]
        exact (start_after env _ picks hI2).closed x
      · simp only [step, hfind, e]
        have hwf1 := wf_stored blockSize_pos hwf hn hl hrc
        cases done (stored blockSize (peerMetadataSize h) id index data) with
        | false =>
          simp only [Bool.not_false, if_true]
          obtain ⟨w2, _, _, _, _, _⟩ := requestBlocks_spec hwf1 (env.queue x)
          refine ⟨⟨hI.nodup, hI.nonneg, ?_, hI.hash, hI.nopanic⟩, ?_⟩
          · intro e he
            rcases mem_setDl he with rfl | he'
            · exact ⟨pe, hpe, hid, h, hh, hg, w2⟩
            · exact hI.dls e he'
          · exact hid ▸ reqOk_requestBlocks env hpe hh hg hwf1 _
        | true =>
          simp only [Bool.not_true, Bool.false_eq_true, if_false]
          cases hdec : decide_ env (stored blockSize (peerMetadataSize h) id index data).bytes with
          | hashMismatch => exact (start_after env _ picks hI2).closed x
          | stop r infoSet =>
            refine .quiet ⟨hI.nodup, hI.nonneg, by simp, ?_, hI.nopanic⟩
            intro b hb
            cases infoSet with
            | true => cases hb; exact (decide_spec env _).2 r hdec
            | false => exact hI.hash b hb
          | adopt =>
            refine .quiet ⟨hI.nodup, hI.nonneg, by simp, ?_, hI.nopanic⟩
            intro b hb
            cases hb
            exact ⟨((decide_spec env _).1.1 hdec).1, ((decide_spec env _).1.1 hdec).2.1⟩
  | reject p picks =>
    by_cases hany : s.dls.any (·.1 == p) = true
    · simp only [step, if_pos hany]; exact (start_after env _ picks (inv_closePeer env s p hI)).closed p
    · simp only [step, if_neg hany]; exact .quiet hI
  | snub p picks =>
    by_cases hany : s.dls.any (·.1 == p) = true
    · simp only [step, if_pos hany]
      have hI1 : Inv env { s with snubbed := if s.snubbed.contains p then s.snubbed else s.snubbed ++ [p] } :=
        ⟨hI.nodup, hI.nonneg, hI.dls, hI.hash, hI.nopanic⟩
      exact start_after env _ picks hI1
    · simp only [step, if_neg hany]; exact .quiet hI
  | disconnect p =>
    exact .quiet (inv_closePeer env s p hI)

theorem inv_run (env : Env Hash) (es : List Event) : ∀ (s : State), Inv env s → Inv env (run env s es) := by
  induction es with
  | nil => intro s h; exact h
  | cons e es ih => intro s h; exact ih _ (step_spec env s e h).1

end Rain.Adopt
