import RainModel.Lemmas.RegistrySteps
/-!
Sequential histories (no interleaved add steps) never leave an add in flight.
-/
namespace Rain.Registry
open List

/-- An operation of one caller at a time: a whole add, or anything that is not a single add step. -/
def Op.sequential : Op → Bool
  | .abegin .. | .abuild .. | .awrite .. | .ainsert .. => false
  | _ => true

theorem addBuild_eq {s : State} {q : Pending} {P : List Pending} (hp : s.pending = q :: P) (hq : q.stage = .reserved)
    (ok : Bool) : addBuild s q ok =
      if ok then ({ s with pending := { q with stage := .built } :: P }, .ok { q with stage := .built })
      else ({ s with pending := P, free := q.port :: s.free }, .error .build) := by
  unfold addBuild
  simp [hp, hq]

theorem addWrite_eq {s : State} {q : Pending} {P : List Pending} (hp : s.pending = q :: P) (hq : q.stage = .built)
    (ok : Bool) : addWrite s q ok =
      if ok then ({ s with pending := { q with stage := .written } :: P,
                           db := dbPut s.db q.id (freshFields q.m q.o q.port),
                           dead := s.dead.filter (fun e => e.1 != q.id) }, .ok { q with stage := .written })
      else ({ s with pending := P, free := q.port :: s.free }, .error .write) := by
  unfold addWrite
  simp [hp, hq]

theorem addInsert_eq {s : State} {q : Pending} {P : List Pending} (hp : s.pending = q :: P) (hq : q.stage = .written) :
    addInsert s q = ({ s with pending := P, reg := regPut s.reg ⟨q.id, freshFields q.m q.o q.port⟩,
                              idx := s.idx ++ [(q.m.infoHash, q.id)], invalid := s.invalid.erase q.id }, .ok q) := by
  unfold addInsert
  simp [hp, hq]

theorem start_pending (s : State) (id : String) : (start s id).pending = s.pending := by
  unfold start; split <;> rfl

/-- The outcomes of a whole sequential add: it fails and nothing has happened; it fails after the port
was taken, and the port is back; or it succeeds and the adds in flight are what they were. -/
theorem addSeq_cases {Q : State × Except AddErr String → Prop} (s : State) (m : Meta) (o : Opts) (p : Nat)
    (gen : String) (e : Env) (h0 : ∀ err, Q (s, .error err))
    (h1 : p ∈ s.free → ∀ err, Q ({ s with free := p :: s.free.erase p }, .error err))
    (h2 : ∀ s' id, s'.pending = s.pending → Q (s', .ok id)) : Q (addSeq s m o p gen e) := by
  unfold addSeq
  rcases addBegin_cases s m o p gen e.stoFail with ⟨_, h⟩ | ⟨hp, _, h⟩ | ⟨hp, id, _, _, h⟩ <;> rw [h]
  · exact h0 _
  · exact h1 hp _
  · dsimp only
    rw [addBuild_eq (P := s.pending) rfl rfl]
    cases e.buildFail with
    | true => exact h1 hp _
    | false =>
      simp only [Bool.not_false, if_true]
      rw [addWrite_eq (P := s.pending) rfl rfl]
      cases e.writeFail with
      | true => exact h1 hp _
      | false =>
        simp only [Bool.not_false, if_true]
        rw [addInsert_eq (P := s.pending) rfl rfl]
        refine h2 _ _ ?_
        dsimp only
        split
        · rfl
        · rw [start_pending]

/-- **A failing add leaves no trace**, whatever the failure point (no port, duplicate id, storage, newTorrent,
resume write, inadmissible choice): the port that was taken is back, and registry, index and database are
untouched. -/
theorem addSeq_spec (s : State) (m : Meta) (o : Opts) (p : Nat) (gen : String) (e : Env) :
    (addSeq s m o p gen e).1.pending = s.pending ∧
    ∀ err, (addSeq s m o p gen e).2 = .error err →
      (addSeq s m o p gen e).1.free.Perm s.free ∧ (addSeq s m o p gen e).1.reg = s.reg ∧
      (addSeq s m o p gen e).1.db = s.db ∧ (addSeq s m o p gen e).1.idx = s.idx :=
  addSeq_cases (Q := fun r => r.1.pending = s.pending ∧ ∀ err, r.2 = .error err →
      r.1.free.Perm s.free ∧ r.1.reg = s.reg ∧ r.1.db = s.db ∧ r.1.idx = s.idx) s m o p gen e
    (fun _ => ⟨rfl, fun _ _ => ⟨List.Perm.refl _, rfl, rfl, rfl⟩⟩)
    (fun hp _ => ⟨rfl, fun _ _ => ⟨(List.perm_cons_erase hp).symm, rfl, rfl, rfl⟩⟩)
    (fun _ _ hs' => ⟨hs', fun _ h => nomatch h⟩)

theorem step_pending_nil {s : State} (hp : s.pending = []) {op : Op} (hs : op.sequential = true) :
    (step s op).pending = [] := by
  cases op with
  | add m o p gen e => exact (addSeq_spec s m o p gen e).1.trans hp
  | abegin | abuild | awrite | ainsert => cases hs
  | remove id => show (remove s id).pending = []; unfold remove; split <;> exact hp
  | start id => exact (start_pending s id).trans hp
  | stop id => show (stop s id).pending = []; unfold stop; split <;> exact hp
  | addTracker id uri => show (addTracker s id uri).pending = []; unfold addTracker; split <;> exact hp
  | bump | updateStats | tamper => exact hp
  | reopen r bad =>
    show (reopen s r bad).pending = []
    unfold reopen
    split
    · exact hp
    · exact openOn_pending _ _ _ _
  | clean => show (clean s).1.pending = []; unfold clean; split <;> exact hp
  | compactSwap r =>
    show (compactSwap s r).pending = []
    unfold compactSwap
    split
    · exact hp
    split
    · exact openOn_pending _ _ _ _
    · exact hp

theorem run_pending_nil : ∀ (ops : List Op) {s : State}, s.pending = [] → (∀ op ∈ ops, op.sequential = true) →
    (run s ops).pending = []
  | [], _, h, _ => h
  | op :: ops, _, h, hs =>
    run_pending_nil ops (step_pending_nil h (hs op List.mem_cons_self)) (fun o ho => hs o (List.mem_cons_of_mem _ ho))

end Rain.Registry
