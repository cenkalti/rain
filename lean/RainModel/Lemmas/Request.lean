import RainModel.Model.Request
namespace Rain.Request

/-- The 64-bit sum of two widened 32-bit values is their sum in `Nat`: it cannot wrap. -/
theorem toNat_widen_add (b l : U32) : (b.setWidth 64 + l.setWidth 64).toNat = b.toNat + l.toNat := by
  have hb := b.isLt; have hl := l.isLt
  rw [BitVec.toNat_add, BitVec.toNat_setWidth_of_le (by decide), BitVec.toNat_setWidth_of_le (by decide)]
  omega

theorem validReq_iff' (b l pl : U32) :
    validPieceRequest b l pl = true ↔ l ≠ 0#32 ∧ b.toNat + l.toNat ≤ pl.toNat := by
  simp only [validPieceRequest, Bool.and_eq_true, bne_iff_ne, ne_eq, decide_eq_true_eq, BitVec.le_def, toNat_widen_add,
    BitVec.toNat_setWidth_of_le (show 32 ≤ 64 by decide)]

theorem ge_iff (a b : U32) : a ≥ b ↔ ¬ a.toNat < b.toNat := by
  constructor
  · intro h; have := BitVec.le_def.mp h; omega
  · intro h; exact BitVec.le_def.mpr (by omega)

theorem readerAccepts_iff (l : U32) : readerAccepts l = true ↔ l.toNat ≤ 16384 := by
  unfold readerAccepts maxBlockSize
  simp only [Bool.not_eq_true', decide_eq_false_iff_not, BitVec.lt_def, BitVec.toNat_ofNat, gt_iff_lt]
  omega

theorem wireRequest_eq_some (c : Ctx) (idx b l : U32) (o : Outcome) :
    wireRequest c idx b l = some o ↔ l.toNat ≤ 16384 ∧ handleRequest c idx b l = o := by
  simp [wireRequest, ← readerAccepts_iff]

theorem handleRequest_noInfo {c : Ctx} (idx b l : U32) (hI : c.haveInfo = false) :
    handleRequest c idx b l = .closeNoInfo := by
  simp [handleRequest, hI]

theorem handleRequest_badIndex {c : Ctx} {idx : U32} (b l : U32) (hI : c.haveInfo = true)
    (hidx : c.numPieces.toNat ≤ idx.toNat) : handleRequest c idx b l = .closeBadIndex := by
  have : idx ≥ c.numPieces := (ge_iff _ _).mpr (by omega)
  simp [handleRequest, hI, this]

theorem handleRequest_inRange {c : Ctx} {idx : U32} (b l : U32) (hI : c.haveInfo = true)
    (hidx : idx.toNat < c.numPieces.toNat) :
    handleRequest c idx b l =
      match c.pieces[idx.toNat]? with
      | none => .panicIndex
      | some pi =>
        if ¬ (l ≠ 0#32 ∧ b.toNat + l.toNat ≤ pi.length.toNat) then .closeBadRange
        else if pi.done = false then .reject
        else if c.choking = true then
          if c.fast = true then
            if idx.toNat ∈ c.allowedFast then .serve else .reject
          else .ignore
        else .serve := by
  have : ¬ idx ≥ c.numPieces := mt (ge_iff _ _).mp (by omega)
  unfold handleRequest
  cases c.pieces[idx.toNat]? <;> simp [hI, this, ← Bool.not_eq_true, validReq_iff']

end Rain.Request
