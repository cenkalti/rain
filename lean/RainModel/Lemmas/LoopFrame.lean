import RainModel.Lemmas.LoopWrites
import RainModel.Lemmas.LoopCases
/-!
What the state-level handlers of M-LOOP and `reconcile` / `reconcileIdl` write (`x_writes`), and the per-field
consequences `(f s).field = s.field` that the invariant proofs use as `simp` lemmas.
-/
namespace Rain.Loop
open Fld

@[simp] theorem foldl_mayStartI {α} (f : St → α → St) (h : ∀ s a, (f s a).mayStartI = s.mayStartI) (l : List α) (s : St) : (l.foldl f s).mayStartI = s.mayStartI := foldl_keep St.mayStartI f h l s
@[simp] theorem foldl_unchoked {α} (f : St → α → St) (h : ∀ s a, (f s a).unchoked = s.unchoked) (l : List α) (s : St) : (l.foldl f s).unchoked = s.unchoked := foldl_keep St.unchoked f h l s
@[simp] theorem foldl_optimistic {α} (f : St → α → St) (h : ∀ s a, (f s a).optimistic = s.optimistic) (l : List α) (s : St) : (l.foldl f s).optimistic = s.optimistic := foldl_keep St.optimistic f h l s
@[simp] theorem ite_panicked (c : Prop) [Decidable c] (a b : St) : (if c then a else b).panicked = if c then a.panicked else b.panicked := by split <;> rfl
@[simp] theorem foldl_panicked {α} (f : St → α → St) (h : ∀ s a, (f s a).panicked = s.panicked) (l : List α) (s : St) : (l.foldl f s).panicked = s.panicked := foldl_keep St.panicked f h l s
@[simp] theorem foldl_mayStart {α} (f : St → α → St) (h : ∀ s a, (f s a).mayStart = s.mayStart) (l : List α) (s : St) : (l.foldl f s).mayStart = s.mayStart := foldl_keep St.mayStart f h l s
@[simp] theorem foldl_closedDl {α} (f : St → α → St) (h : ∀ s a, (f s a).closedDl = s.closedDl) (l : List α) (s : St) : (l.foldl f s).closedDl = s.closedDl := foldl_keep St.closedDl f h l s

@[frame] theorem crash_writes (s : St) (w : String) : Writes [panicked] s (s.crash w) :=
  .intro (by unfold St.crash; split <;> rfl)
@[simp] theorem crash_info (s : St) (w : String) : (s.crash w).info = s.info := (crash_writes s w).info
@[simp] theorem crash_errC (s : St) (w : String) : (s.crash w).errC = s.errC := (crash_writes s w).errC
@[simp] theorem crash_stopAnn (s : St) (w : String) : (s.crash w).stopAnn = s.stopAnn := (crash_writes s w).stopAnn
@[simp] theorem crash_allocator (s : St) (w : String) : (s.crash w).allocator = s.allocator := (crash_writes s w).allocator
@[simp] theorem crash_verifier (s : St) (w : String) : (s.crash w).verifier = s.verifier := (crash_writes s w).verifier
@[simp] theorem crash_completed (s : St) (w : String) : (s.crash w).completed = s.completed := (crash_writes s w).completed
@[simp] theorem crash_completeCClosed (s : St) (w : String) : (s.crash w).completeCClosed = s.completeCClosed := (crash_writes s w).completeCClosed
@[simp] theorem crash_doVerify (s : St) (w : String) : (s.crash w).doVerify = s.doVerify := (crash_writes s w).doVerify
@[simp] theorem crash_lastErr (s : St) (w : String) : (s.crash w).lastErr = s.lastErr := (crash_writes s w).lastErr
@[simp] theorem crash_acceptor (s : St) (w : String) : (s.crash w).acceptor = s.acceptor := (crash_writes s w).acceptor
@[simp] theorem crash_bf (s : St) (w : String) : (s.crash w).bf = s.bf := (crash_writes s w).bf
@[simp] theorem crash_persisted (s : St) (w : String) : (s.crash w).persisted = s.persisted := (crash_writes s w).persisted
@[simp] theorem crash_status (s : St) (w : String) : (s.crash w).status = s.status := (crash_writes s w).status
@[simp] theorem crash_n (s : St) (w : String) : (s.crash w).n = s.n := (crash_writes s w).n
@[simp] theorem crash_diskOKi (s : St) (w : String) (i : Nat) : (s.crash w).diskOKi i = s.diskOKi i := (crash_writes s w).diskOKi i
@[simp] theorem crash_diskOK (s : St) (w : String) : (s.crash w).diskOK = s.diskOK := (crash_writes s w).diskOK
@[simp] theorem crash_findPeer (s : St) (w : String) (k' : Nat) : (s.crash w).findPeer k' = s.findPeer k' := (crash_writes s w).findPeer k'
@[simp] theorem crash_findDl (s : St) (w : String) (k' : Nat) : (s.crash w).findDl k' = s.findDl k' := (crash_writes s w).findDl k'

@[frame] theorem updPeer_writes (s : St) (k : Nat) (f : Peer → Peer) : Writes [peers] s (s.updPeer k f) :=
  .intro rfl
@[simp] theorem updPeer_panicked (s : St) (k : Nat) (f : Peer → Peer) : (s.updPeer k f).panicked = s.panicked := (updPeer_writes s k f).panicked
@[simp] theorem updPeer_status (s : St) (k : Nat) (f : Peer → Peer) : (s.updPeer k f).status = s.status := (updPeer_writes s k f).status
@[simp] theorem updPeer_n (s : St) (k : Nat) (f : Peer → Peer) : (s.updPeer k f).n = s.n := (updPeer_writes s k f).n
@[simp] theorem updPeer_diskOKi (s : St) (k : Nat) (f : Peer → Peer) (i : Nat) : (s.updPeer k f).diskOKi i = s.diskOKi i := (updPeer_writes s k f).diskOKi i
@[simp] theorem updPeer_diskOK (s : St) (k : Nat) (f : Peer → Peer) : (s.updPeer k f).diskOK = s.diskOK := (updPeer_writes s k f).diskOK
@[simp] theorem updPeer_findDl (s : St) (k : Nat) (f : Peer → Peer) (k' : Nat) : (s.updPeer k f).findDl k' = s.findDl k' := (updPeer_writes s k f).findDl k'

@[frame] theorem closeDl_writes (s : St) (k : Nat) : Writes [dls, closedDl] s (s.closeDl k) :=
  .intro (by unfold St.closeDl; split <;> rfl)
@[simp] theorem closeDl_wflag (s : St) (k : Nat) : (s.closeDl k).wflag = s.wflag := (closeDl_writes s k).wflag
@[simp] theorem closeDl_peers (s : St) (k : Nat) : (s.closeDl k).peers = s.peers := (closeDl_writes s k).peers
@[simp] theorem closeDl_idls (s : St) (k : Nat) : (s.closeDl k).idls = s.idls := (closeDl_writes s k).idls
@[simp] theorem closeDl_panicked (s : St) (k : Nat) : (s.closeDl k).panicked = s.panicked := (closeDl_writes s k).panicked
@[simp] theorem closeDl_mayStart (s : St) (k : Nat) : (s.closeDl k).mayStart = s.mayStart := (closeDl_writes s k).mayStart
@[simp] theorem closeDl_status (s : St) (k : Nat) : (s.closeDl k).status = s.status := (closeDl_writes s k).status
@[simp] theorem closeDl_n (s : St) (k : Nat) : (s.closeDl k).n = s.n := (closeDl_writes s k).n
@[simp] theorem closeDl_diskOKi (s : St) (k : Nat) (i : Nat) : (s.closeDl k).diskOKi i = s.diskOKi i := (closeDl_writes s k).diskOKi i
@[simp] theorem closeDl_diskOK (s : St) (k : Nat) : (s.closeDl k).diskOK = s.diskOK := (closeDl_writes s k).diskOK

@[frame] theorem startDlFor_writes (s : St) (k : Nat) : Writes [mayStart] s (s.startDlFor k) :=
  .intro (by unfold St.startDlFor; split <;> rfl)
@[simp] theorem startDlFor_peers (s : St) (k : Nat) : (s.startDlFor k).peers = s.peers := (startDlFor_writes s k).peers
@[simp] theorem startDlFor_dls (s : St) (k : Nat) : (s.startDlFor k).dls = s.dls := (startDlFor_writes s k).dls
@[simp] theorem startDlFor_status (s : St) (k : Nat) : (s.startDlFor k).status = s.status := (startDlFor_writes s k).status
@[simp] theorem startDlFor_n (s : St) (k : Nat) : (s.startDlFor k).n = s.n := (startDlFor_writes s k).n
@[simp] theorem startDlFor_diskOKi (s : St) (k : Nat) (i : Nat) : (s.startDlFor k).diskOKi i = s.diskOKi i := (startDlFor_writes s k).diskOKi i
@[simp] theorem startDlFor_diskOK (s : St) (k : Nat) : (s.startDlFor k).diskOK = s.diskOK := (startDlFor_writes s k).diskOK
@[simp] theorem startDlFor_findPeer (s : St) (k : Nat) (k' : Nat) : (s.startDlFor k).findPeer k' = s.findPeer k' := (startDlFor_writes s k).findPeer k'
@[simp] theorem startDlFor_findDl (s : St) (k : Nat) (k' : Nat) : (s.startDlFor k).findDl k' = s.findDl k' := (startDlFor_writes s k).findDl k'

@[frame] theorem startDls_writes (s : St) : Writes [mayStart] s s.startDls :=
  .intro (by unfold St.startDls; frame)
@[simp] theorem startDls_errC (s : St) : s.startDls.errC = s.errC := (startDls_writes s).errC
@[simp] theorem startDls_stopAnn (s : St) : s.startDls.stopAnn = s.stopAnn := (startDls_writes s).stopAnn
@[simp] theorem startDls_allocator (s : St) : s.startDls.allocator = s.allocator := (startDls_writes s).allocator
@[simp] theorem startDls_verifier (s : St) : s.startDls.verifier = s.verifier := (startDls_writes s).verifier
@[simp] theorem startDls_lastErr (s : St) : s.startDls.lastErr = s.lastErr := (startDls_writes s).lastErr
@[simp] theorem startDls_acceptor (s : St) : s.startDls.acceptor = s.acceptor := (startDls_writes s).acceptor
@[simp] theorem startDls_peers (s : St) : s.startDls.peers = s.peers := (startDls_writes s).peers
@[simp] theorem startDls_dls (s : St) : s.startDls.dls = s.dls := (startDls_writes s).dls
@[simp] theorem startDls_idls (s : St) : s.startDls.idls = s.idls := (startDls_writes s).idls
@[simp] theorem startDls_mayStartI (s : St) : s.startDls.mayStartI = s.mayStartI := (startDls_writes s).mayStartI
@[simp] theorem startDls_banned (s : St) : s.startDls.banned = s.banned := (startDls_writes s).banned
@[simp] theorem startDls_panicked (s : St) : s.startDls.panicked = s.panicked := (startDls_writes s).panicked
@[simp] theorem startDls_status (s : St) : s.startDls.status = s.status := (startDls_writes s).status
@[simp] theorem startDls_n (s : St) : s.startDls.n = s.n := (startDls_writes s).n
@[simp] theorem startDls_diskOKi (s : St) (i : Nat) : s.startDls.diskOKi i = s.diskOKi i := (startDls_writes s).diskOKi i
@[simp] theorem startDls_diskOK (s : St) : s.startDls.diskOK = s.diskOK := (startDls_writes s).diskOK
@[simp] theorem startDls_findPeer (s : St) (k' : Nat) : s.startDls.findPeer k' = s.findPeer k' := (startDls_writes s).findPeer k'
@[simp] theorem startDls_findDl (s : St) (k' : Nat) : s.startDls.findDl k' = s.findDl k' := (startDls_writes s).findDl k'

@[frame] theorem closePeer_writes (s : St) (k : Nat) :
    Writes [peers, dls, idls, mayStartI, unchoked, optimistic, mayStart, closedDl]
    s (s.closePeer k) :=
  .intro (by unfold St.closePeer; split <;> frame)
@[simp] theorem closePeer_banned (s : St) (k : Nat) : (s.closePeer k).banned = s.banned := (closePeer_writes s k).banned
@[simp] theorem closePeer_panicked (s : St) (k : Nat) : (s.closePeer k).panicked = s.panicked := (closePeer_writes s k).panicked
@[simp] theorem closePeer_status (s : St) (k : Nat) : (s.closePeer k).status = s.status := (closePeer_writes s k).status
@[simp] theorem closePeer_n (s : St) (k : Nat) : (s.closePeer k).n = s.n := (closePeer_writes s k).n
@[simp] theorem closePeer_diskOKi (s : St) (k : Nat) (i : Nat) : (s.closePeer k).diskOKi i = s.diskOKi i := (closePeer_writes s k).diskOKi i
@[simp] theorem closePeer_diskOK (s : St) (k : Nat) : (s.closePeer k).diskOK = s.diskOK := (closePeer_writes s k).diskOK

@[frame] theorem writeBitfield_writes (s : St) : Writes [panicked, persisted] s s.writeBitfield :=
  .intro (by unfold St.writeBitfield; split <;> frame)
@[simp] theorem writeBitfield_status (s : St) : s.writeBitfield.status = s.status := (writeBitfield_writes s).status
@[simp] theorem writeBitfield_diskOKi (s : St) (i : Nat) : s.writeBitfield.diskOKi i = s.diskOKi i := (writeBitfield_writes s).diskOKi i
@[simp] theorem writeBitfield_findPeer (s : St) (k' : Nat) : s.writeBitfield.findPeer k' = s.findPeer k' := (writeBitfield_writes s).findPeer k'
@[simp] theorem writeBitfield_findDl (s : St) (k' : Nat) : s.writeBitfield.findDl k' = s.findDl k' := (writeBitfield_writes s).findDl k'

@[frame] theorem closeData_writes (s : St) : Writes [loaded, openFiles, done, wflag, sto] s s.closeData :=
  .intro rfl
@[simp] theorem closeData_known (s : St) : s.closeData.known = s.known := (closeData_writes s).known
@[simp] theorem closeData_status (s : St) : s.closeData.status = s.status := (closeData_writes s).status
@[simp] theorem closeData_n (s : St) : s.closeData.n = s.n := (closeData_writes s).n
@[simp] theorem closeData_diskOKi (s : St) (i : Nat) : s.closeData.diskOKi i = s.diskOKi i := (closeData_writes s).diskOKi i
@[simp] theorem closeData_diskOK (s : St) : s.closeData.diskOK = s.diskOK := (closeData_writes s).diskOK
@[simp] theorem closeData_findPeer (s : St) (k' : Nat) : s.closeData.findPeer k' = s.findPeer k' := (closeData_writes s).findPeer k'
@[simp] theorem closeData_findDl (s : St) (k' : Nat) : s.closeData.findDl k' = s.findDl k' := (closeData_writes s).findDl k'

@[frame] theorem stopA_writes (s : St) (e : Bool) : Writes [doVerify, lastErr, acceptor] s (stopA s e) :=
  .intro rfl
@[simp] theorem stopA_idls (s : St) (e : Bool) : (stopA s e).idls = s.idls := (stopA_writes s e).idls
@[simp] theorem stopA_mayStartI (s : St) (e : Bool) : (stopA s e).mayStartI = s.mayStartI := (stopA_writes s e).mayStartI
@[simp] theorem stopA_unchoked (s : St) (e : Bool) : (stopA s e).unchoked = s.unchoked := (stopA_writes s e).unchoked
@[simp] theorem stopA_optimistic (s : St) (e : Bool) : (stopA s e).optimistic = s.optimistic := (stopA_writes s e).optimistic
@[simp] theorem stopA_mayStart (s : St) (e : Bool) : (stopA s e).mayStart = s.mayStart := (stopA_writes s e).mayStart
@[simp] theorem stopA_closedDl (s : St) (e : Bool) : (stopA s e).closedDl = s.closedDl := (stopA_writes s e).closedDl
@[simp] theorem stopA_status (s : St) (e : Bool) : (stopA s e).status = s.status := (stopA_writes s e).status
@[simp] theorem stopA_n (s : St) (e : Bool) : (stopA s e).n = s.n := (stopA_writes s e).n
@[simp] theorem stopA_diskOKi (s : St) (e : Bool) (i : Nat) : (stopA s e).diskOKi i = s.diskOKi i := (stopA_writes s e).diskOKi i
@[simp] theorem stopA_diskOK (s : St) (e : Bool) : (stopA s e).diskOK = s.diskOK := (stopA_writes s e).diskOK
@[simp] theorem stopA_findPeer (s : St) (e : Bool) (k' : Nat) : (stopA s e).findPeer k' = s.findPeer k' := (stopA_writes s e).findPeer k'
@[simp] theorem stopA_findDl (s : St) (e : Bool) (k' : Nat) : (stopA s e).findDl k' = s.findDl k' := (stopA_writes s e).findDl k'

@[frame] theorem stopPeers_writes (s : St) :
    Writes [peers, dls, idls, mayStartI, unchoked, optimistic, mayStart, closedDl]
    s (stopPeers s) :=
  .intro (by unfold stopPeers; frame)
@[simp] theorem stopPeers_status (s : St) : (stopPeers s).status = s.status := (stopPeers_writes s).status
@[simp] theorem stopPeers_n (s : St) : (stopPeers s).n = s.n := (stopPeers_writes s).n
@[simp] theorem stopPeers_diskOKi (s : St) (i : Nat) : (stopPeers s).diskOKi i = s.diskOKi i := (stopPeers_writes s).diskOKi i
@[simp] theorem stopPeers_diskOK (s : St) : (stopPeers s).diskOK = s.diskOK := (stopPeers_writes s).diskOK

@[frame] theorem stopClear_writes (s : St) : Writes [dls, idls, mayStartI, mayStart] s (stopClear s) :=
  .intro rfl
@[simp] theorem stopClear_loaded (s : St) : (stopClear s).loaded = s.loaded := (stopClear_writes s).loaded
@[simp] theorem stopClear_done (s : St) : (stopClear s).done = s.done := (stopClear_writes s).done
@[simp] theorem stopClear_wflag (s : St) : (stopClear s).wflag = s.wflag := (stopClear_writes s).wflag
@[simp] theorem stopClear_status (s : St) : (stopClear s).status = s.status := (stopClear_writes s).status
@[simp] theorem stopClear_n (s : St) : (stopClear s).n = s.n := (stopClear_writes s).n
@[simp] theorem stopClear_diskOKi (s : St) (i : Nat) : (stopClear s).diskOKi i = s.diskOKi i := (stopClear_writes s).diskOKi i
@[simp] theorem stopClear_diskOK (s : St) : (stopClear s).diskOK = s.diskOK := (stopClear_writes s).diskOK
@[simp] theorem stopClear_findPeer (s : St) (k' : Nat) : (stopClear s).findPeer k' = s.findPeer k' := (stopClear_writes s).findPeer k'

@[frame] theorem stopWB_writes (s : St) : Writes [panicked, persisted] s (stopWB s) :=
  .intro (by unfold stopWB; frame)
@[simp] theorem stopWB_loaded (s : St) : (stopWB s).loaded = s.loaded := (stopWB_writes s).loaded
@[simp] theorem stopWB_done (s : St) : (stopWB s).done = s.done := (stopWB_writes s).done
@[simp] theorem stopWB_wflag (s : St) : (stopWB s).wflag = s.wflag := (stopWB_writes s).wflag
@[simp] theorem stopWB_status (s : St) : (stopWB s).status = s.status := (stopWB_writes s).status
@[simp] theorem stopWB_n (s : St) : (stopWB s).n = s.n := (stopWB_writes s).n
@[simp] theorem stopWB_diskOKi (s : St) (i : Nat) : (stopWB s).diskOKi i = s.diskOKi i := (stopWB_writes s).diskOKi i
@[simp] theorem stopWB_diskOK (s : St) : (stopWB s).diskOK = s.diskOK := (stopWB_writes s).diskOK
@[simp] theorem stopWB_findPeer (s : St) (k' : Nat) : (stopWB s).findPeer k' = s.findPeer k' := (stopWB_writes s).findPeer k'
@[simp] theorem stopWB_findDl (s : St) (k' : Nat) : (stopWB s).findDl k' = s.findDl k' := (stopWB_writes s).findDl k'

@[frame] theorem stopAlloc_writes (s : St) :
    Writes [allocator, bf, fileExists, known, gateOpen, sto, persisted]
    s (stopAlloc s) :=
  .intro (by unfold stopAlloc; split <;> rfl)
@[simp] theorem stopAlloc_stopAnn (s : St) : (stopAlloc s).stopAnn = s.stopAnn := (stopAlloc_writes s).stopAnn
@[simp] theorem stopAlloc_verifier (s : St) : (stopAlloc s).verifier = s.verifier := (stopAlloc_writes s).verifier
@[simp] theorem stopAlloc_n (s : St) : (stopAlloc s).n = s.n := (stopAlloc_writes s).n
@[simp] theorem stopAlloc_diskOKi (s : St) (i : Nat) : (stopAlloc s).diskOKi i = s.diskOKi i := (stopAlloc_writes s).diskOKi i
@[simp] theorem stopAlloc_diskOK (s : St) : (stopAlloc s).diskOK = s.diskOK := (stopAlloc_writes s).diskOK
@[simp] theorem stopAlloc_findPeer (s : St) (k' : Nat) : (stopAlloc s).findPeer k' = s.findPeer k' := (stopAlloc_writes s).findPeer k'
@[simp] theorem stopAlloc_findDl (s : St) (k' : Nat) : (stopAlloc s).findDl k' = s.findDl k' := (stopAlloc_writes s).findDl k'

@[frame] theorem stopVer_writes (s : St) : Writes [verifier, gateRead] s (stopVer s) :=
  .intro (by unfold stopVer; split <;> rfl)
@[simp] theorem stopVer_stopAnn (s : St) : (stopVer s).stopAnn = s.stopAnn := (stopVer_writes s).stopAnn
@[simp] theorem stopVer_n (s : St) : (stopVer s).n = s.n := (stopVer_writes s).n
@[simp] theorem stopVer_diskOKi (s : St) (i : Nat) : (stopVer s).diskOKi i = s.diskOKi i := (stopVer_writes s).diskOKi i
@[simp] theorem stopVer_diskOK (s : St) : (stopVer s).diskOK = s.diskOK := (stopVer_writes s).diskOK
@[simp] theorem stopVer_findPeer (s : St) (k' : Nat) : (stopVer s).findPeer k' = s.findPeer k' := (stopVer_writes s).findPeer k'
@[simp] theorem stopVer_findDl (s : St) (k' : Nat) : (stopVer s).findDl k' = s.findDl k' := (stopVer_writes s).findDl k'

@[frame] theorem stopFin_writes (s : St) : Writes [stopAnn] s (stopFin s) :=
  .intro rfl
@[simp] theorem stopFin_done (s : St) : (stopFin s).done = s.done := (stopFin_writes s).done
@[simp] theorem stopFin_wflag (s : St) : (stopFin s).wflag = s.wflag := (stopFin_writes s).wflag
@[simp] theorem stopFin_known (s : St) : (stopFin s).known = s.known := (stopFin_writes s).known
@[simp] theorem stopFin_mayStartI (s : St) : (stopFin s).mayStartI = s.mayStartI := (stopFin_writes s).mayStartI
@[simp] theorem stopFin_unchoked (s : St) : (stopFin s).unchoked = s.unchoked := (stopFin_writes s).unchoked
@[simp] theorem stopFin_optimistic (s : St) : (stopFin s).optimistic = s.optimistic := (stopFin_writes s).optimistic
@[simp] theorem stopFin_sto (s : St) : (stopFin s).sto = s.sto := (stopFin_writes s).sto
@[simp] theorem stopFin_closedDl (s : St) : (stopFin s).closedDl = s.closedDl := (stopFin_writes s).closedDl
@[simp] theorem stopFin_n (s : St) : (stopFin s).n = s.n := (stopFin_writes s).n
@[simp] theorem stopFin_diskOKi (s : St) (i : Nat) : (stopFin s).diskOKi i = s.diskOKi i := (stopFin_writes s).diskOKi i
@[simp] theorem stopFin_diskOK (s : St) : (stopFin s).diskOK = s.diskOK := (stopFin_writes s).diskOK
@[simp] theorem stopFin_findPeer (s : St) (k' : Nat) : (stopFin s).findPeer k' = s.findPeer k' := (stopFin_writes s).findPeer k'
@[simp] theorem stopFin_findDl (s : St) (k' : Nat) : (stopFin s).findDl k' = s.findDl k' := (stopFin_writes s).findDl k'

@[frame] theorem stopRun_writes (s : St) (e : Bool) :
    Writes [stopAnn, allocator, verifier, doVerify, lastErr, loaded, acceptor, openFiles, bf, done, wflag,
      fileExists, known, peers, dls, idls, mayStartI, unchoked, optimistic, panicked, gateOpen, gateRead, sto,
      mayStart, closedDl, persisted]
    s (stopRun s e) :=
  .intro (by unfold stopRun; frame)
@[simp] theorem stopRun_n (s : St) (e : Bool) : (stopRun s e).n = s.n := (stopRun_writes s e).n
@[simp] theorem stopRun_diskOKi (s : St) (e : Bool) (i : Nat) : (stopRun s e).diskOKi i = s.diskOKi i := (stopRun_writes s e).diskOKi i
@[simp] theorem stopRun_diskOK (s : St) (e : Bool) : (stopRun s e).diskOK = s.diskOK := (stopRun_writes s e).diskOK

@[frame] theorem stop_writes (s : St) (e : Bool) :
    Writes [stopAnn, allocator, verifier, doVerify, lastErr, loaded, acceptor, openFiles, bf, done, wflag,
      fileExists, known, peers, dls, idls, mayStartI, unchoked, optimistic, panicked, gateOpen, gateRead, sto,
      mayStart, closedDl, persisted]
    s (s.stop e) :=
  stop_cases (P := Writes _ s) s e (.intro rfl) fun _ => stopRun_writes s e
theorem stop_noVerify_writes (s : St) :
    Writes [stopAnn, allocator, verifier, doVerify, lastErr, loaded, acceptor, openFiles, bf, done, wflag,
      fileExists, known, peers, dls, idls, mayStartI, unchoked, optimistic, panicked, gateOpen, gateRead, sto,
      mayStart, closedDl, persisted]
    s (({ s with doVerify := false }).stop false) :=
  .mono (.trans (w₁ := [doVerify]) (b := { s with doVerify := false }) (.intro rfl) (stop_writes _ false))
@[simp] theorem stop_info (s : St) (e : Bool) : (s.stop e).info = s.info := (stop_writes s e).info
@[simp] theorem stop_errC (s : St) (e : Bool) : (s.stop e).errC = s.errC := (stop_writes s e).errC
@[simp] theorem stop_completed (s : St) (e : Bool) : (s.stop e).completed = s.completed := (stop_writes s e).completed
@[simp] theorem stop_completeCClosed (s : St) (e : Bool) : (s.stop e).completeCClosed = s.completeCClosed := (stop_writes s e).completeCClosed
@[simp] theorem stop_stopHang (s : St) (e : Bool) : (s.stop e).stopHang = s.stopHang := (stop_writes s e).stopHang
@[simp] theorem stop_n (s : St) (e : Bool) : (s.stop e).n = s.n := (stop_writes s e).n
@[simp] theorem stop_diskOKi (s : St) (e : Bool) (i : Nat) : (s.stop e).diskOKi i = s.diskOKi i := (stop_writes s e).diskOKi i
@[simp] theorem stop_diskOK (s : St) (e : Bool) : (s.stop e).diskOK = s.diskOK := (stop_writes s e).diskOK

@[frame] theorem resetCompletion_writes (s : St) : Writes [completed, completeCClosed] s s.resetCompletion :=
  .intro (by unfold St.resetCompletion; split <;> rfl)
@[simp] theorem resetCompletion_diskOKi (s : St) (i : Nat) : s.resetCompletion.diskOKi i = s.diskOKi i := (resetCompletion_writes s).diskOKi i
@[simp] theorem resetCompletion_diskOK (s : St) : s.resetCompletion.diskOK = s.diskOK := (resetCompletion_writes s).diskOK
@[simp] theorem resetCompletion_findPeer (s : St) (k' : Nat) : s.resetCompletion.findPeer k' = s.findPeer k' := (resetCompletion_writes s).findPeer k'
@[simp] theorem resetCompletion_findDl (s : St) (k' : Nat) : s.resetCompletion.findDl k' = s.findDl k' := (resetCompletion_writes s).findDl k'

@[frame] theorem markPaddingPieces_writes (s : St) : Writes [bf, done] s s.markPaddingPieces :=
  .intro (by unfold St.markPaddingPieces; split <;> rfl)
@[simp] theorem markPaddingPieces_errC (s : St) : s.markPaddingPieces.errC = s.errC := (markPaddingPieces_writes s).errC
@[simp] theorem markPaddingPieces_stopAnn (s : St) : s.markPaddingPieces.stopAnn = s.stopAnn := (markPaddingPieces_writes s).stopAnn
@[simp] theorem markPaddingPieces_doVerify (s : St) : s.markPaddingPieces.doVerify = s.doVerify := (markPaddingPieces_writes s).doVerify
@[simp] theorem markPaddingPieces_status (s : St) : s.markPaddingPieces.status = s.status := (markPaddingPieces_writes s).status
@[simp] theorem markPaddingPieces_n (s : St) : s.markPaddingPieces.n = s.n := (markPaddingPieces_writes s).n
@[simp] theorem markPaddingPieces_diskOK (s : St) : s.markPaddingPieces.diskOK = s.diskOK := (markPaddingPieces_writes s).diskOK
@[simp] theorem markPaddingPieces_findPeer (s : St) (k' : Nat) : s.markPaddingPieces.findPeer k' = s.findPeer k' := (markPaddingPieces_writes s).findPeer k'
@[simp] theorem markPaddingPieces_findDl (s : St) (k' : Nat) : s.markPaddingPieces.findDl k' = s.findDl k' := (markPaddingPieces_writes s).findDl k'

@[frame] theorem checkCompletion_writes (s : St) :
    Writes [completed, completeCClosed, peers, dls, idls, mayStartI, unchoked, optimistic, panicked, mayStart,
      closedDl]
    s s.checkCompletion.1 :=
  .intro (by unfold St.checkCompletion; cases h : s.bf <;> frame)
@[simp] theorem checkCompletion_n (s : St) : s.checkCompletion.1.n = s.n := (checkCompletion_writes s).n
@[simp] theorem checkCompletion_diskOKi (s : St) (i : Nat) : s.checkCompletion.1.diskOKi i = s.diskOKi i := (checkCompletion_writes s).diskOKi i
@[simp] theorem checkCompletion_diskOK (s : St) : s.checkCompletion.1.diskOK = s.diskOK := (checkCompletion_writes s).diskOK

@[frame] theorem reconcile_writes (s : St) (impl : List ImplDl) : Writes [peers, dls] s (reconcile s impl).1 :=
  .intro rfl
@[simp] theorem reconcile_cfg (s : St) (impl : List ImplDl) : (reconcile s impl).1.cfg = s.cfg := (reconcile_writes s impl).cfg
@[simp] theorem reconcile_infoAtAdd (s : St) (impl : List ImplDl) : (reconcile s impl).1.infoAtAdd = s.infoAtAdd := (reconcile_writes s impl).infoAtAdd
@[simp] theorem reconcile_lastErr (s : St) (impl : List ImplDl) : (reconcile s impl).1.lastErr = s.lastErr := (reconcile_writes s impl).lastErr
@[simp] theorem reconcile_openFiles (s : St) (impl : List ImplDl) : (reconcile s impl).1.openFiles = s.openFiles := (reconcile_writes s impl).openFiles
@[simp] theorem reconcile_leaked (s : St) (impl : List ImplDl) : (reconcile s impl).1.leaked = s.leaked := (reconcile_writes s impl).leaked
@[simp] theorem reconcile_fileExists (s : St) (impl : List ImplDl) : (reconcile s impl).1.fileExists = s.fileExists := (reconcile_writes s impl).fileExists
@[simp] theorem reconcile_known (s : St) (impl : List ImplDl) : (reconcile s impl).1.known = s.known := (reconcile_writes s impl).known
@[simp] theorem reconcile_idls (s : St) (impl : List ImplDl) : (reconcile s impl).1.idls = s.idls := (reconcile_writes s impl).idls
@[simp] theorem reconcile_isize (s : St) (impl : List ImplDl) : (reconcile s impl).1.isize = s.isize := (reconcile_writes s impl).isize
@[simp] theorem reconcile_parMeta (s : St) (impl : List ImplDl) : (reconcile s impl).1.parMeta = s.parMeta := (reconcile_writes s impl).parMeta
@[simp] theorem reconcile_mayStartI (s : St) (impl : List ImplDl) : (reconcile s impl).1.mayStartI = s.mayStartI := (reconcile_writes s impl).mayStartI
@[simp] theorem reconcile_metaDone (s : St) (impl : List ImplDl) : (reconcile s impl).1.metaDone = s.metaDone := (reconcile_writes s impl).metaDone
@[simp] theorem reconcile_unchoked (s : St) (impl : List ImplDl) : (reconcile s impl).1.unchoked = s.unchoked := (reconcile_writes s impl).unchoked
@[simp] theorem reconcile_optimistic (s : St) (impl : List ImplDl) : (reconcile s impl).1.optimistic = s.optimistic := (reconcile_writes s impl).optimistic
@[simp] theorem reconcile_nUnchoke (s : St) (impl : List ImplDl) : (reconcile s impl).1.nUnchoke = s.nUnchoke := (reconcile_writes s impl).nUnchoke
@[simp] theorem reconcile_nOptimistic (s : St) (impl : List ImplDl) : (reconcile s impl).1.nOptimistic = s.nOptimistic := (reconcile_writes s impl).nOptimistic
@[simp] theorem reconcile_banned (s : St) (impl : List ImplDl) : (reconcile s impl).1.banned = s.banned := (reconcile_writes s impl).banned
@[simp] theorem reconcile_panicked (s : St) (impl : List ImplDl) : (reconcile s impl).1.panicked = s.panicked := (reconcile_writes s impl).panicked
@[simp] theorem reconcile_failWrite (s : St) (impl : List ImplDl) : (reconcile s impl).1.failWrite = s.failWrite := (reconcile_writes s impl).failWrite
@[simp] theorem reconcile_failOpen (s : St) (impl : List ImplDl) : (reconcile s impl).1.failOpen = s.failOpen := (reconcile_writes s impl).failOpen
@[simp] theorem reconcile_failAt (s : St) (impl : List ImplDl) : (reconcile s impl).1.failAt = s.failAt := (reconcile_writes s impl).failAt
@[simp] theorem reconcile_sto (s : St) (impl : List ImplDl) : (reconcile s impl).1.sto = s.sto := (reconcile_writes s impl).sto
@[simp] theorem reconcile_mayStart (s : St) (impl : List ImplDl) : (reconcile s impl).1.mayStart = s.mayStart := (reconcile_writes s impl).mayStart
@[simp] theorem reconcile_closedDl (s : St) (impl : List ImplDl) : (reconcile s impl).1.closedDl = s.closedDl := (reconcile_writes s impl).closedDl
@[simp] theorem reconcile_tainted (s : St) (impl : List ImplDl) : (reconcile s impl).1.tainted = s.tainted := (reconcile_writes s impl).tainted
@[simp] theorem reconcile_status (s : St) (impl : List ImplDl) : (reconcile s impl).1.status = s.status := (reconcile_writes s impl).status
@[simp] theorem reconcile_n (s : St) (impl : List ImplDl) : (reconcile s impl).1.n = s.n := (reconcile_writes s impl).n
@[simp] theorem reconcile_diskOKi (s : St) (impl : List ImplDl) (i : Nat) : (reconcile s impl).1.diskOKi i = s.diskOKi i := (reconcile_writes s impl).diskOKi i
@[simp] theorem reconcile_diskOK (s : St) (impl : List ImplDl) : (reconcile s impl).1.diskOK = s.diskOK := (reconcile_writes s impl).diskOK

@[frame] theorem reconcileIdl_writes (s : St) (impl : List Nat) : Writes [idls] s (reconcileIdl s impl).1 :=
  .intro rfl
@[simp] theorem reconcileIdl_cfg (s : St) (impl : List Nat) : (reconcileIdl s impl).1.cfg = s.cfg := (reconcileIdl_writes s impl).cfg
@[simp] theorem reconcileIdl_infoAtAdd (s : St) (impl : List Nat) : (reconcileIdl s impl).1.infoAtAdd = s.infoAtAdd := (reconcileIdl_writes s impl).infoAtAdd
@[simp] theorem reconcileIdl_lastErr (s : St) (impl : List Nat) : (reconcileIdl s impl).1.lastErr = s.lastErr := (reconcileIdl_writes s impl).lastErr
@[simp] theorem reconcileIdl_openFiles (s : St) (impl : List Nat) : (reconcileIdl s impl).1.openFiles = s.openFiles := (reconcileIdl_writes s impl).openFiles
@[simp] theorem reconcileIdl_leaked (s : St) (impl : List Nat) : (reconcileIdl s impl).1.leaked = s.leaked := (reconcileIdl_writes s impl).leaked
@[simp] theorem reconcileIdl_fileExists (s : St) (impl : List Nat) : (reconcileIdl s impl).1.fileExists = s.fileExists := (reconcileIdl_writes s impl).fileExists
@[simp] theorem reconcileIdl_known (s : St) (impl : List Nat) : (reconcileIdl s impl).1.known = s.known := (reconcileIdl_writes s impl).known
@[simp] theorem reconcileIdl_peers (s : St) (impl : List Nat) : (reconcileIdl s impl).1.peers = s.peers := (reconcileIdl_writes s impl).peers
@[simp] theorem reconcileIdl_isize (s : St) (impl : List Nat) : (reconcileIdl s impl).1.isize = s.isize := (reconcileIdl_writes s impl).isize
@[simp] theorem reconcileIdl_parMeta (s : St) (impl : List Nat) : (reconcileIdl s impl).1.parMeta = s.parMeta := (reconcileIdl_writes s impl).parMeta
@[simp] theorem reconcileIdl_mayStartI (s : St) (impl : List Nat) : (reconcileIdl s impl).1.mayStartI = s.mayStartI := (reconcileIdl_writes s impl).mayStartI
@[simp] theorem reconcileIdl_metaDone (s : St) (impl : List Nat) : (reconcileIdl s impl).1.metaDone = s.metaDone := (reconcileIdl_writes s impl).metaDone
@[simp] theorem reconcileIdl_unchoked (s : St) (impl : List Nat) : (reconcileIdl s impl).1.unchoked = s.unchoked := (reconcileIdl_writes s impl).unchoked
@[simp] theorem reconcileIdl_optimistic (s : St) (impl : List Nat) : (reconcileIdl s impl).1.optimistic = s.optimistic := (reconcileIdl_writes s impl).optimistic
@[simp] theorem reconcileIdl_nUnchoke (s : St) (impl : List Nat) : (reconcileIdl s impl).1.nUnchoke = s.nUnchoke := (reconcileIdl_writes s impl).nUnchoke
@[simp] theorem reconcileIdl_nOptimistic (s : St) (impl : List Nat) : (reconcileIdl s impl).1.nOptimistic = s.nOptimistic := (reconcileIdl_writes s impl).nOptimistic
@[simp] theorem reconcileIdl_banned (s : St) (impl : List Nat) : (reconcileIdl s impl).1.banned = s.banned := (reconcileIdl_writes s impl).banned
@[simp] theorem reconcileIdl_panicked (s : St) (impl : List Nat) : (reconcileIdl s impl).1.panicked = s.panicked := (reconcileIdl_writes s impl).panicked
@[simp] theorem reconcileIdl_failWrite (s : St) (impl : List Nat) : (reconcileIdl s impl).1.failWrite = s.failWrite := (reconcileIdl_writes s impl).failWrite
@[simp] theorem reconcileIdl_failOpen (s : St) (impl : List Nat) : (reconcileIdl s impl).1.failOpen = s.failOpen := (reconcileIdl_writes s impl).failOpen
@[simp] theorem reconcileIdl_failAt (s : St) (impl : List Nat) : (reconcileIdl s impl).1.failAt = s.failAt := (reconcileIdl_writes s impl).failAt
@[simp] theorem reconcileIdl_sto (s : St) (impl : List Nat) : (reconcileIdl s impl).1.sto = s.sto := (reconcileIdl_writes s impl).sto
@[simp] theorem reconcileIdl_mayStart (s : St) (impl : List Nat) : (reconcileIdl s impl).1.mayStart = s.mayStart := (reconcileIdl_writes s impl).mayStart
@[simp] theorem reconcileIdl_closedDl (s : St) (impl : List Nat) : (reconcileIdl s impl).1.closedDl = s.closedDl := (reconcileIdl_writes s impl).closedDl
@[simp] theorem reconcileIdl_tainted (s : St) (impl : List Nat) : (reconcileIdl s impl).1.tainted = s.tainted := (reconcileIdl_writes s impl).tainted
@[simp] theorem reconcileIdl_status (s : St) (impl : List Nat) : (reconcileIdl s impl).1.status = s.status := (reconcileIdl_writes s impl).status
@[simp] theorem reconcileIdl_n (s : St) (impl : List Nat) : (reconcileIdl s impl).1.n = s.n := (reconcileIdl_writes s impl).n
@[simp] theorem reconcileIdl_diskOKi (s : St) (impl : List Nat) (i : Nat) : (reconcileIdl s impl).1.diskOKi i = s.diskOKi i := (reconcileIdl_writes s impl).diskOKi i
@[simp] theorem reconcileIdl_diskOK (s : St) (impl : List Nat) : (reconcileIdl s impl).1.diskOK = s.diskOK := (reconcileIdl_writes s impl).diskOK
@[simp] theorem reconcileIdl_findPeer (s : St) (impl : List Nat) (k' : Nat) : (reconcileIdl s impl).1.findPeer k' = s.findPeer k' := (reconcileIdl_writes s impl).findPeer k'
@[simp] theorem reconcileIdl_findDl (s : St) (impl : List Nat) (k' : Nat) : (reconcileIdl s impl).1.findDl k' = s.findDl k' := (reconcileIdl_writes s impl).findDl k'

end Rain.Loop
