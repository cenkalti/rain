import RainModel.Lemmas.LoopNoPanic
/-!
`start()` is never dropped (fix for finding C04-F3): whatever the torrent was doing, after the start command
it is neither stopped nor stopping; if it was not running, `startCore` ran.
-/
namespace Rain.Loop

/-- **What `start()` does**, by the state it finds.  Stopping: the stop announcer (also one that waits for a hanging
tracker) is closed, the stop is finished, and the stopped torrent is started — without its bitfield if a verify is
pending: `handleStopped` has then done the restart itself.  Running: nothing.  Stopped: `startCore`. -/
theorem start_cases (m : M) : start m =
    if m.1.stopAnn then startCore (onSt m fun s =>
      { s with stopHang := false, stopAnn := false, errC := false, bf := if m.1.doVerify then none else m.1.bf })
    else if m.1.errC then m else startCore m := by
  rw [start_eq]
  unfold startPre startGo
  by_cases hs : m.1.stopAnn = true
  · rw [if_pos hs, if_pos hs]
    cases hd : m.1.doVerify
    · rw [show handleStopped (onSt m fun s => { s with stopHang := false }) = _ from if_neg (by simp [hd]),
        if_neg (by simp)]
      rfl
    · rw [show handleStopped (onSt m fun s => { s with stopHang := false }) = _ from if_pos (by simpa using hd),
        if_pos (startCore_fields _).1]
      rfl
  · rw [if_neg hs, if_neg hs]

/-- **After `start()` the torrent runs** — in every state (running, stopped, stopping with or without a
hanging tracker, panicked or not). -/
theorem start_running (m : M) : (start m).1.errC = true ∧ (start m).1.stopAnn = false := by
  rw [start_cases]
  exact ite_ind (P := fun x : M => x.1.errC = true ∧ x.1.stopAnn = false)
    (fun _ => ⟨(startCore_fields _).1, (startCore_fields _).2.1⟩) fun hs =>
    ite_ind (P := fun x : M => x.1.errC = true ∧ x.1.stopAnn = false) (fun he => ⟨he, Bool.eq_false_iff.2 hs⟩)
      fun _ => ⟨(startCore_fields _).1, (startCore_fields _).2.1⟩

theorem start_of_running (m : M) (he : m.1.errC = true) (hs : m.1.stopAnn = false) : start m = m := by
  rw [start_cases, if_neg (by simp [hs]), if_pos he]

/-- What `startCore` always does: the error of the last run is forgotten and a worker is created — the
allocator, the verifier, or the acceptor (with the announcers and, before the metadata, the metadata
downloaders). -/
theorem startCore_work (m : M) :
    (startCore m).1.lastErr = false ∧
    ((startCore m).1.allocator = true ∨ (startCore m).1.verifier = true ∨ (startCore m).1.acceptor = true) := by
  obtain ⟨_, _, hl, ha, hv, hac⟩ := startCore_fields m
  refine ⟨hl, ?_⟩
  rw [ha, hv, hac]
  cases m.1.info <;> cases m.1.loaded <;> cases m.1.bf.isSome <;> simp

/-- **A start is never dropped.**  If the torrent was stopped or stopping, `start()` did its work. -/
theorem start_starts (m : M) (hnr : m.1.errC = false ∨ m.1.stopAnn = true) :
    (start m).1.lastErr = false ∧
    ((start m).1.allocator = true ∨ (start m).1.verifier = true ∨ (start m).1.acceptor = true) := by
  rw [start_cases]
  refine ite_ind (P := fun x : M => x.1.lastErr = false ∧ (x.1.allocator = true ∨ x.1.verifier = true ∨ x.1.acceptor = true))
    (fun _ => startCore_work _) fun hs => ?_
  rw [if_neg (by simp [hnr.resolve_right hs])]
  exact startCore_work m

/-- **Start while stopping** (the case finding C04-F3 was about), precisely: the stop announcer is closed
(also one that waits for a hanging tracker), the stop is finished and the torrent is started again — it is
allocating (metadata known) or fetching the metadata; nothing panics; a pending verify only drops the
bitfield. -/
theorem start_while_stopping (m : M) (h : Life m.1) (hs : m.1.stopAnn = true) :
    (start m).1.status = (if m.1.info then .allocating else .dlmeta) ∧
    (start m).1.stopHang = false ∧ (start m).1.panicked = m.1.panicked ∧ (start m).1.lastErr = false ∧
    (start m).1.doVerify = m.1.doVerify ∧ (start m).1.bf = (if m.1.doVerify then none else m.1.bf) := by
  obtain ⟨i1, i2, i3, _⟩ := h.idle (Or.inr hs)
  rw [start_cases, if_pos hs]
  obtain ⟨he, hsa, hle, ha, hv, _⟩ := startCore_fields (onSt m fun s =>
    { s with stopHang := false, stopAnn := false, errC := false, bf := if m.1.doVerify then none else m.1.bf })
  have hw := startCore_writes (onSt m fun s =>
    { s with stopHang := false, stopAnn := false, errC := false, bf := if m.1.doVerify then none else m.1.bf })
  refine ⟨?_, hw.stopHang, startCore_no_panic _ ⟨i1, i2⟩, hle, hw.doVerify, hw.bf⟩
  -- nothing was loaded: the allocator is started iff the metadata is known; without it nothing is completed
  simp only [onSt_fst, i1, i2, i3, Bool.false_or, Bool.not_false, Bool.and_true, Bool.and_false, Bool.false_and] at ha hv
  unfold St.status
  rw [he, hsa, ha, hv, (hw.info : _ = m.1.info), (hw.completed : _ = m.1.completed)]
  cases hi : m.1.info
  · simp [hi, (h.ni hi).2.2.2.1]
  · simp

end Rain.Loop
