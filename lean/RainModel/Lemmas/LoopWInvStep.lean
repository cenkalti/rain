import RainModel.Lemmas.LoopWInvWork
import RainModel.Lemmas.LoopMeta
import RainModel.Lemmas.LoopAdmI
/-!
`WInv` (end) and C04 `no_panic`: `handle`, the workers, the parked message, `step`, the adoption of the
implementation's choices (`reconcile`, `reconcileIdl`), whole histories.  The inductive invariant is
`Full = Life ∧ CompInv ∧ WInv`; under it no op reaches a panic site (`step_full`).
-/
namespace Rain.Loop

/-- The loop invariant of `no_panic`. -/
structure Full (s : St) : Prop where
  life : Life s
  comp : CompInv s
  w : WInv s

theorem Full.cur_bit {s : St} (h : Full s) {w : WriteJob} (hw : s.writing = some w) (hg : w.gen = s.gen)
    (hl : s.loaded = true) : ∃ b, s.bf = some b ∧ b.getD w.piece false = false :=
  h.w.cur_bit h.life h.comp hw hg hl

theorem writerRun_no_panic' (m : M) (w : WriteJob) (h : Full m.1) (hw : m.1.writing = some w) :
    (writerRun m w).1.panicked = m.1.panicked :=
  writerRun_no_panic m w (fun _ hg hl => h.cur_bit hw hg hl) (fun hh => h.comp.cc ▸ hh)

theorem handlePieceWriteDone_no_panic' (m : M) (w : WriteJob) (e : Bool) (h : Full m.1) (hw : m.1.writing = some w) :
    (handlePieceWriteDone m w e).1.panicked = m.1.panicked :=
  handlePieceWriteDone_no_panic m w e (fun _ _ hg hl => h.cur_bit hw hg hl) (fun hh => h.comp.cc ▸ hh)

theorem handleMetadataData_no_panic' (m : M) (k i len : Nat) (g : Bool) (h : Full m.1) :
    (handleMetadataData m k i len g).1.panicked = m.1.panicked := by
  cases hi : m.1.info
  · exact handleMetadataData_no_panic m k i len g (h.life.ni hi).1
  · unfold handleMetadataData
    simp [h.w.id hi]

theorem handle_winv (s : St) (p : Parked) (kn : Nat → Bool) (op : Op) (h : WInv s) (l : Life s) :
    WInv (handle s p kn op).1.1 :=
  handle_arms s p kn op (fun _ _ _ _ _ _ _ _ _ _ _ ht => ht.frame (by wframe_eq)) h (start_winv (s, []) h l)
    (stop_winv _ false (h.frame (by wframe_eq)))
    (fun _ => handleVerifyCommand_winv (_, []) (h.frame (by wframe_eq)) (l.congr (by lframe)))
    (fun _ _ _ _ _ => h.frame (mutate_wframe ..))
    (fun _ _ _ _ _ _ => h.frame (acceptPeer_wframe (s, []) ..))
    (fun k i b l g _ hw => handlePieceMessage_winv (s, []) k i b l g h hw)
    (fun k msg hnp _ => h.frame (handlePeerMessage_wframe (s, []) k msg hnp))
    (fun _ _ _ _ _ => h.frame (handleExtHandshake_wframe (s, []) ..))
    (fun _ _ _ _ _ _ => handleMetadataData_winv (s, []) _ _ _ _ h l)
    (fun _ _ => h.frame (handleMetadataReject_wframe (s, []) _))
    (fun _ _ => h.frame (handlePex_wframe (s, []) ..)) (fun _ => h.frame (handleDhtPeers_wframe (s, []) _))
    (fun _ _ => h.frame (closePeer_wframe s _)) fun _ _ => h.frame (handlePeerSnubbed_wframe (s, []) _)

/-- The panic sites of `handle` are in `start`, the verify command, a block and a metadata block. -/
theorem handle_no_panic (s : St) (p : Parked) (kn : Nat → Bool) (op : Op) (h : Full s) :
    (handle s p kn op).1.1.panicked = s.panicked :=
  have idle := fun hh => ((h.life.idle hh).imp_right And.left)
  handle_ind (P := fun t => t.panicked = s.panicked) s p kn op (fun _ _ _ _ _ _ _ _ _ _ _ ht => ht) rfl
    (start_no_panic (s, []) idle) (stop_panicked _ false)
    (fun _ => handleVerifyCommand_no_panic (_, []) fun hh => idle (Or.inl hh))
    (fun _ _ _ _ _ => (mutate_writes ..).panicked) (fun _ W _ => W.panicked) (fun _ W => W.panicked)
    (fun k i b l g _ hw => handlePieceMessage_no_panic (s, []) k i b l g (h.w.no_flag hw · i))
    fun _ _ _ _ _ _ => handleMetadataData_no_panic' (s, []) _ _ _ _ h

theorem handle_full (s : St) (p : Parked) (kn : Nat → Bool) (op : Op) (h : Full s) : Full (handle s p kn op).1.1 :=
  ⟨handle_life s p kn op h.life, handle_comp s p kn op h.comp, handle_winv s p kn op h.w h.life⟩

theorem Link.full {m m' : M} (l : Link m m') (h : Full m.1) :
    Full m'.1 ∧ (m.1.panicked = none → m'.1.panicked = none) := by
  cases l with
  | stopped hs _ =>
    have hi := h.life.idle (Or.inr hs)
    exact ⟨⟨handleStopped_life m h.life hs, handleStopped_comp m h.comp, handleStopped_winv m h.w h.life hs⟩,
      (handleStopped_no_panic m ⟨hi.1, hi.2.1⟩).trans⟩
  | alloc ha =>
    exact ⟨⟨allocatorRun_life m h.life ha, allocatorRun_comp m h.comp, allocatorRun_winv m h.w ha⟩,
      (allocatorRun_no_panic m h.comp.cc h.w.q).trans⟩
  | verify hv =>
    exact ⟨⟨handleVerificationDone_life m h.life hv, handleVerificationDone_comp m h.comp,
      handleVerificationDone_winv m h.w h.life hv⟩, handleVerificationDone_no_panic m h.comp.cc h.w.q⟩
  | deliver w hw _ =>
    exact ⟨⟨handlePieceWriteDone_life m w false h.life, handlePieceWriteDone_comp m w false h.comp,
      handlePieceWriteDone_winv m w false h.w h.life h.comp hw⟩, (handlePieceWriteDone_no_panic' m w false h hw).trans⟩
  | write w hw _ =>
    exact ⟨⟨writerRun_life m w h.life, writerRun_comp m w h.comp, writerRun_winv m w h.w h.life h.comp hw⟩,
      (writerRun_no_panic' m w h hw).trans⟩

theorem runWorkers_full (fuel : Nat) (m : M) (h : Full m.1) :
    Full (runWorkers fuel m).1 ∧ (m.1.panicked = none → (runWorkers fuel m).1.panicked = none) :=
  runWorkers_ind (P := fun x => Full x.1 ∧ (m.1.panicked = none → x.1.panicked = none))
    (fun _ _ l hx => ⟨(l.full hx.1).1, (l.full hx.1).2 ∘ hx.2⟩) fuel m ⟨h, id⟩

theorem handlePieceMessage_full (m : M) (k i b l : Nat) (g : Bool) (h : Full m.1) (hw : m.1.writing = none) :
    Full (handlePieceMessage m k i b l g).1 :=
  ⟨handlePieceMessage_life _ _ _ _ _ _ h.life, handlePieceMessage_comp _ _ _ _ _ _ h.comp,
    handlePieceMessage_winv _ _ _ _ _ _ h.w hw⟩

theorem Full.opStart {s : St} (h : Full s) : Full s.opStart :=
  ⟨h.life.opStart, h.comp.of_frame rfl rfl rfl rfl rfl rfl rfl rfl, h.w.frame (by wframe_eq)⟩

theorem step_full (s : St) (p : Parked) (kn : Nat → Bool) (op : Op) (h : Full s) :
    Full (step s p kn op).1.st ∧ (s.panicked = none → (step s p kn op).1.st.panicked = none) :=
  have h0 := h.opStart
  step_inv (P := fun t => Full t ∧ (s.panicked = none → t.panicked = none)) s p kn op
    ⟨handle_full _ p kn op h0, (handle_no_panic _ p kn op h0).trans⟩
    (fun m hm => ⟨(runWorkers_full 12 m hm.1).1, (runWorkers_full 12 m hm.1).2 ∘ hm.2⟩)
    fun m k i b l g hm hw =>
      ⟨handlePieceMessage_full m k i b l g hm.1 hw,
        (handlePieceMessage_no_panic m k i b l g (hm.1.w.no_flag hw · i)).trans ∘ hm.2⟩

/-! ### the implementation's choices

They are adopted by `reconcile` and `reconcileIdl`.  The invariant needs less of them than "the driver reported
neither C09 nor C13" (`Ev.admissible ∧ Ev.admissibleI`): `Ev.sane` only asks that

* a piece download the implementation newly runs was started while the torrent was `Downloading` with its
  pieces loaded, for a piece that is not done (nothing about which peer, choking, allowed-fast, the endgame
  bound, the `Writing` flag, `mayStart`; nothing about downloads that vanished or changed piece), and
* no metadata download runs once the metadata is known. -/

/-- The piece downloads `reconcile` adopts are "sane" in state `s`: old ones, or started while downloading,
loaded, for a piece that is not done. -/
def DlsSane (s : St) (impl : List ImplDl) : Prop :=
  ∀ d ∈ (reconcile s impl).1.dls, d ∈ s.dls ∨
    (s.status = .downloading ∧ s.loaded = true ∧ s.done.getD d.piece false = false)

def IdlsSane (s : St) (implI : List Nat) : Prop :=
  s.info = true → (reconcileIdl s implI).1.idls = []

def Ev.sane (sp : St × Parked) (e : Ev) : Prop :=
  DlsSane (step sp.1 sp.2 e.known e.op).1.st e.impl ∧
  IdlsSane (reconcile (step sp.1 sp.2 e.known e.op).1.st e.impl).1 e.implI

theorem reconcile_winv (s : St) (impl : List ImplDl) (h : WInv s) (hd : DlsSane s impl) : WInv (reconcile s impl).1 := by
  refine h.of_writes (reconcile_writes s impl) ?_ ?_ ?_ (by rw [reconcile_idls]; exact h.id)
  · -- peers: only `snubbed` is reset
    exact fun p hp msg hm => let ⟨q, hq, e⟩ := reconcile_peers_kept s impl p hp; (e.queued msg hm).elim (h.q q hq msg) id
  · intro d hd'
    rcases hd d hd' with h1 | ⟨_, _, h3⟩
    · exact h.dd d h1
    · exact h3
  · intro hne
    obtain ⟨d, hd'⟩ := List.exists_mem_of_ne_nil _ hne
    rcases hd d hd' with h1 | ⟨h1, h2, _⟩
    · exact h.dl (List.ne_nil_of_mem h1)
    · obtain ⟨_, _, a, v, c, _⟩ := (status_downloading_iff _).1 h1
      exact ⟨h2, a, v, c⟩

theorem reconcileIdl_winv (s : St) (impl : List Nat) (h : WInv s) (hi : IdlsSane s impl) : WInv (reconcileIdl s impl).1 :=
  have W := reconcileIdl_writes s impl
  h.of_writes W (h.q.of_peers W.peers) (by rw [W.dls]; exact h.dd) (by rw [W.dls]; exact h.dl) hi

theorem dstep_full (sp : St × Parked) (e : Ev) (h : Full sp.1) (hs : e.sane sp) :
    Full (dstep sp e).1 ∧ (sp.1.panicked = none → (dstep sp e).1.panicked = none) := by
  obtain ⟨h1, p1⟩ := step_full sp.1 sp.2 e.known e.op h
  have h2 : Full (reconcile _ e.impl).1 :=
    ⟨reconcile_life_sane _ _ h1.life hs.1, reconcile_comp _ _ h1.comp, reconcile_winv _ _ h1.w hs.1⟩
  unfold dstep
  exact ⟨⟨reconcileIdl_life _ _ h2.life, reconcileIdl_comp _ _ h2.comp, reconcileIdl_winv _ _ h2.w hs.2⟩,
    fun hp => by simpa using p1 hp⟩

/-- What the driver checks (no C09 error from `reconcile`, no C13 error from `reconcileIdl`) implies sanity, in any
state of the invariant. -/
theorem Ev.sane_of_admissible (sp : St × Parked) (e : Ev) (h : Full sp.1) (ha : e.admissible sp) (hi : e.admissibleI sp) :
    e.sane sp := by
  have hd := reconcile_dls _ e.impl ha
  refine ⟨hd, fun hinfo => List.eq_nil_iff_forall_not_mem.2 fun d hd' => ?_⟩
  -- an adopted metadata download is an old one (there is none: `WInv.id`) or was started without the metadata
  rcases reconcileIdl_idls _ e.implI hi d hd' with h1 | h1
  · rw [(reconcile_winv _ _ (step_full sp.1 sp.2 e.known e.op h).1.w hd).id hinfo] at h1; cases h1
  · rw [h1.1] at hinfo; cases hinfo

theorem noFuture_of_none {s : St} (h : s.writing = none) : ∀ w, s.writing = some w → w.gen ≤ s.gen :=
  fun w hw => by rw [h] at hw; cases hw

theorem InitLike.full {s : St} (h : InitLike s) (hw : ∀ w, s.writing = some w → w.gen ≤ s.gen) :
    Full s := ⟨h.life, h.comp, h.winv hw⟩

end Rain.Loop
