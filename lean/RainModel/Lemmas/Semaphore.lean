import RainModel.Model.Semaphore
/-! Helper lemmas for `semaphore_bound` (C17). -/
namespace Rain.Semaphore

/-- Each counter is the number of goroutines at the program points where it is up: `cur` from `Acquire` to `Release`,
`waiting` from its increment to its decrement, `active` likewise. -/
def SemInv (n : Int) (s : State) : Prop :=
  s.n = n ∧ s.cur = s.acq + s.w3 + s.holding ∧ s.cur ≤ n ∧ s.waiting = s.w1 + s.acq ∧ s.active = s.holding + s.rel

theorem semInv_step {n : Int} (s s' : State) (a : Act) (h : SemInv n s) (hs : step s a = some s') : SemInv n s' := by
  obtain ⟨rfl, h1, h2, h3, h4⟩ := h
  cases a <;> simp only [step] at hs <;> split at hs <;> cases hs
  all_goals
    refine ⟨rfl, ?_, ?_, ?_, ?_⟩ <;> simp only <;> omega

theorem run_semInv {n : Int} : ∀ (acts : List Act) (s0 s : State), SemInv n s0 → run s0 acts = some s → SemInv n s := by
  intro acts
  induction acts with
  | nil => intro s0 s hi hr; cases hr; exact hi
  | cons a as ih =>
    intro s0 s hi hr
    simp only [run] at hr
    cases hs : step s0 a with
    | none => rw [hs] at hr; cases hr
    | some s1 => rw [hs] at hr; exact ih s1 s (semInv_step s0 s1 a hi hs) hr

end Rain.Semaphore
