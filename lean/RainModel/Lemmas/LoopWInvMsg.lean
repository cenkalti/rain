import RainModel.Lemmas.LoopWInv
/-!
`WInv` (continued): the peer-message handlers.  Every message other than a block is a `WFrame` step; a
block (`handlePieceMessage`) may hand a piece to the writer, which needs `writing = none` — what the
`deferred` verdict of `handle` and `deliverParked` guarantee.
-/
namespace Rain.Loop

theorem handlePeerMessage_wframe (m : M) (k : Nat) (msg : Msg) (hnp : ∀ i b l g, msg ≠ .piece i b l g) :
    WFrame m.1 (handlePeerMessage m k msg).1 :=
  .of_shrinks (handlePeerMessage_writes_of_ne_piece m k msg hnp) (handlePeerMessage_shrinks m k msg (.refl _))

theorem WInv.setJob {s : St} (h : WInv s) (hw : s.writing = none) (w : WriteJob) (hwg : w.gen = s.gen)
    (hv : s.verifier = false) (hbit : bitOf s.bf w.piece = false) (hin : w.piece < s.n)
    (hdn : s.done.getD w.piece false = false) : WInv (s.setJob w) := by
  refine ⟨h.q, ?_, ?_, ?_, ?_, ?_, h.bd, h.dd, h.dl, h.al, h.id⟩
  · intro hl j hj
    have hj : (setAt s.wflag w.piece true).getD j false = true := hj
    rw [getD_setAt] at hj
    split at hj
    · next hji => exact ⟨w, rfl, hji.1.symm, hwg⟩
    · obtain ⟨_, hw', _⟩ := h.wf hl j hj
      cases hw.symm.trans hw'
  · intro w' hw'; cases hw'; exact Nat.le_of_eq hwg
  · intro w' hw' _ _; cases hw'; exact ⟨hv, hbit⟩
  · intro hl; show (setAt s.wflag w.piece true).length = s.n; simpa [setAt] using h.wl hl
  · intro w' hw' _ hl; cases hw'
    show (setAt s.wflag w.piece true).getD w.piece false = true ∧ _
    rw [getD_setAt, if_pos ⟨rfl, (h.wl hl).symm ▸ hin⟩]; exact ⟨rfl, hdn⟩

theorem hpmWrite_winv (m : M) (k i : Nat) (g : Bool) (h : WInv m.1) (hw : m.1.writing = none)
    (hv : m.1.verifier = false) (hbit : bitOf m.1.bf i = false) (hin : i < m.1.n)
    (hdn : m.1.done.getD i false = false) : WInv (hpmWrite m k i g).1 := by
  have W' : Writes [.panicked, .mayStart] (m.1.closeDl k) (hpmPre m k i) := .intro (by unfold hpmPre; frame)
  have W := (closeDl_writes m.1 k).trans W'
  rw [hpmWrite_eq]
  exact (h.frame (.of_shrinks W (((Shrinks.refl _).closeDl k).of_writes W'))).setJob (W.writing.trans hw) _ rfl
    (W.verifier.trans hv) (W.bf ▸ hbit) (W.n ▸ hin) (W.done ▸ hdn)

theorem hpmBlock_winv (m : M) (d : Dl) (k i b l : Nat) (g : Bool) (h : WInv m.1) (hw : m.1.writing = none)
    (hd : m.1.findDl k = some d) (hin : i < m.1.n) : WInv (hpmBlock m d k i b l g).1 := by
  have hdm : d ∈ m.1.dls := List.mem_of_find?_eq_some hd
  unfold hpmBlock
  dsimp only
  refine WInv.ite (fun _ => h) fun hpi => ?_
  refine WInv.ite (fun _ => h.frame (closePeer_wframe _ _)) fun _ => ?_
  refine WInv.ite (fun _ => h) fun _ => ?_
  have hpi : d.piece = i := Decidable.not_not.1 hpi
  -- the block is recorded in the download, whose piece stays `i`
  have hX : WInv (onSt m fun s => { s with dls := s.dls.map fun x => if x.k = k then
      ({ d with doneBlocks := b :: d.doneBlocks, good := d.good && g } : Dl) else x }).1 := by
    refine h.frame (.of_shrinks (w := [.dls]) (.intro rfl) ((Shrinks.refl _).mapDls rfl fun x hx => ?_))
    split
    · exact ⟨d, hdm, rfl⟩
    · exact ⟨x, hx, rfl⟩
  refine WInv.ite (fun _ => hX) fun _ => ?_
  -- the piece is complete: it is downloaded, so not done, so (`bd`) its bit is not set
  obtain ⟨dl1, _, dl3, _⟩ := h.dl (List.ne_nil_of_mem hdm)
  have hdn : m.1.done.getD i false = false := hpi ▸ h.dd d hdm
  have hbit : bitOf m.1.bf i = false := by
    cases hb : m.1.bf with
    | none => rfl
    | some bb =>
      cases hbi : bb.getD i false with
      | false => simpa using hbi
      | true => rw [(h.bd dl1 dl3 bb hb).2 i hbi] at hdn; cases hdn
  exact hpmWrite_winv _ k i _ hX hw dl3 hbit hin hdn

theorem handlePieceMessage_winv (m : M) (k i b l : Nat) (g : Bool) (h : WInv m.1) (hw : m.1.writing = none) :
    WInv (handlePieceMessage m k i b l g).1 := by
  rw [handlePieceMessage_eq]
  refine WInv.ite (fun _ => h.frame (closePeer_wframe _ _)) fun _ => ?_
  refine WInv.ite (fun _ => h.frame (closePeer_wframe _ _)) fun hin => ?_
  split
  · exact h
  · next d hd => exact hpmBlock_winv m d k i b l g h hw hd (Nat.lt_of_not_ge hin)

/-- Any peer message, given that a block only arrives while no write is in flight. -/
theorem handlePeerMessage_winv (m : M) (k : Nat) (msg : Msg) (h : WInv m.1)
    (hp : (∃ i b l g, msg = .piece i b l g) → m.1.writing = none) : WInv (handlePeerMessage m k msg).1 := by
  by_cases hpc : ∃ i b l g, msg = .piece i b l g
  · obtain ⟨i, b, l, g, rfl⟩ := hpc
    unfold handlePeerMessage
    exact handlePieceMessage_winv m k i b l g h (hp ⟨i, b, l, g, rfl⟩)
  · exact h.frame (handlePeerMessage_wframe m k msg (fun i b l g he => hpc ⟨i, b, l, g, he⟩))

theorem needsInfo_not_piece {msg : Msg} (h : needsInfo msg = true) : ∀ i b l g, msg ≠ .piece i b l g := by
  intro i b l g he; subst he; simp [needsInfo] at h

theorem processQueued_wframe (m : M) (h : QueueOK m.1) :
    WFrame m.1 (processQueued m).1 ∧ (processQueued m).1.panicked = m.1.panicked := by
  unfold processQueued
  apply foldl_inv (fun x : M => WFrame m.1 x.1 ∧ x.1.panicked = m.1.panicked) _ _ _ _ ⟨WFrame.refl _, rfl⟩
  intro x k hx
  split
  · exact hx
  · next p hp =>
    have hpq := h.frame hx.1 p (List.mem_of_find?_eq_some hp)
    refine foldl_inv_mem (fun y : M => WFrame m.1 y.1 ∧ y.1.panicked = m.1.panicked) p.queued _ (fun y msg hmsg hy => ?_) _
      ⟨hx.1.trans (by simp only [onSt_fst]; exact updPeer_wframe _ _ _ fun _ _ hm => nomatch hm), hx.2⟩
    have hnp := needsInfo_not_piece (hpq msg hmsg)
    exact ite_ind (P := fun z : M => WFrame m.1 z.1 ∧ z.1.panicked = m.1.panicked)
      (fun _ => ⟨hy.1.trans (handlePeerMessage_wframe y k msg hnp),
        (handlePeerMessage_writes_of_ne_piece y k msg hnp).panicked.trans hy.2⟩) fun _ => hy

theorem processQueued_no_panic (m : M) (h : QueueOK m.1) :
    (processQueued m).1.panicked = m.1.panicked ∧ QueueOK (processQueued m).1 :=
  ⟨(processQueued_wframe m h).2, h.frame (processQueued_wframe m h).1⟩

theorem handleExtHandshake_wframe (m : M) (k : Nat) (hm : Bool) (sz : Nat) (hpx : Bool) :
    WFrame m.1 (handleExtHandshake m k hm sz hpx).1 := by
  unfold handleExtHandshake
  cases m.1.findPeer k with
  | none => exact .refl _
  | some p =>
    refine ite_ind (P := fun x : M => WFrame m.1 x.1) (fun _ => .refl _) fun _ => ?_
    have h0 : ∀ px, WFrame m.1
        (m.1.updPeer k fun p => { p with extHS := true, extMeta := hm, extSize := sz, pexOn := px }) :=
      fun _ => updPeer_wframe _ _ _ fun p msg h => Or.inr h
    exact ite_ind (P := fun x : M => WFrame m.1 x.1)
      (fun _ => (h0 _).trans (.of_writes_eq (w := [.mayStartI]) (.intro rfl))) fun _ => h0 _

theorem handleMetadataReject_wframe (m : M) (k : Nat) : WFrame m.1 (handleMetadataReject m k).1 :=
  .of_shrinks (handleMetadataReject_writes m k) (handleMetadataReject_shrinks m k (.refl _))

theorem handlePex_wframe (m : M) (a d : Bool) : WFrame m.1 (handlePex m a d).1 := .of_writes_eq (handlePex_writes m a d)
theorem handleDhtPeers_wframe (m : M) (ne : Bool) : WFrame m.1 (handleDhtPeers m ne).1 :=
  .of_writes_eq (handleDhtPeers_writes m ne)
theorem mutate_wframe (s : St) (f : Option Nat) (how : Mut) : WFrame s (mutate s f how) :=
  .of_writes_eq (mutate_writes s f how)

theorem handlePeerSnubbed_wframe (m : M) (k : Nat) : WFrame m.1 (handlePeerSnubbed m k).1 :=
  .of_shrinks (handlePeerSnubbed_writes m k) (handlePeerSnubbed_shrinks m k (.refl _))

theorem foldl_send_fst (k : Nat) (l : List String) (x : M) : (l.foldl (fun m y => send m k y) x).1 = x.1 := by
  induction l generalizing x with
  | nil => rfl
  | cons a l ih => rw [List.foldl_cons, ih, send_fst]

theorem acceptPeer_wframe (m : M) (k : Nat) (ip : String) (fast ext bad dup : Bool) :
    WFrame m.1 (acceptPeer m k ip fast ext bad dup).1.1 := by
  have W := acceptPeer_writes m k ip fast ext bad dup
  refine .of_writes W (fun d hd => ⟨d, W.dls ▸ hd, rfl⟩) (fun h => W.idls.trans h) ?_
  -- an accepted peer is appended with an empty queue
  have key : ∀ p' ∈ (acceptPeer m k ip fast ext bad dup).1.1.peers, p' ∈ m.1.peers ∨ p'.queued = [] := by
    unfold acceptPeer
    dsimp only
    iterate 5
      refine ite_ind (P := fun x : M × String => ∀ p' ∈ x.1.1.peers, p' ∈ m.1.peers ∨ p'.queued = [])
        (fun _ _ => Or.inl) fun _ => ?_
    intro p hp
    rw [foldl_send_fst] at hp
    rcases List.mem_append.1 hp with h1 | h1
    · exact Or.inl h1
    · exact Or.inr (List.mem_singleton.1 h1 ▸ rfl)
  intro p hp msg hm
  rcases key p hp with h1 | h1
  · exact Or.inr ⟨p, h1, hm⟩
  · rw [h1] at hm; cases hm

end Rain.Loop
