import RainModel.Model.PieceDownloader
import RainModel.Lemmas.Blocks
import RainModel.Lemmas.ListFacts
/-! Lemmas for the `PieceDownloader` theorems of C01 / C10 / C17.  First what one call does: every call is a sequence
of five moves (`step_induct`).  Then two halves that do not use each other.  The bookkeeping of the three queues: each
invariant stands with its proof, move by move, and with what it yields; of the block table it needs only that the
begins are pairwise different.  The assembly of the buffer needs the table's geometry (`WFBlocks`): writing a block's
data keeps the byte-level specification (`SpecF.write`), along a run (`Inv`) as well as in the fold that defines
`assembled`; the specification determines the buffer (`specBuf_unique`). -/
namespace Rain.PD
open Rain.Blocks

/-! ### Go maps as lists -/

def pairOf (b : Block) : Nat × Nat := (b.b, b.l)

theorem mapInsert_fresh (m : List (Nat × Nat)) (k v : Nat) (h : ∀ e ∈ m, e.1 ≠ k) :
    mapInsert m k v = m ++ [(k, v)] := by
  unfold mapInsert
  have : m.any (fun e => e.1 == k) = false := by
    rw [List.any_eq_false]
    intro e he
    simpa using h e he
  simp [this]

theorem foldl_mapInsert (bl : List Block) : ∀ (acc : List (Nat × Nat)),
    (∀ e ∈ acc, ∀ b ∈ bl, e.1 ≠ b.b) → (bl.map (·.b)).Nodup →
    bl.foldl (fun m b => mapInsert m b.b b.l) acc = acc ++ bl.map pairOf := by
  induction bl with
  | nil => intro acc _ _; simp
  | cons b rest ih =>
    intro acc hacc hnd
    simp only [List.map_cons, List.nodup_cons] at hnd
    simp only [List.foldl_cons]
    rw [mapInsert_fresh acc b.b b.l (fun e he => hacc e he b List.mem_cons_self)]
    rw [ih _ ?_ hnd.2]
    · simp [pairOf]
    · intro e he x hx
      simp only [List.mem_append, List.mem_singleton] at he
      rcases he with he | rfl
      · exact hacc e he x (List.mem_cons_of_mem _ hx)
      · intro heq
        exact hnd.1 (List.mem_map.mpr ⟨x, hx, heq.symm⟩)

theorem makeBlocks_eq {bl : List Block} (hk : (bl.map (·.b)).Nodup) : makeBlocks bl = bl.map pairOf := by
  unfold makeBlocks
  rw [foldl_mapInsert bl [] (by simp) hk]
  simp

theorem lookup_pairs {bl : List Block} (hnd : (bl.map (·.b)).Nodup) (b l : Nat) :
    (bl.map pairOf).lookup b = some l ↔ (⟨b, l⟩ : Block) ∈ bl := by
  induction bl with
  | nil => simp
  | cons x rest ih =>
    rw [List.map_cons, List.nodup_cons] at hnd
    rw [List.map_cons, pairOf, List.lookup_cons, List.mem_cons, ← ih hnd.2]
    obtain ⟨xb, xl⟩ := x
    by_cases hx : b = xb
    · subst hx
      have : List.lookup b (rest.map pairOf) = none := by
        rw [List.lookup_eq_none_iff]
        intro p hp
        obtain ⟨y, hy, rfl⟩ := List.mem_map.mp hp
        simpa [pairOf] using fun (e : b = y.b) => hnd.1 (List.mem_map.mpr ⟨y, hy, e.symm⟩)
      simp [this, eq_comm]
    · have : (b == xb) = false := by simpa using hx
      simp [hx, this]

theorem mapGet_makeBlocks {bl : List Block} (hk : (bl.map (·.b)).Nodup) (b l : Nat) :
    mapGet (makeBlocks bl) b = some l ↔ (⟨b, l⟩ : Block) ∈ bl := by
  rw [mapGet, makeBlocks_eq hk, lookup_pairs hk]


theorem findBlock_iff {bl : List Block} (hk : (bl.map (·.b)).Nodup) (s : State)
    (hs : s.blocks = makeBlocks bl) (b l : Nat) :
    findBlock s b l = true ↔ (⟨b, l⟩ : Block) ∈ bl := by
  rw [findBlock, beq_iff_eq, hs, mapGet_makeBlocks hk]

theorem mapGet_key {bl : List Block} (hk : (bl.map (·.b)).Nodup) {x : Nat} (hx : x ∈ bl.map (·.b)) :
    ∃ l, mapGet (makeBlocks bl) x = some l := by
  obtain ⟨y, hy, rfl⟩ := List.mem_map.mp hx
  exact ⟨y.l, (mapGet_makeBlocks hk y.b y.l).mpr hy⟩

theorem writeAt_length {buf : Bytes} {b : Nat} {d : Bytes} (h : b + d.length ≤ buf.length) :
    (writeAt buf b d).length = buf.length :=
  length_overwrite buf b d h

theorem writeAt_in {buf : Bytes} {b : Nat} {d : Bytes} (h : b + d.length ≤ buf.length) {j : Nat}
    (hj : j < d.length) : (writeAt buf b d)[b + j]? = d[j]? := by
  rw [writeAt, getElem?_overwrite buf b d h, if_neg (by omega), if_pos (by omega), Nat.add_sub_cancel_left]

theorem writeAt_out {buf : Bytes} {b : Nat} {d : Bytes} (h : b + d.length ≤ buf.length) {i : Nat}
    (hi : i < b ∨ b + d.length ≤ i) : (writeAt buf b d)[i]? = buf[i]? := by
  rw [writeAt, getElem?_overwrite buf b d h]
  split
  · rfl
  · rw [if_neg (by omega)]

theorem mem_setInsert {s : List Nat} {k x : Nat} : x ∈ setInsert s k ↔ x ∈ s ∨ x = k :=
  mem_insertNew List.contains_iff_mem

theorem nodup_setInsert {s : List Nat} {k : Nat} (h : s.Nodup) : (setInsert s k).Nodup :=
  nodup_insertNew List.contains_iff_mem h

theorem length_setInsert_le {s : List Nat} {k : Nat} : (setInsert s k).length ≤ s.length + 1 :=
  length_insertNew_le

theorem mem_setDelete {s : List Nat} {k x : Nat} : x ∈ setDelete s k ↔ x ∈ s ∧ x ≠ k := by
  unfold setDelete
  simp [List.mem_filter]

theorem nodup_setDelete {s : List Nat} {k : Nat} (h : s.Nodup) : (setDelete s k).Nodup :=
  List.Nodup.sublist List.filter_sublist h

theorem length_setDelete_le {s : List Nat} {k : Nat} : (setDelete s k).length ≤ s.length :=
  List.length_filter_le _ _

theorem setDelete_of_not_mem {s : List Nat} {k : Nat} (h : k ∉ s) : setDelete s k = s :=
  filter_ne_of_notMem id s k (by simpa using h)

theorem length_setInsert_fresh {s : List Nat} {k : Nat} (h : k ∉ s) :
    (setInsert s k).length = s.length + 1 := by
  unfold setInsert
  simp [h]

theorem length_setDelete_mem {s : List Nat} {k : Nat} (hnd : s.Nodup) (h : k ∈ s) :
    (setDelete s k).length + 1 = s.length := by
  rw [setDelete, ← hnd.erase_eq_filter, List.length_erase_of_mem h]
  have := List.length_pos_of_mem h
  omega

/-! ### Single calls

The three calls that do not loop, each written as one update under its guard.  `GotBlock` stores under `Stores`; over a
well-formed block table and a piece-sized buffer that is: a block of the table, not received before (`gotBlock_cases`). -/

structure Stores (s : State) (b : Nat) (d : Bytes) : Prop where
  found : findBlock s b d.length = true
  fresh : b ∉ s.done
  fits : b + d.length ≤ s.buf.length

theorem gotBlock_stored {s : State} {b : Nat} {d : Bytes} (h : Stores s b d) :
    gotBlock s b d =
      ({ s with buf := writeAt s.buf b d, done := setInsert s.done b, pending := setDelete s.pending b },
       if b ∈ s.pending then .ok else .notRequested) := by
  unfold gotBlock
  simp only [h.found, Bool.not_true, Bool.false_eq_true, if_false, List.contains_iff_mem, h.fresh,
    Nat.not_lt.mpr h.fits]
  by_cases hp : b ∈ s.pending
  · simp [hp]
  · simp [hp, setDelete_of_not_mem hp]

theorem gotBlock_not_stored {s : State} {b : Nat} {d : Bytes} (h : ¬ Stores s b d) :
    (gotBlock s b d).1 = s ∧ (gotBlock s b d).2.stored = false := by
  unfold gotBlock
  cases hf : findBlock s b d.length with
  | false => exact ⟨rfl, rfl⟩
  | true =>
    cases hd : s.done.contains b with
    | true => exact ⟨rfl, rfl⟩
    | false =>
      have hlt : s.buf.length < b + d.length :=
        Nat.lt_of_not_le fun hle => h ⟨hf, by simpa using hd, hle⟩
      rw [if_neg (by simp), if_neg (by simp), if_pos hlt]
      exact ⟨rfl, rfl⟩

theorem gotBlock_cases {bl : List Block} {n : Nat} (hw : WFBlocks bl n) (s : State)
    (hs : s.blocks = makeBlocks bl) (hlen : s.buf.length = n) (b : Nat) (d : Bytes) :
    ((⟨b, d.length⟩ : Block) ∈ bl ∧ b ∉ s.done ∧ (gotBlock s b d).2.stored = true ∧
      (gotBlock s b d).1.buf = writeAt s.buf b d ∧ (gotBlock s b d).1.done = setInsert s.done b ∧
      (gotBlock s b d).1.blocks = s.blocks) ∨
    (¬ ((⟨b, d.length⟩ : Block) ∈ bl ∧ b ∉ s.done) ∧ (gotBlock s b d).2.stored = false ∧
      (gotBlock s b d).1 = s) := by
  have hiff := findBlock_iff hw.nodup_keys s hs b d.length
  by_cases hst : (⟨b, d.length⟩ : Block) ∈ bl ∧ b ∉ s.done
  · have hfit : b + d.length ≤ s.buf.length := hlen ▸ hw.within _ hst.1
    rw [gotBlock_stored ⟨hiff.mpr hst.1, hst.2, hfit⟩]
    refine Or.inl ⟨hst.1, hst.2, ?_, rfl, rfl, rfl⟩
    split <;> rfl
  · obtain ⟨h1, h2⟩ := gotBlock_not_stored fun h => hst ⟨hiff.mp h.found, h.fresh⟩
    exact Or.inr ⟨hst, h2, h1⟩

theorem acceptOK_iff {bl : List Block} {done : List Nat} {buf buf' : Bytes} {b : Nat} {d : Bytes} {stored : Bool} :
    acceptOK bl done buf b d stored buf' = true ↔
      (stored = true ↔ (⟨b, d.length⟩ : Block) ∈ bl ∧ b ∉ done) ∧
      buf' = if stored then writeAt buf b d else buf := by
  have hs : (bl.any (fun x => x.b == b && x.l == d.length) && !done.contains b) = true ↔
      (⟨b, d.length⟩ : Block) ∈ bl ∧ b ∉ done := by
    simp only [Bool.and_eq_true, List.any_eq_true, beq_iff_eq, Bool.not_eq_true', List.contains_eq_mem,
      decide_eq_false_iff_not]
    exact and_congr_left' ⟨fun ⟨⟨_, _⟩, hx, rfl, rfl⟩ => hx, fun h => ⟨_, h, rfl, rfl⟩⟩
  simp only [acceptOK, ← hs]
  generalize (bl.any _ && !done.contains b) = should
  cases stored <;> cases should <;> simp

theorem choked_eq (s : State) (pf : Bool) (order : List Nat) :
    choked s pf order =
      if chokedRequeues s pf then { s with pending := [], remaining := s.remaining ++ order } else s := by
  unfold choked chokedRequeues
  cases s.allowedFast <;> cases pf <;> rfl

theorem rejected_eq (s : State) (b l : Nat) :
    rejected s b l =
      if findBlock s b l && s.pending.contains b then
        ({ s with pending := setDelete s.pending b, remaining := s.remaining ++ [b] }, true)
      else (s, findBlock s b l) := by
  unfold rejected
  cases findBlock s b l <;> cases s.pending.contains b <;> rfl

theorem isDone_iff_keys {bl : List Block} (hk : (bl.map (·.b)).Nodup) {s : State}
    (hb : s.blocks = makeBlocks bl) (hnd : s.done.Nodup) (hsub : s.done ⊆ bl.map (·.b)) :
    isDone s = true ↔ ∀ b ∈ bl, b.b ∈ s.done := by
  have hlen : s.blocks.length = (bl.map (·.b)).length := by rw [hb, makeBlocks_eq hk]; simp
  rw [isDone, beq_iff_eq, hlen]
  constructor
  · exact fun h b hb => subset_of_nodup_length hnd hsub (Nat.le_of_eq h.symm) (List.mem_map.mpr ⟨b, hb, rfl⟩)
  · intro hall
    refine Nat.le_antisymm (hnd.length_le_of_subset hsub) (hk.length_le_of_subset fun x hx => ?_)
    obtain ⟨y, hy, rfl⟩ := List.mem_map.mp hx
    exact hall y hy

/-! ### The loop of `RequestBlocks`

The loop takes blocks from the head of `remaining` until `remaining` is empty or the window is full: a received
block is dropped (`skip`), any other is moved into the window and requested (`send`). -/

/-- `P` relates the state to the requests sent so far, latest first. -/
theorem requestLoop_induct {q : Int} {P : State → List (Nat × Nat) → Prop}
    (skip : ∀ {s x rest acc}, s.remaining = x :: rest → x ∈ s.done → P s acc →
      P { s with remaining := rest } acc)
    (send : ∀ {s x rest l acc}, s.remaining = x :: rest → (s.pending.length : Int) < q → x ∉ s.done →
      mapGet s.blocks x = some l → P s acc →
      P { s with remaining := rest, pending := setInsert s.pending x } ((x, l) :: acc))
    {snap : List Nat} {s : State} {acc : List (Nat × Nat)} {s' : State} {r : List (Nat × Nat)}
    (hrem : s.remaining = snap) (h : requestLoop q snap s acc = some (s', r)) (h0 : P s acc) :
    ∃ acc', r = acc'.reverse ∧ P s' acc' ∧ (s'.remaining = [] ∨ q ≤ (s'.pending.length : Int)) := by
  fun_induction requestLoop q snap s acc with
  | case1 => cases h; exact ⟨_, rfl, h0, Or.inl hrem⟩
  | case2 _ _ _ _ hge => cases h; exact ⟨_, rfl, h0, Or.inr hge⟩
  | case3 => cases h
  | case4 x rest s acc _ len _ hd ih =>
    have e : s.remaining.drop 1 = rest := by rw [hrem]; rfl
    rw [e] at h ih
    exact ih rfl h (skip hrem (by simpa using hd) h0)
  | case5 x rest s acc hq len hlen hd ih =>
    have e : s.remaining.drop 1 = rest := by rw [hrem]; rfl
    rw [e] at h ih
    exact ih rfl h (send hrem (by omega) (by simpa using hd) hlen h0)

theorem requestBlocks_spec {s s' : State} {q : Int} {r : List (Nat × Nat)}
    (h : requestBlocks s q = some (s', r)) :
    (∀ e ∈ r, mapGet s.blocks e.1 = some e.2 ∧ e.1 ∉ s.done ∧ e.1 ∈ s'.pending) ∧
    (r ≠ [] ∨ s'.pending = s.pending) ∧ (s'.remaining = [] ∨ q ≤ (s'.pending.length : Int)) := by
  have ⟨acc, hr, ⟨_, _, hiss, hany⟩, hstop⟩ := requestLoop_induct
    (P := fun t acc => t.blocks = s.blocks ∧ t.done = s.done ∧
      (∀ e ∈ acc, mapGet s.blocks e.1 = some e.2 ∧ e.1 ∉ s.done ∧ e.1 ∈ t.pending) ∧
      (acc ≠ [] ∨ t.pending = s.pending))
    (fun _ _ h => h)
    (fun _ _ hd hl ⟨hb, hdn, hiss, _⟩ => ⟨hb, hdn, fun e he => ?_, Or.inl (List.cons_ne_nil _ _)⟩)
    rfl h ⟨rfl, rfl, nofun, Or.inr rfl⟩
  · subst hr
    exact ⟨fun e he => hiss e (List.mem_reverse.mp he), hany.imp_left (by simpa using ·), hstop⟩
  · rcases List.mem_cons.mp he with rfl | he
    · exact ⟨hb ▸ hl, hdn ▸ hd, mem_setInsert.mpr (Or.inr rfl)⟩
    · exact ⟨(hiss e he).1, (hiss e he).2.1, mem_setInsert.mpr (Or.inl (hiss e he).2.2)⟩

theorem requestLoop_some (q : Int) (snap : List Nat) (s : State) (acc : List (Nat × Nat))
    (hsnap : ∀ x ∈ snap, ∃ l, mapGet s.blocks x = some l) :
    ∃ s' r, requestLoop q snap s acc = some (s', r) := by
  fun_induction requestLoop q snap s acc with
  | case1 | case2 => exact ⟨_, _, rfl⟩
  | case3 x rest s acc hq hnone =>
    obtain ⟨l, hl⟩ := hsnap x List.mem_cons_self
    rw [hnone] at hl
    cases hl
  | case4 x rest s acc hq len hlen hd ih | case5 x rest s acc hq len hlen hd ih =>
    exact ih fun y hy => hsnap y (List.mem_cons_of_mem _ hy)

/-! ### One call

A call leaves the state alone, or makes one of the three moves `recv`, `requeue`, `reject` on it, or (the loop of
`RequestBlocks`) a sequence of the moves `skip` and `send`. -/

/-- The choke order of `op`, if `op` is a choke that re-queues, is a permutation of `pending`
(`chokedAdmissible` is `isPerm`). -/
def ChokeOk (s : State) (op : Op) : Prop :=
  ∀ pf order, op = .choked pf order → chokedRequeues s pf = true → chokedAdmissible s order = true

/-- `requeue` may use that the choke order is a permutation of `pending` when it is admissible. -/
theorem step_induct {P : State → Prop} {s s' : State} {op : Op}
    (recv : ∀ {b d}, op = .gotBlock b d → Stores s b d → P s →
      P { s with buf := writeAt s.buf b d, done := setInsert s.done b, pending := setDelete s.pending b })
    (requeue : ∀ {order}, (ChokeOk s op → order.Perm s.pending) → P s →
      P { s with pending := [], remaining := s.remaining ++ order })
    (reject : ∀ {b}, b ∈ s.pending → P s →
      P { s with pending := setDelete s.pending b, remaining := s.remaining ++ [b] })
    (skip : ∀ {t x rest}, t.remaining = x :: rest → x ∈ t.done → P t → P { t with remaining := rest })
    (send : ∀ {q t x rest}, op = .requestBlocks q → t.remaining = x :: rest → (t.pending.length : Int) < q →
      x ∉ t.done → P t → P { t with remaining := rest, pending := setInsert t.pending x })
    (h : step s op = some s') (h0 : P s) : P s' := by
  cases op with
  | gotBlock b d =>
    cases h
    by_cases hst : Stores s b d
    · rw [gotBlock_stored hst]
      exact recv rfl hst h0
    · rwa [(gotBlock_not_stored hst).1]
  | choked pf order =>
    cases h
    rw [choked_eq]
    split
    · rename_i hq
      exact requeue (fun hok => List.isPerm_iff.mp (hok pf order rfl hq)) h0
    · exact h0
  | rejected b l =>
    cases h
    rw [rejected_eq]
    split
    · rename_i hc
      rw [Bool.and_eq_true, List.contains_iff_mem] at hc
      exact reject hc.2 h0
    · exact h0
  | requestBlocks q =>
    obtain ⟨⟨s1, r⟩, h1, rfl⟩ := Option.map_eq_some_iff.mp h
    have ⟨_, _, hp, _⟩ :=
      requestLoop_induct (P := fun t _ => P t) skip (fun hr hq hd _ => send rfl hr hq hd) rfl h1 h0
    exact hp
  | cancelPending =>
    obtain ⟨_, _, rfl⟩ := Option.map_eq_some_iff.mp h
    exact h0
  | done =>
    cases h
    exact h0

theorem step_frame_other {s s' : State} {op : Op} (hop : ∀ b d, op ≠ .gotBlock b d)
    (h : step s op = some s') : s'.blocks = s.blocks ∧ s'.buf = s.buf ∧ s'.done = s.done :=
  step_induct (P := fun t => t.blocks = s.blocks ∧ t.buf = s.buf ∧ t.done = s.done)
    (fun e => absurd e (hop _ _)) (fun _ h => h) (fun _ h => h) (fun _ _ h => h) (fun _ _ _ _ h => h) h
    ⟨rfl, rfl, rfl⟩

theorem run_cons (s : State) (op : Op) (rest : List Op) :
    run s (op :: rest) = (step s op).bind (run · rest) := List.foldlM_cons ..

theorem run_induct {P : List Op → State → Prop}
    (hstep : ∀ {pre s op s'}, P pre s → step s op = some s' → P (pre ++ [op]) s') :
    ∀ {ops pre s s'}, P pre s → run s ops = some s' → P (pre ++ ops) s' := by
  intro ops
  induction ops with
  | nil =>
    intro pre s s' hp h
    cases h
    simpa using hp
  | cons op rest ih =>
    intro pre s s' hp h
    rw [run_cons] at h
    obtain ⟨s1, hs, hr⟩ := Option.bind_eq_some_iff.mp h
    simpa using ih (hstep hp hs) hr

theorem admissible_cons {s : State} {op : Op} {rest : List Op} (hadm : admissibleRun s (op :: rest) = true) :
    ChokeOk s op ∧ ∀ s1, step s op = some s1 → admissibleRun s1 rest = true := by
  unfold admissibleRun at hadm
  rw [Bool.and_eq_true] at hadm
  refine ⟨?_, ?_⟩
  · rintro pf order rfl hq
    simpa [hq] using hadm.1
  · intro s1 hs1
    simpa [hs1] using hadm.2

theorem run_adm_induct {P : State → Prop}
    (hstep : ∀ {s op s'}, P s → ChokeOk s op → step s op = some s' → P s') :
    ∀ {ops s s'}, P s → admissibleRun s ops = true → run s ops = some s' → P s' := by
  intro ops
  induction ops with
  | nil =>
    intro s s' hp _ h
    cases h
    exact hp
  | cons op rest ih =>
    intro s s' hp hadm h
    rw [run_cons] at h
    obtain ⟨s1, hs, hr⟩ := Option.bind_eq_some_iff.mp h
    obtain ⟨hok, hadm'⟩ := admissible_cons hadm
    exact ih (hstep hp hok hs) (hadm' s1 hs) hr

/-! ### The bookkeeping invariants

`Inv2`, `PendFresh`, `Inv3` and `Inv4` speak of the three queues (`remaining`, `pending`, `done`) only: `Inv2` is what
makes an admissible run total (`step_some`), the others carry the request window and the progress argument of
`Props/C10PD.lean`.  `Inv` further down ties the buffer to the data received and carries C01. -/

structure Inv2 (bl : List Block) (s : State) : Prop where
  blocks : s.blocks = makeBlocks bl
  pendSub : ∀ x ∈ s.pending, x ∈ bl.map (·.b)
  remSub : ∀ x ∈ s.remaining, x ∈ bl.map (·.b)

theorem inv2_init {bl : List Block} (af : Bool) (buf : Bytes) : Inv2 bl (init bl af buf) :=
  ⟨rfl, by simp [init], by simp [init, makeRemaining]⟩

theorem step_inv2 {bl : List Block} {s s' : State} {op : Op} (hi : Inv2 bl s) (hok : ChokeOk s op)
    (h : step s op = some s') : Inv2 bl s' := by
  refine step_induct (fun _ _ hi => ?_) (fun hperm hi => ?_) (fun hp hi => ?_) (fun hr _ hi => ?_)
    (fun _ hr _ _ hi => ?_) h hi
  · exact ⟨hi.blocks, fun x hx => hi.pendSub x (mem_setDelete.mp hx).1, hi.remSub⟩
  · refine ⟨hi.blocks, nofun, fun x hx => ?_⟩
    rcases List.mem_append.mp hx with hx | hx
    · exact hi.remSub x hx
    · exact hi.pendSub x ((hperm hok).subset hx)
  · refine ⟨hi.blocks, fun x hx => hi.pendSub x (mem_setDelete.mp hx).1, fun x hx => ?_⟩
    rcases List.mem_append.mp hx with hx | hx
    · exact hi.remSub x hx
    · cases List.mem_singleton.mp hx
      exact hi.pendSub _ hp
  all_goals have hsub := fun y (hy : y ∈ _) => hi.remSub y (hr ▸ List.mem_cons_of_mem _ hy)
  · exact ⟨hi.blocks, hi.pendSub, hsub⟩
  · refine ⟨hi.blocks, fun y hy => ?_, hsub⟩
    rcases mem_setInsert.mp hy with hy | rfl
    · exact hi.pendSub y hy
    · exact hi.remSub y (hr ▸ List.mem_cons_self)

theorem mapM_some {α β : Type} (f : α → Option β) : ∀ (l : List α), (∀ x ∈ l, ∃ y, f x = some y) →
    ∃ r, l.mapM f = some r := by
  intro l
  induction l with
  | nil => intro _; exact ⟨[], by simp⟩
  | cons a rest ih =>
    intro h
    obtain ⟨y, hy⟩ := h a List.mem_cons_self
    obtain ⟨r, hr⟩ := ih (fun x hx => h x (List.mem_cons_of_mem _ hx))
    exact ⟨y :: r, by simp [List.mapM_cons, hy, hr]⟩

theorem step_some {bl : List Block} (hk : (bl.map (·.b)).Nodup) {s : State} (hi : Inv2 bl s) (op : Op) :
    ∃ s', step s op = some s' := by
  have hget : ∀ x ∈ bl.map (·.b), ∃ l, mapGet s.blocks x = some l := fun x hx =>
    hi.blocks ▸ mapGet_key hk hx
  cases op with
  | requestBlocks q =>
    obtain ⟨s', r, h⟩ := requestLoop_some q s.remaining s [] fun x hx => hget x (hi.remSub x hx)
    exact ⟨s', by simp [step, requestBlocks, h]⟩
  | cancelPending =>
    obtain ⟨r, hr⟩ := mapM_some (fun b => (mapGet s.blocks b).map fun l => (b, l)) s.pending (by
      intro x hx
      obtain ⟨l, hl⟩ := hget x (hi.pendSub x hx)
      exact ⟨(x, l), by rw [hl]; rfl⟩)
    exact ⟨s, by simp [step, cancelPending, hr]⟩
  | _ => exact ⟨_, rfl⟩

theorem run_some {bl : List Block} (hk : (bl.map (·.b)).Nodup) : ∀ (ops : List Op) (s : State),
    Inv2 bl s → admissibleRun s ops = true → ∃ s', run s ops = some s'
  | [], s, _, _ => ⟨s, rfl⟩
  | op :: rest, s, hi, hadm => by
    obtain ⟨hok, hadm'⟩ := admissible_cons hadm
    obtain ⟨s1, hs⟩ := step_some hk hi op
    obtain ⟨s', hr⟩ := run_some hk rest s1 (step_inv2 hi hok hs) (hadm' s1 hs)
    exact ⟨s', by rw [run_cons, hs]; exact hr⟩

/-! ### The request window holds only unanswered requests; `RequestBlocks` makes progress (C10) -/

def PendFresh (s : State) : Prop := ∀ x ∈ s.pending, x ∉ s.done

theorem pendFresh_init (bl : List Block) (af : Bool) (buf : Bytes) : PendFresh (init bl af buf) :=
  nofun

theorem step_pendFresh {s s' : State} {op : Op} (hp : PendFresh s) (h : step s op = some s') :
    PendFresh s' := by
  refine step_induct (fun _ _ hp y hy hyd => ?_) (fun _ _ => nofun) (fun _ hp y hy => hp y (mem_setDelete.mp hy).1)
    (fun _ _ hp => hp) (fun _ _ _ hd hp y hy => ?_) h hp
  · obtain ⟨hy1, hy2⟩ := mem_setDelete.mp hy
    rcases mem_setInsert.mp hyd with hyd | rfl
    · exact hp y hy1 hyd
    · exact hy2 rfl
  · rcases mem_setInsert.mp hy with hy | rfl
    · exact hp y hy
    · exact hd

structure Inv3 (bl : List Block) (s : State) : Prop where
  cover : ∀ x ∈ bl.map (·.b), x ∉ s.done → x ∉ s.pending → x ∈ s.remaining
  doneSub : ∀ x ∈ s.done, x ∈ bl.map (·.b)
  doneNodup : s.done.Nodup

theorem inv3_init (bl : List Block) (af : Bool) (buf : Bytes) : Inv3 bl (init bl af buf) :=
  ⟨fun x hx _ _ => by simpa [init, makeRemaining] using hx, by simp [init], by simp [init]⟩

theorem step_inv3 {bl : List Block} (hk : (bl.map (·.b)).Nodup) {s s' : State} {op : Op}
    (hb : s.blocks = makeBlocks bl) (hi : Inv3 bl s) (hok : ChokeOk s op)
    (h : step s op = some s') : Inv3 bl s' := by
  refine step_induct (fun {b d} _ hf hi => ⟨fun x hx hd hp => ?_, fun x hx => ?_, nodup_setInsert hi.doneNodup⟩)
    (fun hperm hi => ⟨fun x hx hd _ => ?_, hi.doneSub, hi.doneNodup⟩)
    (fun {b} _ hi => ⟨fun x hx hd hp => ?_, hi.doneSub, hi.doneNodup⟩)
    (fun hr hd' hi => ⟨fun x hx hd hp => ?_, hi.doneSub, hi.doneNodup⟩)
    (fun _ hr _ _ hi => ⟨fun x hx hd hp => ?_, hi.doneSub, hi.doneNodup⟩) h hi
  · exact hi.cover x hx (fun h => hd (mem_setInsert.mpr (Or.inl h))) fun h =>
      hp (mem_setDelete.mpr ⟨h, fun e => hd (mem_setInsert.mpr (Or.inr e))⟩)
  · rcases mem_setInsert.mp hx with hx | rfl
    · exact hi.doneSub x hx
    · exact List.mem_map.mpr ⟨_, (findBlock_iff hk s hb x d.length).mp hf.found, rfl⟩
  · by_cases hp : x ∈ s.pending
    · exact List.mem_append_right _ ((hperm hok).symm.subset hp)
    · exact List.mem_append_left _ (hi.cover x hx hd hp)
  · by_cases e : x = b
    · exact List.mem_append_right _ (List.mem_singleton.mpr e)
    · exact List.mem_append_left _ (hi.cover x hx hd fun h => hp (mem_setDelete.mpr ⟨h, e⟩))
  · rcases List.mem_cons.mp (hr ▸ hi.cover x hx hd hp) with rfl | h
    · exact absurd hd' hd
    · exact h
  · rcases List.mem_cons.mp (hr ▸ hi.cover x hx hd fun h => hp (mem_setInsert.mpr (Or.inl h))) with rfl | h
    · exact absurd (mem_setInsert.mpr (Or.inr rfl)) hp
    · exact h

theorem not_isDone_missing {bl : List Block} (hk : (bl.map (·.b)).Nodup) {s : State}
    (hb : s.blocks = makeBlocks bl) (hi : Inv3 bl s) (hnd : isDone s = false) :
    ∃ b ∈ bl, b.b ∉ s.done := by
  apply Classical.byContradiction
  intro hne
  rw [(isDone_iff_keys hk hb hi.doneNodup hi.doneSub).mpr fun y hy =>
    Classical.byContradiction fun hyd => hne ⟨y, hy, hyd⟩] at hnd
  cases hnd

theorem requestBlocks_progress {bl : List Block} (hk : (bl.map (·.b)).Nodup) {s : State} (h2 : Inv2 bl s)
    (h3 : Inv3 bl s) {q : Int} (hq : (s.pending.length : Int) < q) :
    ∃ s' r, requestBlocks s q = some (s', r) ∧
      (r ≠ [] ∨ (s'.remaining = [] ∧ s'.pending = s.pending ∧
        ∀ b ∈ bl, b.b ∉ s'.done → b.b ∈ s'.pending)) ∧
      (∀ e ∈ r, (⟨e.1, e.2⟩ : Block) ∈ bl ∧ e.1 ∉ s'.done ∧ e.1 ∈ s'.pending) ∧
      (isDone s = false → r ≠ [] ∨ ∃ b ∈ bl, b.b ∉ s'.done ∧ b.b ∈ s'.pending) := by
  obtain ⟨s', r, hreq⟩ := requestLoop_some q s.remaining s [] fun x hx =>
    h2.blocks ▸ mapGet_key hk (h2.remSub x hx)
  have hstep : step s (.requestBlocks q) = some s' := congrArg (·.map (·.1)) hreq
  have hdone : s'.done = s.done := (step_frame_other (op := .requestBlocks q) nofun hstep).2.2
  have h3' : Inv3 bl s' := step_inv3 hk h2.blocks h3 (op := .requestBlocks q) nofun hstep
  obtain ⟨hiss, hany, hstop⟩ := requestBlocks_spec hreq
  have hcase : r ≠ [] ∨ (s'.remaining = [] ∧ s'.pending = s.pending ∧
      ∀ b ∈ bl, b.b ∉ s'.done → b.b ∈ s'.pending) := by
    refine hany.imp_right fun hpend => ?_
    -- the window is as it was, so not full: the loop ran `remaining` empty
    have hrem : s'.remaining = [] := hstop.resolve_right (by rw [hpend]; omega)
    refine ⟨hrem, hpend, fun b hb hnd => ?_⟩
    refine Classical.byContradiction fun hp => ?_
    have hc := h3'.cover b.b (List.mem_map.mpr ⟨b, hb, rfl⟩) hnd hp
    rw [hrem] at hc
    cases hc
  refine ⟨s', r, hreq, hcase, fun e he => ?_, fun hnd => hcase.imp_right fun ⟨_, _, hall⟩ => ?_⟩
  · obtain ⟨hget, hnd, hp⟩ := hiss e he
    rw [h2.blocks, mapGet_makeBlocks hk] at hget
    exact ⟨hget, hdone ▸ hnd, hp⟩
  · obtain ⟨b, hb, hbd⟩ := not_isDone_missing hk h2.blocks h3 hnd
    exact ⟨b, hb, hdone ▸ hbd, hall b hb (hdone ▸ hbd)⟩

/-! ### No block is queued twice; the window counts the requests at the peer (C17) -/

structure Inv4 (s : State) : Prop where
  remNodup : s.remaining.Nodup
  pendNodup : s.pending.Nodup
  disj : ∀ x ∈ s.remaining, x ∉ s.pending

theorem inv4_init {bl : List Block} (hk : (bl.map (·.b)).Nodup) (af : Bool) (buf : Bytes) :
    Inv4 (init bl af buf) :=
  ⟨by simpa [init, makeRemaining] using hk, by simp [init], by simp [init]⟩

theorem Inv4.skip {s : State} {x : Nat} {rest : List Nat} (hi : Inv4 s) (hr : s.remaining = x :: rest) :
    Inv4 { s with remaining := rest } :=
  ⟨(List.nodup_cons.mp (hr ▸ hi.remNodup)).2, hi.pendNodup,
    fun y hy => hi.disj y (hr ▸ List.mem_cons_of_mem _ hy)⟩

theorem Inv4.send {s : State} {x : Nat} {rest : List Nat} (hi : Inv4 s) (hr : s.remaining = x :: rest) :
    Inv4 { s with remaining := rest, pending := setInsert s.pending x } := by
  have hnd := List.nodup_cons.mp (hr ▸ hi.remNodup)
  refine ⟨hnd.2, nodup_setInsert hi.pendNodup, fun y hy hyp => ?_⟩
  rcases mem_setInsert.mp hyp with hyp | rfl
  · exact hi.disj y (hr ▸ List.mem_cons_of_mem _ hy) hyp
  · exact hnd.1 hy

theorem step_inv4 {s s' : State} {op : Op} (hi : Inv4 s) (hok : ChokeOk s op)
    (h : step s op = some s') : Inv4 s' := by
  refine step_induct (fun _ _ hi => ?_) (fun hperm hi => ?_) (fun hp hi => ?_) (fun hr _ hi => hi.skip hr)
    (fun _ hr _ _ hi => hi.send hr) h hi
  · exact ⟨hi.remNodup, nodup_setDelete hi.pendNodup,
      fun x hx hxp => hi.disj x hx (mem_setDelete.mp hxp).1⟩
  · refine ⟨List.nodup_append.mpr ⟨hi.remNodup, (hperm hok).nodup_iff.mpr hi.pendNodup, ?_⟩,
      List.nodup_nil, fun _ _ => List.not_mem_nil⟩
    rintro a ha _ hb rfl
    exact hi.disj a ha ((hperm hok).subset hb)
  · refine ⟨nodup_concat hi.remNodup fun ha => hi.disj _ ha hp,
      nodup_setDelete hi.pendNodup, fun x hx hxp => ?_⟩
    · obtain ⟨hxp1, hxp2⟩ := mem_setDelete.mp hxp
      rcases List.mem_append.mp hx with hx | hx
      · exact hi.disj x hx hxp1
      · exact hxp2 (List.mem_singleton.mp hx)

theorem run_inv4 {ops : List Op} {s s' : State} : Inv4 s → admissibleRun s ops = true →
    run s ops = some s' → Inv4 s' :=
  run_adm_induct step_inv4

theorem requestBlocks_window {s s' : State} {q : Int} {r : List (Nat × Nat)} (hi : Inv4 s)
    (h : requestBlocks s q = some (s', r)) : s'.pending.length = s.pending.length + r.length := by
  have ⟨acc, hr, hc, _⟩ := requestLoop_induct
    (P := fun t acc => Inv4 t ∧ t.pending.length = s.pending.length + acc.length)
    (fun hr hd h => ⟨h.1.skip hr, h.2⟩)
    (fun hr _ _ _ h => ⟨h.1.send hr, by
      rw [length_setInsert_fresh (h.1.disj _ (hr ▸ List.mem_cons_self)), h.2]; rfl⟩) rfl h ⟨hi, rfl⟩
  rw [hr, List.length_reverse]
  exact hc.2

theorem gotBlock_window (s : State) (hnd : s.pending.Nodup) (b : Nat) (d : Bytes) :
    (gotBlock s b d).1.pending.length + (if (gotBlock s b d).2 = .ok then 1 else 0) = s.pending.length := by
  by_cases hst : Stores s b d
  · rw [gotBlock_stored hst]
    by_cases hp : b ∈ s.pending
    · simpa [hp] using length_setDelete_mem hnd hp
    · simp [hp, setDelete_of_not_mem hp]
  · obtain ⟨h1, h2⟩ := gotBlock_not_stored hst
    have : (gotBlock s b d).2 ≠ .ok := fun e => by rw [e] at h2; cases h2
    rw [h1, if_neg this]
    rfl

theorem rejected_window (s : State) (hnd : s.pending.Nodup) (b l : Nat) :
    (rejected s b l).1.pending.length + (if findBlock s b l && s.pending.contains b then 1 else 0) =
      s.pending.length := by
  rw [rejected_eq]
  split
  · rename_i hc
    rw [Bool.and_eq_true, List.contains_iff_mem] at hc
    exact length_setDelete_mem hnd hc.2
  · rfl

theorem choked_window (s : State) (pf : Bool) (order : List Nat) :
    (choked s pf order).pending.length + (if chokedRequeues s pf then s.pending.length else 0) =
      s.pending.length := by
  rw [choked_eq]
  split
  · exact Nat.zero_add _
  · rfl

theorem maxQ_snoc (ops : List Op) (op : Op) :
    maxQ (ops ++ [op]) = match op with
      | .requestBlocks q => max (maxQ ops) q
      | _ => maxQ ops := by
  unfold maxQ
  rw [List.foldl_append]
  cases op <;> rfl

theorem foldl_maxQ_nonneg (ops : List Op) : ∀ (m : Int), 0 ≤ m →
    0 ≤ ops.foldl (fun m op => match op with | .requestBlocks q => max m q | _ => m) m := by
  induction ops with
  | nil => intro m hm; simpa using hm
  | cons op rest ih =>
    intro m hm
    simp only [List.foldl_cons]
    apply ih
    cases op <;> simp <;> omega

theorem maxQ_nonneg (ops : List Op) : 0 ≤ maxQ ops := foldl_maxQ_nonneg ops 0 (by omega)

theorem step_pending {ops : List Op} {s s' : State} {op : Op}
    (hm : (s.pending.length : Int) ≤ maxQ ops) (h : step s op = some s') :
    (s'.pending.length : Int) ≤ maxQ (ops ++ [op]) := by
  have hmono : maxQ ops ≤ maxQ (ops ++ [op]) := by
    rw [maxQ_snoc]
    cases op <;> simp only <;> omega
  refine step_induct (P := fun t => (t.pending.length : Int) ≤ maxQ (ops ++ [op]))
    (fun {b _} _ _ hp => ?_) (fun _ _ => maxQ_nonneg _) (fun {b} _ hp => ?_) (fun _ _ hp => hp)
    (fun {q t x _} e _ hq _ _ => ?_) h (Int.le_trans hm hmono)
  · have := @length_setDelete_le s.pending b
    simp only
    omega
  · have := @length_setDelete_le s.pending b
    simp only
    omega
  · have := @length_setInsert_le t.pending x
    rw [e, maxQ_snoc]
    simp only
    omega

theorem run_pending {ops pre : List Op} {s s' : State} (hm : (s.pending.length : Int) ≤ maxQ pre)
    (h : run s ops = some s') : (s'.pending.length : Int) ≤ maxQ (pre ++ ops) :=
  run_induct (P := fun pre s => (s.pending.length : Int) ≤ maxQ pre) step_pending hm h

/-! ### The assembly invariant -/

theorem firstData_length {ops : List Op} {b l : Nat} {d : Bytes} (h : firstData ops b l = some d) :
    d.length = l := by
  unfold firstData at h
  obtain ⟨op, _, hop⟩ := List.exists_of_findSome?_eq_some h
  cases op with
  | gotBlock b' d' =>
    simp only at hop
    split at hop
    · rename_i hc
      cases hop
      exact hc.2
    · cases hop
  | _ => simp at hop

theorem firstData_snoc_other (ops : List Op) (op : Op) (hop : ∀ b d, op ≠ .gotBlock b d) (b l : Nat) :
    firstData (ops ++ [op]) b l = firstData ops b l := by
  have : firstData [op] b l = none := by
    cases op with
    | gotBlock b' d => exact absurd rfl (hop b' d)
    | _ => rfl
  unfold firstData at this ⊢
  rw [List.findSome?_append, this, Option.or_none]

theorem firstData_snoc_got (ops : List Op) (b : Nat) (d : Bytes) (x : Block) :
    firstData (ops ++ [.gotBlock b d]) x.b x.l =
      if x = ⟨b, d.length⟩ ∧ firstData ops x.b x.l = none then some d else firstData ops x.b x.l := by
  have key : x = ⟨b, d.length⟩ ↔ (b = x.b ∧ d.length = x.l) := by
    obtain ⟨xb, xl⟩ := x
    rw [Block.mk.injEq]
    constructor <;> rintro ⟨rfl, rfl⟩ <;> exact ⟨rfl, rfl⟩
  unfold firstData
  rw [List.findSome?_append]
  cases List.findSome? _ ops <;> simp [key]

def SpecBuf (n : Nat) (bl : List Block) (ops : List Op) (buf : Bytes) : Prop :=
  buf.length = n ∧
  (∀ b ∈ bl, ∀ j, j < b.l → buf[b.b + j]? =
    match firstData ops b.b b.l with
    | some d => d[j]?
    | none => some 0) ∧
  (∀ i, i < n → (∀ b ∈ bl, ¬ Covers b i) → buf[i]? = some 0)

/-- `SpecBuf` with the data held for each block as a variable: `SpecBuf n bl ops` is
`SpecF n bl fun b => firstData ops b.b b.l`, by definition.  Zeros meet it for no data (`SpecF.zero`), and writing a
block's data keeps it (`SpecF.write`): the buffer of a run and `assembled` are both built by these two. -/
def SpecF (n : Nat) (bl : List Block) (fd : Block → Option Bytes) (buf : Bytes) : Prop :=
  buf.length = n ∧
  (∀ b ∈ bl, ∀ j, j < b.l → buf[b.b + j]? =
    match fd b with
    | some d => d[j]?
    | none => some 0) ∧
  (∀ i, i < n → (∀ b ∈ bl, ¬ Covers b i) → buf[i]? = some 0)

theorem SpecF.congr {n bl fd fd' buf} (h : SpecF n bl fd buf) (hfd : ∀ b ∈ bl, fd' b = fd b) :
    SpecF n bl fd' buf :=
  ⟨h.1, fun b hb j hj => hfd b hb ▸ h.2.1 b hb j hj, h.2.2⟩

theorem SpecF.zero {n bl} (hw : WFBlocks bl n) : SpecF n bl (fun _ => none) (List.replicate n 0) := by
  refine ⟨List.length_replicate, fun b hb j hj => ?_, fun i hi _ => ?_⟩
  · have := hw.within b hb
    simp only [List.getElem?_replicate]
    rw [if_pos (by omega)]
  · simp [hi]

theorem SpecF.write {n bl fd fd' buf} (hw : WFBlocks bl n) (h : SpecF n bl fd buf) {x : Block} (hx : x ∈ bl)
    {d : Bytes} (hd : d.length = x.l) (hnew : fd' x = some d) (hold : ∀ y ∈ bl, y ≠ x → fd' y = fd y) :
    SpecF n bl fd' (writeAt buf x.b d) := by
  have hfit : x.b + d.length ≤ buf.length := by rw [hd, h.1]; exact hw.within x hx
  refine ⟨(writeAt_length hfit).trans h.1, fun y hy j hj => ?_, fun i hi hnc => ?_⟩
  · by_cases e : y = x
    · subst e
      rw [hnew]
      exact writeAt_in hfit (hd ▸ hj)
    · rw [hold y hy e, writeAt_out hfit]
      · exact h.2.1 y hy j hj
      · rcases hw.disjoint hy hx with e' | e' | e'
        · exact absurd e' e
        · omega
        · omega
  · rw [writeAt_out hfit]
    · exact h.2.2 i hi hnc
    · have := hnc x hx
      unfold Covers at this
      omega

structure Inv (n : Nat) (bl : List Block) (ops : List Op) (s : State) : Prop where
  blocks : s.blocks = makeBlocks bl
  spec : SpecBuf n bl ops s.buf
  doneNodup : s.done.Nodup
  doneIff : ∀ x, x ∈ s.done ↔ ∃ b ∈ bl, b.b = x ∧ (firstData ops b.b b.l).isSome

theorem inv_init {bl : List Block} {n : Nat} (h : WFBlocks bl n) (af : Bool) :
    Inv n bl [] (init bl af (List.replicate n 0)) :=
  ⟨rfl, SpecF.zero h, List.nodup_nil, fun x => by simp [init, firstData]⟩

theorem Inv.mem_done {bl : List Block} {n : Nat} (hw : WFBlocks bl n) {ops : List Op} {s : State}
    (hi : Inv n bl ops s) {x : Block} (hx : x ∈ bl) : x.b ∈ s.done ↔ (firstData ops x.b x.l).isSome := by
  rw [hi.doneIff]
  constructor
  · rintro ⟨y, hy, hyb, hs⟩
    cases hw.begin_inj hy hx hyb
    exact hs
  · exact fun hs => ⟨x, hx, rfl, hs⟩

theorem Inv.congr {bl : List Block} {n : Nat} {ops ops' : List Op} {s s' : State} (hi : Inv n bl ops s)
    (hfd : ∀ x ∈ bl, firstData ops' x.b x.l = firstData ops x.b x.l)
    (hb : s'.blocks = s.blocks) (hbuf : s'.buf = s.buf) (hd : s'.done = s.done) : Inv n bl ops' s' := by
  refine ⟨hb ▸ hi.blocks, hbuf ▸ SpecF.congr hi.spec hfd, hd ▸ hi.doneNodup, ?_⟩
  · intro x
    rw [hd, hi.doneIff x]
    constructor <;> rintro ⟨y, hy, hyx, hs⟩
    · exact ⟨y, hy, hyx, by rw [hfd y hy]; exact hs⟩
    · exact ⟨y, hy, hyx, by rw [← hfd y hy]; exact hs⟩

theorem inv_step_got {bl : List Block} {n : Nat} (hw : WFBlocks bl n) {ops : List Op} {s : State}
    (hi : Inv n bl ops s) (b : Nat) (d : Bytes) :
    Inv n bl (ops ++ [.gotBlock b d]) (gotBlock s b d).1 := by
  rcases gotBlock_cases hw s hi.blocks hi.spec.1 b d with
    ⟨hmem, hnd, _, hbuf, hdone, hblocks⟩ | ⟨hno, _, hsame⟩
  · -- stored: the first data of block `(b, |d|)` becomes `d`, that of every other block stays
    have hfd : firstData ops b d.length = none :=
      Option.not_isSome_iff_eq_none.mp fun h => hnd ((hi.mem_done hw hmem).mpr h)
    have hfd_new : ∀ x : Block, firstData (ops ++ [.gotBlock b d]) x.b x.l =
        if x = ⟨b, d.length⟩ then some d else firstData ops x.b x.l := by
      intro x
      rw [firstData_snoc_got]
      by_cases hx : x = ⟨b, d.length⟩
      · simp [hx, hfd]
      · simp [hx]
    refine ⟨hblocks ▸ hi.blocks, hbuf ▸ SpecF.write hw hi.spec hmem rfl (by rw [hfd_new]; exact if_pos rfl)
      fun y _ e => by rw [hfd_new, if_neg e], hdone ▸ nodup_setInsert hi.doneNodup, ?_⟩
    · intro x
      rw [hdone, mem_setInsert, hi.doneIff x]
      constructor
      · rintro (⟨y, hy, hyx, hs⟩ | rfl)
        · exact ⟨y, hy, hyx, by rw [hfd_new y]; split <;> simp [hs]⟩
        · exact ⟨_, hmem, rfl, by rw [hfd_new]; simp⟩
      · rintro ⟨y, hy, hyx, hs⟩
        by_cases hy' : y = ⟨b, d.length⟩
        · exact Or.inr (by rw [← hyx, hy'])
        · rw [hfd_new y, if_neg hy'] at hs
          exact Or.inl ⟨y, hy, hyx, hs⟩
  · -- not stored: the state is unchanged, and so is every block's first data, since a block of the
    -- table that the call names has been received before
    rw [hsame]
    refine hi.congr (fun x hx => ?_) rfl rfl rfl
    rw [firstData_snoc_got, if_neg]
    rintro ⟨rfl, hnone⟩
    exact hno ⟨hx, fun hdn => by simpa [hnone] using (hi.mem_done hw hx).mp hdn⟩

theorem inv_step {bl : List Block} {n : Nat} (hw : WFBlocks bl n) {ops : List Op} {s s' : State}
    {op : Op} (hi : Inv n bl ops s) (h : step s op = some s') : Inv n bl (ops ++ [op]) s' := by
  by_cases hop : ∃ b d, op = .gotBlock b d
  · obtain ⟨b, d, rfl⟩ := hop
    cases h
    exact inv_step_got hw hi b d
  · have hop' : ∀ b d, op ≠ .gotBlock b d := fun b d e => hop ⟨b, d, e⟩
    obtain ⟨hb, hbuf, hd⟩ := step_frame_other hop' h
    exact hi.congr (fun x _ => firstData_snoc_other ops op hop' x.b x.l) hb hbuf hd

/-- `Done()` answers "every block has been received". -/
theorem isDone_iff {bl : List Block} {n : Nat} (hw : WFBlocks bl n) {ops : List Op} {s : State}
    (hi : Inv n bl ops s) :
    isDone s = true ↔ ∀ b ∈ bl, (firstData ops b.b b.l).isSome := by
  rw [isDone_iff_keys hw.nodup_keys hi.blocks hi.doneNodup fun x hx =>
    have ⟨y, hy, hyx, _⟩ := (hi.doneIff x).mp hx
    List.mem_map.mpr ⟨y, hy, hyx⟩]
  exact forall₂_congr fun b hb => hi.mem_done hw hb

/-! ### `assembled` meets the byte-level specification, which determines the buffer -/

def asmStep (ops : List Op) (buf : Bytes) (b : Block) : Bytes :=
  match firstData ops b.b b.l with
  | some d => writeAt buf b.b d
  | none => buf

/-- The fold of `assembled`: once the blocks `pre` are written the buffer meets the specification for the data of
`pre` alone. -/
theorem foldl_assemble {n bl} (hw : WFBlocks bl n) (ops : List Op) : ∀ (suf pre : List Block) (acc : Bytes),
    (∀ x ∈ suf, x ∈ bl) → SpecF n bl (fun x => if x ∈ pre then firstData ops x.b x.l else none) acc →
    SpecF n bl (fun x => if x ∈ pre ++ suf then firstData ops x.b x.l else none) (suf.foldl (asmStep ops) acc)
  | [], pre, acc, _, h => by simpa using h
  | x :: rest, pre, acc, hs, h => by
    have := foldl_assemble hw ops rest (pre ++ [x]) (asmStep ops acc x)
      (fun y hy => hs y (List.mem_cons_of_mem _ hy)) ?_
    · simpa using this
    · unfold asmStep
      cases hfd : firstData ops x.b x.l with
      | none => exact h.congr fun y _ => by by_cases e : y = x <;> simp [e, hfd]
      | some d =>
        exact h.write hw (hs x List.mem_cons_self) (firstData_length hfd) (by simp [hfd])
          fun y _ e => by simp [e]

theorem assembled_spec {bl : List Block} {n : Nat} (hw : WFBlocks bl n) (ops : List Op) :
    SpecBuf n bl ops (assembled n bl ops) :=
  (foldl_assemble hw ops bl [] _ (fun _ h => h) (SpecF.zero hw)).congr fun x hx => by simp [hx]

theorem specBuf_unique {bl : List Block} {n : Nat} {ops : List Op} {a b : Bytes}
    (ha : SpecBuf n bl ops a) (hb : SpecBuf n bl ops b) : a = b := by
  apply List.ext_getElem?
  intro i
  by_cases hi : i < n
  · by_cases hc : ∃ x ∈ bl, Covers x i
    · obtain ⟨x, hx, hcx⟩ := hc
      unfold Covers at hcx
      have hij : i = x.b + (i - x.b) := by omega
      rw [hij, ha.2.1 x hx (i - x.b) (by omega), hb.2.1 x hx (i - x.b) (by omega)]
    · have hnc : ∀ x ∈ bl, ¬ Covers x i := fun x hx hcx => hc ⟨x, hx, hcx⟩
      rw [ha.2.2 i hi hnc, hb.2.2 i hi hnc]
  · rw [List.getElem?_eq_none (by rw [ha.1]; omega), List.getElem?_eq_none (by rw [hb.1]; omega)]

end Rain.PD
