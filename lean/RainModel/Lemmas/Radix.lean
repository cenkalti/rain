/-! Positional numerals in base `b`, most significant digit first: the value of a digit list (`ofDigits`, Horner's
rule), the `k` low digits of a number (`digits`) and its shortest digit string (`digitsRev`, least significant first),
and that reading undoes writing. Every model writes its own `be32`, `be16`, `be k`, `nineDigits`, `decRev` … and its own
reader; the lemma file of each has the two bridges to the functions here, and no arithmetic of its own. -/
namespace Rain.Radix

def ofDigits (b : Nat) (ds : List Nat) : Nat := ds.foldl (fun a d => a * b + d) 0

def digits (b : Nat) : Nat → Nat → List Nat
  | 0, _ => []
  | k + 1, n => n / b ^ k % b :: digits b k n

/-- `fuel > n` is enough. -/
def digitsRev (b : Nat) : Nat → Nat → List Nat
  | 0, _ => []
  | fuel + 1, n => if n < b then [n] else n % b :: digitsRev b fuel (n / b)

theorem foldl_horner (b : Nat) (ds : List Nat) (a : Nat) :
    ds.foldl (fun a d => a * b + d) a = a * b ^ ds.length + ofDigits b ds := by
  induction ds generalizing a with
  | nil => simp [ofDigits]
  | cons d ds ih =>
    rw [ofDigits, List.foldl_cons, List.foldl_cons, ih, ih (0 * b + d), List.length_cons, Nat.pow_succ',
      Nat.add_mul, Nat.mul_assoc, Nat.add_assoc, Nat.zero_mul, Nat.zero_add]

theorem ofDigits_cons (b d : Nat) (ds : List Nat) : ofDigits b (d :: ds) = d * b ^ ds.length + ofDigits b ds := by
  rw [ofDigits, List.foldl_cons, foldl_horner, Nat.zero_mul, Nat.zero_add]

@[simp] theorem length_digits (b k n : Nat) : (digits b k n).length = k := by
  induction k with
  | zero => rfl
  | succ k ih => rw [digits, List.length_cons, ih]

theorem ofDigits_digits (b k n : Nat) : ofDigits b (digits b k n) = n % b ^ k := by
  induction k with
  | zero => rw [Nat.pow_zero, Nat.mod_one]; rfl
  | succ k ih => rw [digits, ofDigits_cons, length_digits, ih, Nat.pow_succ, Nat.mod_mul, Nat.mul_comm, Nat.add_comm]

theorem ofDigits_digits_of_lt {b k n : Nat} (h : n < b ^ k) : ofDigits b (digits b k n) = n := by
  rw [ofDigits_digits, Nat.mod_eq_of_lt h]

theorem digits_inj {b k m n : Nat} (hm : m < b ^ k) (hn : n < b ^ k) (h : digits b k m = digits b k n) : m = n := by
  rw [← ofDigits_digits_of_lt hm, h, ofDigits_digits_of_lt hn]

theorem digits_lt {b : Nat} (hb : 0 < b) (k n : Nat) : ∀ d ∈ digits b k n, d < b := by
  induction k with
  | zero => intro d hd; cases hd
  | succ k ih =>
    intro d hd
    rcases List.mem_cons.1 hd with rfl | hd
    · exact Nat.mod_lt _ hb
    · exact ih d hd

theorem ofDigits_lt {b : Nat} {ds : List Nat} (h : ∀ d ∈ ds, d < b) : ofDigits b ds < b ^ ds.length := by
  induction ds with
  | nil => exact Nat.one_pos
  | cons d ds ih =>
    have hd : d + 1 ≤ b := h d List.mem_cons_self
    have := ih fun x hx => h x (List.mem_cons_of_mem _ hx)
    rw [ofDigits_cons, List.length_cons, Nat.pow_succ']
    calc d * b ^ ds.length + ofDigits b ds < (d + 1) * b ^ ds.length := by rw [Nat.add_mul, Nat.one_mul]; omega
      _ ≤ b * b ^ ds.length := Nat.mul_le_mul_right _ hd

theorem ofDigits_digitsRev {b : Nat} (hb : 1 < b) : ∀ fuel n, n < fuel → ofDigits b (digitsRev b fuel n).reverse = n
  | 0, _, h => by omega
  | fuel + 1, n, h => by
    rw [digitsRev]
    split
    · simp [ofDigits]
    · have ih := ofDigits_digitsRev hb fuel (n / b) (by have := Nat.div_lt_self (n := n) (by omega) hb; omega)
      rw [ofDigits] at ih ⊢
      rw [List.reverse_cons, List.foldl_append, ih]
      exact Nat.div_add_mod' n b

theorem digitsRev_lt {b : Nat} (hb : 0 < b) : ∀ fuel n, ∀ d ∈ digitsRev b fuel n, d < b
  | 0, _, d, hd => by cases hd
  | fuel + 1, n, d, hd => by
    rw [digitsRev] at hd
    split at hd
    · rw [List.mem_singleton.1 hd]; assumption
    · rcases List.mem_cons.1 hd with rfl | hd
      · exact Nat.mod_lt _ hb
      · exact digitsRev_lt hb fuel (n / b) d hd

theorem digitsRev_ne_nil (b fuel n : Nat) : digitsRev b (fuel + 1) n ≠ [] := by
  rw [digitsRev]; split <;> exact List.cons_ne_nil _ _

/-- `strconv.FormatUint(n, 10)` in ASCII. -/
def natDec (n : Nat) : List Nat := (digitsRev 10 (n + 1) n).reverse.map (48 + ·)

theorem natDec_digit (n c : Nat) (hc : c ∈ natDec n) : 48 ≤ c ∧ c ≤ 57 := by
  obtain ⟨d, hd, rfl⟩ := List.mem_map.1 hc
  have := digitsRev_lt (by decide : 0 < 10) _ _ d (List.mem_reverse.1 hd)
  omega

theorem natDec_ne_nil (n : Nat) : natDec n ≠ [] := by
  simp [natDec, digitsRev_ne_nil]

theorem natDec_head (n : Nat) : ∃ c r, natDec n = c :: r ∧ 48 ≤ c ∧ c ≤ 57 :=
  match h : natDec n with
  | [] => absurd h (natDec_ne_nil n)
  | c :: r => ⟨c, r, rfl, natDec_digit n c (h ▸ List.mem_cons_self)⟩

theorem read_natDec {r : List Nat → Nat → Option Nat} (h0 : ∀ a, r [] a = some a)
    (h1 : ∀ d cs a, d < 10 → r ((48 + d) :: cs) a = r cs (a * 10 + d)) (n : Nat) : r (natDec n) 0 = some n := by
  have key (ds : List Nat) (h : ∀ d ∈ ds, d < 10) : ∀ a, r (ds.map (48 + ·)) a = some (ds.foldl (fun a d => a * 10 + d) a) := by
    induction ds with
    | nil => exact h0
    | cons d ds ih => exact fun a => (h1 d _ a (h d List.mem_cons_self)).trans (ih (fun x hx => h x (List.mem_cons_of_mem _ hx)) _)
  exact (key _ (fun d hd => digitsRev_lt (by decide) _ _ d (List.mem_reverse.1 hd)) 0).trans
    (congrArg some (ofDigits_digitsRev (by decide) _ _ (Nat.lt_succ_self n)))

end Rain.Radix
