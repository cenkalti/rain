import RainModel.Model.ResourceManager
/-! The manager's invariant for C17 (`rm_balance`, `rm_no_double_grant`).  The request map enters only as the multiset
of its pending requests (`allReqs` up to `Perm`); the amounts and the identities are two ledgers about variables
(`Bal`, `Once`) with one lemma per move, and `gstep_inv` names the move each branch of `gstep` makes. -/
namespace Rain.RM
open List

theorem swapRemove_perm {α : Type} (rs : List α) (i : Nat) (h : i < rs.length) :
    rs.Perm (rs[i] :: swapRemove rs i) := by
  -- swapping `i` and the last index is a permutation (core's `set_set_perm`); afterwards `rs[i]` stands last
  have hj : rs.length - 1 < rs.length := by omega
  have hp := List.set_set_perm h hj
  rw [List.set_eq_take_append_cons_drop, if_pos (by simpa using hj), List.drop_of_length_le (by simp; omega)] at hp
  simp only [swapRemove, List.getLast?_eq_getElem?, List.getElem?_eq_getElem hj, List.dropLast_eq_take, List.length_set]
  exact hp.symm.trans (List.perm_append_singleton ..)

theorem allReqs_putK (m : ReqMap) (k : Nat) (rs : List Req) :
    (getK m k ++ allReqs (putK m k rs)).Perm (rs ++ allReqs m) := by
  induction m with
  | nil => simp [allReqs, getK, putK]
  | cons p m ih =>
    obtain ⟨k', rs'⟩ := p
    by_cases hk : k' = k
    · simp only [allReqs, getK, putK, hk, if_true]; exact perm_append_comm_assoc ..
    · simp only [allReqs, getK, putK, hk, if_false]
      exact (perm_append_comm_assoc ..).trans ((ih.append_left rs').trans (perm_append_comm_assoc ..))

theorem allReqs_delK (m : ReqMap) (k : Nat) : (getK m k ++ allReqs (delK m k)).Perm (allReqs m) := by
  induction m with
  | nil => simp [allReqs, getK, delK]
  | cons p m ih =>
    obtain ⟨k', rs'⟩ := p
    by_cases hk : k' = k
    · simp only [allReqs, getK, delK, hk, if_true]; exact .refl _
    · simp only [allReqs, getK, delK, hk, if_false]
      exact (perm_append_comm_assoc ..).trans (ih.append_left rs')

theorem allReqs_append (m : ReqMap) (r : Req) :
    (allReqs (putK m r.key (getK m r.key ++ [r]))).Perm (r :: allReqs m) :=
  (perm_append_left_iff (getK m r.key)).1 (by simpa using allReqs_putK m r.key (getK m r.key ++ [r]))

theorem allReqs_delete (m : ReqMap) (k i : Nat) (r : Req) (h : (getK m k)[i]? = some r) :
    (allReqs m).Perm (r :: allReqs (deleteRequest m k i)) := by
  obtain ⟨hi, rfl⟩ := List.getElem?_eq_some_iff.mp h
  have hp := swapRemove_perm (getK m k) i hi
  have hd : (getK m k ++ allReqs (deleteRequest m k i)).Perm (swapRemove (getK m k) i ++ allReqs m) := by
    unfold deleteRequest
    by_cases hl : (swapRemove (getK m k) i).length > 0
    · simp only [hl, if_true]; exact allReqs_putK ..
    · simp only [hl, if_false]
      rw [List.eq_nil_of_length_eq_zero (Nat.eq_zero_of_not_pos hl)]
      exact allReqs_delK m k
  exact (perm_append_left_iff _).1 (hd.symm.trans ((hp.append_right _).trans perm_middle.symm))

theorem pickable_spec {s : State} {k i : Nat} {r : Req} (h : pickable s k i = some r) :
    (getK s.requests k)[i]? = some r ∧ r.n ≤ s.available := by
  unfold pickable at h
  split at h
  · split at h
    · rename_i r' hr
      split at h
      · cases h
      · cases h; exact ⟨hr, by omega⟩
    · cases h
  · cases h

theorem sumInt_erase {n : Int} : ∀ {l : List Int}, n ∈ l → sumInt (l.erase n) = sumInt l - n := by
  intro l
  induction l with
  | nil => intro h; cases h
  | cons x xs ih =>
    intro h
    by_cases hx : x = n
    · subst hx; simp [sumInt]; omega
    · have : n ∈ xs := by
        cases h with
        | head => exact absurd rfl hx
        | tail _ h => exact h
      have he : (x :: xs).erase n = x :: xs.erase n := by simp [hx]
      rw [he]
      simp only [sumInt, ih this]
      omega

theorem sumInt_nonneg : ∀ {l : List Int}, (∀ x ∈ l, 0 ≤ x) → 0 ≤ sumInt l := by
  intro l
  induction l with
  | nil => intro _; simp [sumInt]
  | cons x xs ih =>
    intro h
    have h1 := h x (by simp)
    have h2 := ih (fun y hy => h y (by simp [hy]))
    simp [sumInt]; omega

/-- The books of the manager, about variables: `avail = limit − Σ out` over `objs` held amounts, none negative.
(`low` is `0 ≤ avail` in a form that also holds from a negative limit.) -/
structure Bal (limit avail objs : Int) (out : List Int) : Prop where
  low : min limit 0 ≤ avail
  eq : avail = limit - sumInt out
  objs : objs = out.length
  outPos : ∀ x ∈ out, 0 ≤ x

theorem Bal.le_limit {limit a o : Int} {out : List Int} (h : Bal limit a o out) : a ≤ limit := by
  have := sumInt_nonneg h.outPos
  have := h.eq
  omega

theorem Bal.grant {limit a o : Int} {out : List Int} (h : Bal limit a o out) {n : Int} (hn : 0 ≤ n) (hle : n ≤ a) :
    Bal limit (a - n) (o + 1) (n :: out) := by
  obtain ⟨_, h2, h3, h4⟩ := h
  exact ⟨by omega, by simp only [sumInt]; omega, by simp only [List.length_cons]; omega,
    List.forall_mem_cons.2 ⟨hn, h4⟩⟩

/-- Giving back a held amount cannot overshoot the limit (`panic("invalid release call")` is not reached). -/
theorem Bal.release {limit a o : Int} {out : List Int} (h : Bal limit a o out) {n : Int} (hm : n ∈ out) :
    a + n ≤ limit ∧ Bal limit (a + n) (o - 1) (out.erase n) := by
  obtain ⟨_, h2, h3, h4⟩ := h
  have h4' : ∀ x ∈ out.erase n, 0 ≤ x := fun x hx => h4 x (List.mem_of_mem_erase hx)
  have := sumInt_erase hm
  have := sumInt_nonneg h4'
  have := h4 n hm
  have := List.length_erase_of_mem hm
  have := List.length_pos_of_mem hm
  exact ⟨by omega, by omega, by omega, by omega, h4'⟩

/-- The identities, about variables: one is pending or granted at most once, and then it has been submitted. -/
structure Once (pend granted seen : List Nat) : Prop where
  once : ∀ x, count x pend + count x granted ≤ 1
  pendSeen : ∀ x ∈ pend, x ∈ seen
  grantSeen : ∀ x ∈ granted, x ∈ seen

namespace Once
variable {p p' g s : List Nat} {id : Nat}

theorem perm (h : Once p g s) (hp : p.Perm p') : Once p' g s :=
  ⟨fun x => hp.count_eq x ▸ h.once x, fun x hx => h.pendSeen x (hp.mem_iff.2 hx), h.grantSeen⟩

theorem submit (h : Once p g s) : Once p g (id :: s) :=
  ⟨h.once, fun x hx => mem_cons_of_mem _ (h.pendSeen x hx), fun x hx => mem_cons_of_mem _ (h.grantSeen x hx)⟩

/-- An identity never submitted occurs in neither list. -/
theorem fresh (h : Once p g s) (hs : id ∉ s) (x : Nat) :
    count x p + count x g + (if (id == x) = true then 1 else 0) ≤ 1 := by
  have := h.once x
  split
  · next hx =>
    rw [beq_iff_eq] at hx; subst hx
    rw [List.count_eq_zero.mpr (fun hm => hs (h.pendSeen _ hm)),
      List.count_eq_zero.mpr (fun hm => hs (h.grantSeen _ hm))]
    exact Nat.le_refl 1
  · omega

theorem queue (h : Once p g s) (hs : id ∉ s) : Once (id :: p) g (id :: s) :=
  ⟨fun x => by have := h.fresh hs x; rw [count_cons]; omega,
    forall_mem_cons.2 ⟨mem_cons_self, h.submit.pendSeen⟩, h.submit.grantSeen⟩

theorem grantNew (h : Once p g s) (hs : id ∉ s) : Once p (id :: g) (id :: s) :=
  ⟨fun x => by have := h.fresh hs x; rw [count_cons]; omega,
    h.submit.pendSeen, forall_mem_cons.2 ⟨mem_cons_self, h.submit.grantSeen⟩⟩

theorem grant (h : Once (id :: p) g s) : Once p (id :: g) s :=
  ⟨fun x => by have := h.once x; rw [count_cons] at this ⊢; omega,
    fun x hx => h.pendSeen x (mem_cons_of_mem _ hx), forall_mem_cons.2 ⟨h.pendSeen _ mem_cons_self, h.grantSeen⟩⟩

theorem drop (h : Once (id :: p) g s) : Once p g s :=
  ⟨fun x => by have := h.once x; rw [count_cons] at this; omega,
    fun x hx => h.pendSeen x (mem_cons_of_mem _ hx), h.grantSeen⟩

end Once

def pendingIds (g : G) : List Nat := (allReqs g.s.requests).map (·.id)

structure Inv (limit : Int) (g : G) : Prop where
  lim : g.s.limit = limit
  bal : Bal limit g.s.available g.s.objects g.out
  pendPos : ∀ r ∈ allReqs g.s.requests, 0 ≤ r.n
  ids : Once (pendingIds g) g.granted g.seen

theorem Inv.init (limit : Int) : Inv limit (ginit limit) := by
  refine ⟨rfl, ⟨Int.min_le_left .., ?_, rfl, ?_⟩, ?_, ?_, ?_, ?_⟩ <;>
    simp [ginit, RM.init, sumInt, allReqs, pendingIds]

def Outcome.Keeps {σ : Type} (P : σ → Prop) : Outcome σ → Prop
  | .ok x => P x
  | .panic _ => False
  | .inadmissible _ => True

theorem Outcome.Keeps.ok {σ : Type} {P : σ → Prop} {o : Outcome σ} (h : o.Keeps P) {x : σ} (e : o = .ok x) : P x := by
  subst e; exact h

theorem Outcome.Keeps.no_panic {σ : Type} {P : σ → Prop} {o : Outcome σ} (h : o.Keeps P) (m : String) :
    o ≠ .panic m := fun e => by subst e; exact h

theorem gstep_inv {limit : Int} {g : G} (h : Inv limit g) (e : Event) : (gstep g e).Keeps (Inv limit) := by
  cases e with
  | request r answered =>
    by_cases hn : r.n < 0
    · simp only [gstep, if_pos hn]; trivial
    by_cases hs : r.id ∈ g.seen
    · simp only [gstep, if_neg hn, if_pos hs]; trivial
    simp only [gstep, if_neg hn, if_neg hs]
    cases answered with
    | false => exact { h with ids := h.ids.submit }
    | true =>
      by_cases ha : r.n ≤ g.s.available
      · -- granted at once; `panic("invalid request call 2")` is not reached: the amount was just compared
        have hnp : ¬ g.s.available - r.n < 0 := by omega
        simp only [handleRequest, acquiredNow, ge_iff_le, ha, hnp, decide_true, Bool.not_true,
          Bool.false_eq_true, if_false, if_true, Bool.and_self]
        exact { h with bal := h.bal.grant (by omega) ha, ids := h.ids.grantNew hs }
      · simp only [handleRequest, acquiredNow, ge_iff_le, ha, decide_false, Bool.not_true,
          Bool.false_eq_true, if_false, Bool.and_false]
        have hperm := allReqs_append g.s.requests r
        exact { h with
          pendPos := fun q hq => (List.mem_cons.1 (hperm.mem_iff.mp hq)).elim (· ▸ by omega) (h.pendPos q)
          ids := (h.ids.queue hs).perm (hperm.map (fun q : Req => q.id)).symm }
  | release n =>
    by_cases hm : n ∈ g.out
    · have hr := h.bal.release hm
      have hl : ¬ g.s.available + n > g.s.limit := by have := h.lim; omega
      simp only [gstep, step, if_pos hm, if_neg hl]
      exact { h with bal := hr.2 }
    · simp only [gstep, if_neg hm]; trivial
  | notify key i =>
    simp only [gstep, step]
    cases hp : pickable g.s key i with
    | none => trivial
    | some r =>
      obtain ⟨hget, hle⟩ := pickable_spec hp
      have hperm := allReqs_delete g.s.requests key i r hget
      simp only [if_neg (by omega : ¬ g.s.available - r.n < 0)]
      exact { h with
        bal := h.bal.grant (h.pendPos r (hperm.mem_iff.mpr mem_cons_self)) hle
        pendPos := fun q hq => h.pendPos q (hperm.mem_iff.mpr (mem_cons_of_mem _ hq))
        ids := (h.ids.perm (hperm.map (fun q : Req => q.id))).grant }
  | cancel key i =>
    simp only [gstep, step]
    cases hp : pickable g.s key i with
    | none => trivial
    | some r =>
      have hget := (pickable_spec hp).1
      have hperm := allReqs_delete g.s.requests key i r hget
      exact { h with
        pendPos := fun q hq => h.pendPos q (hperm.mem_iff.mpr (mem_cons_of_mem _ hq))
        ids := (h.ids.perm (hperm.map (fun q : Req => q.id))).drop }
  | stats => exact h

theorem grun_inv {limit : Int} : ∀ (es : List Event) {g : G}, Inv limit g → (grun g es).Keeps (Inv limit)
  | [], _, h => h
  | e :: es, g, h => by
    have hs := gstep_inv h e
    unfold grun
    cases hg : gstep g e with
    | ok g1 => exact grun_inv es (hs.ok hg)
    | panic m => exact hs.no_panic m hg
    | inadmissible w => trivial

end Rain.RM
