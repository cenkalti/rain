import RainModel.Model.LoopStep
/-!
Basic tools for proofs about M-LOOP: fold invariants, and the long handlers (`stop`, `start`, `handlePieceWriteDone`,
`handleAllocationDone`, `handleVerificationDone`, `allocatorRun`, `handleMetadataData`) cut into named pieces; each
`x_eq` holds by unfolding.
-/
namespace Rain.Loop

theorem foldl_inv_mem {α σ} (P : σ → Prop) (l : List α) (f : σ → α → σ)
    (h : ∀ s a, a ∈ l → P s → P (f s a)) (s : σ) (hs : P s) : P (l.foldl f s) := by
  induction l generalizing s with
  | nil => exact hs
  | cons a l ih =>
    exact ih (fun s b hb => h s b (List.mem_cons_of_mem _ hb)) _ (h _ _ (List.mem_cons_self ..) hs)

theorem foldl_inv {α σ} (P : σ → Prop) (f : σ → α → σ) (h : ∀ s a, P s → P (f s a))
    (l : List α) (s : σ) (hs : P s) : P (l.foldl f s) :=
  foldl_inv_mem P l f (fun s a _ => h s a) s hs

theorem foldl_keep {α σ β} (g : σ → β) (f : σ → α → σ) (h : ∀ s a, g (f s a) = g s)
    (l : List α) (s : σ) : g (l.foldl f s) = g s :=
  foldl_inv (fun t => g t = g s) f (fun t a ht => (h t a).trans ht) l s rfl

theorem ite_ind {α} {P : α → Prop} {c : Prop} [Decidable c] {a b : α} (ha : c → P a) (hb : ¬c → P b) :
    P (if c then a else b) := by
  split
  · exact ha ‹_›
  · exact hb ‹_›

theorem ite_inv {α} {Q : St → Prop} {f : α → St} {c : Prop} [Decidable c] {a b : α} (ha : Q (f a)) (hb : Q (f b)) :
    Q (f (if c then a else b)) :=
  ite_ind (P := fun x => Q (f x)) (fun _ => ha) fun _ => hb

-- (proved by `cases`, not `rfl`, on purpose: as `rfl`-lemmas they make simp's discharger fail to
-- assign proofs of the side conditions of the `foldl_*` frame lemmas)
@[simp] theorem onSt_fst (m : M) (f : St → St) : (onSt m f).1 = f m.1 := by cases m; rfl
@[simp] theorem onSt_snd (m : M) (f : St → St) : (onSt m f).2 = m.2 := by cases m; rfl
@[simp] theorem send_fst (m : M) (k : Nat) (x : String) : (send m k x).1 = m.1 := by cases m; rfl
@[simp] theorem send_snd (m : M) (k : Nat) (x : String) : (send m k x).2 = m.2 ++ [⟨k, x⟩] := by cases m; rfl
@[simp] theorem closePeerM_fst (m : M) (k : Nat) : (closePeerM m k).1 = m.1.closePeer k := by cases m; rfl
@[simp] theorem closePeerM_snd (m : M) (k : Nat) : (closePeerM m k).2 = m.2 := by cases m; rfl

/-- An arm `onSt m fun s => (f s).stop e` of a case principle, for a fact `h` about `St.stop`: passing `h` through this
lemma fixes `f` and `e` by unification with the arm, so that `h` is elaborated against `(f m.1).stop e` and not
against `onSt …`, which makes the unifier unfold `St.stop`. -/
theorem onSt_stop {P : St → Prop} (m : M) (f : St → St) (e : Bool) (h : P ((f m.1).stop e)) :
    P (onSt m fun s => (f s).stop e).1 := h

def stopA (s : St) (err : Bool) : St := { s with lastErr := err, acceptor := false, doVerify := s.doVerify && !err }
def stopPeers (s : St) : St := s.peers.foldl (fun s p => s.closePeer p.k) s
def stopClear (s : St) : St := { s with dls := [], mayStart := [], idls := [], mayStartI := false }
def stopWB (s : St) : St := if s.bf.isSome then s.writeBitfield else s
/-- The data (non-padding) files, in order: what the allocator opens. -/
def allocData (s : St) : List Nat := (List.range s.cfg.flens.length).filter (fun i => !(s.cfg.fpads.getD i false))
/-- The allocator's `Open` of data file number `failAt` fails. -/
def allocFailing (s : St) : Bool := s.failOpen && s.failAt < (allocData s).length
/-- The files the allocator opens (and creates, if missing) before it fails or finishes. -/
def allocOpened (s : St) : List Nat := if allocFailing s then (allocData s).take s.failAt else allocData s

def stopAlloc (s : St) : St :=
  if s.allocator then
    { s with allocator := false, gateOpen := false,
             sto := s.sto ++ (allocOpened s).map (fun i =>
               s!"open:{fileName s.cfg i}:{s.cfg.flens.getD i 0}:" ++
                 (if s.fileExists.getD i false then "existed" else "new")) ++
               (if allocFailing s then ["openfail:" ++ fileName s.cfg ((allocData s).getD s.failAt 0)] else []) ++
               (allocOpened s).map (fun i => "close:" ++ fileName s.cfg i),
             fileExists := (List.range s.cfg.flens.length).map (fun i => s.fileExists.getD i false || (allocOpened s).contains i),
             known := (List.range s.cfg.flens.length).map (fun i => s.known.getD i false || (allocOpened s).contains i),
             leaked := s.leaked,
             bf := if (allocOpened s).any (fun i => !(s.fileExists.getD i false)) then none else s.bf,
             persisted := if (allocOpened s).any (fun i => !(s.fileExists.getD i false)) && s.bf.isSome then none else s.persisted }
  else s
def stopVer (s : St) : St := if s.verifier then { s with verifier := false, gateRead := false } else s
def stopFin (s : St) : St := { s with stopAnn := true }

def stopRun (s : St) (err : Bool) : St :=
  stopFin (stopVer (stopAlloc (stopWB (stopClear (stopPeers (stopA s err)))).closeData))

theorem stop_eq (s : St) (err : Bool) :
    s.stop err = if s.status = .stopping ∨ s.status = .stopped then s else stopRun s err := rfl

/-- A start while the torrent is stopping closes the stop announcer and finishes the stop (fix C04-F3). -/
def startPre (m : M) : M :=
  if m.1.stopAnn then handleStopped (onSt m fun s => { s with stopHang := false }) else m

/-- `start` once no stop announcer is left: nothing if the torrent runs, `startCore` otherwise. -/
def startGo (m : M) : M := if m.1.errC then m else startCore m

theorem start_eq (m : M) : start m = startGo (startPre m) := rfl

def pwdReset (m : M) (w : WriteJob) : M :=
  onSt m fun s =>
    { s with writing := none,
             wflag := if w.gen = s.gen then setAt s.wflag w.piece false else s.wflag }

/-- failed hash: close and ban the source -/
def pwdBan (m : M) (w : WriteJob) : M :=
  let ip := ((m.1.findPeer w.src).map (·.ip)).getD s!"10.0.{w.src / 250}.{w.src % 250 + 1}"
  let m := closePeerM m w.src
  let m := onSt m fun s => { s with banned := if s.banned.contains ip then s.banned else s.banned ++ [ip] }
  onSt m (·.startDls)

def pwdDone (m : M) (w : WriteJob) : M :=
  onSt m fun s => { s with done := setAt s.done w.piece true }

def pwdSet (m : M) (w : WriteJob) (b : List Bool) : M :=
  let m := if b.getD w.piece false then onSt m (·.crash "already have the piece") else m
  onSt m fun s => { s with bf := some (setAt b w.piece true) }

def pwdOthers (m : M) (w : WriteJob) : M :=
  let others := if m.1.loaded && !m.1.completed then (m.1.dls.filter (·.piece = w.piece)).map (·.k) else []
  others.foldl (fun m k => onSt m fun s => (s.closeDl k).startDlFor k) m

def pwdHaves (m : M) (w : WriteJob) : M :=
  m.1.peers.foldl (fun m p =>
    let m := updateInterested m p.k
    if p.has.getD w.piece false then m else send m p.k s!"have:{w.piece}") m

def pwdFinish (m : M) : M :=
  let (s, completed) := m.1.checkCompletion
  let m : M := (s, m.2)
  if completed then
    let m := onSt m (·.writeBitfield)
    if m.1.cfg.stopAfter then onSt m (·.stop false) else m
  else m

def pwdOk (m : M) (w : WriteJob) (b : List Bool) : M :=
  pwdFinish (pwdHaves (pwdOthers (pwdSet m w b) w) w)

theorem handlePieceWriteDone_eq (m : M) (w : WriteJob) (writeErr : Bool) :
    handlePieceWriteDone m w writeErr =
      let m := pwdReset m w
      if !w.good then pwdBan m w
      else if w.gen ≠ m.1.gen || !m.1.loaded then m
      else if writeErr then onSt m (·.stop true)
      else
        let m := pwdDone m w
        match m.1.bf with
        | none => onSt m (·.crash "handlePieceWriteDone: nil bitfield")
        | some b => pwdOk m w b := rfl

def hadInstall (m : M) : M :=
  onSt m fun s =>
    let data := (List.range s.cfg.flens.length).filter (fun i => !(s.cfg.fpads.getD i false))
    { s with allocator := false, openFiles := data, loaded := true, gen := s.gen + 1,
             done := List.replicate s.n false, wflag := List.replicate s.n false,
             peers := s.peers.map fun p => { p with has := List.replicate s.n false } }

def hadReady (m : M) : M := onSt (processQueued m) fun s => ({ s with acceptor := true }).startDls

def hadCheck (m : M) : M :=
  let (s, c) := m.1.checkCompletion
  let m : M := (s, m.2)
  if c && m.1.cfg.stopAfter then onSt m (·.stop false) else hadReady m

/-- the files did not exist: a new empty bitfield -/
def hadFreshInstall (m : M) : M :=
  onSt m fun s => (({ s with bf := some (List.replicate s.n false) }).resetCompletion).markPaddingPieces

/-- a manual verification of files that did not exist ends stopped (fix for finding C04-F4) -/
def hadFresh (m : M) : M :=
  let m := hadFreshInstall m
  if m.1.doVerify then onSt m fun s => ({ s with doVerify := false }).stop false else hadCheck m

def hadTrust (m : M) (b : List Bool) : M :=
  hadCheck (onSt m fun s => ({ s with done := b }).markPaddingPieces)

/-- files were missing: the bitfield is forgotten, also in the resume db (fix for finding C05-F1) -/
def hadForget (m : M) (hasMissing : Bool) : M :=
  onSt m fun s => if hasMissing && s.bf.isSome then { s with bf := none, persisted := none } else s

theorem hadForget_true (m : M) :
    (hadForget m true).1.bf = none ∧ (m.1.bf.isSome = true → (hadForget m true).1.persisted = none) := by
  unfold hadForget
  simp only [onSt_fst, Bool.true_and]
  split
  · exact ⟨rfl, fun _ => rfl⟩
  · next hn => exact ⟨by simpa using hn, fun hs => absurd hs hn⟩

theorem hadForget_bf_none (m : M) (mi : Bool) (h : m.1.bf = none) : (hadForget m mi).1.bf = none := by
  unfold hadForget
  simp only [onSt_fst]
  split
  · rfl
  · exact h

theorem handleAllocationDone_eq (m : M) (hasExisting hasMissing : Bool) :
    handleAllocationDone m hasExisting hasMissing =
      let m := hadForget (hadInstall m) hasMissing
      match m.1.bf with
      | some b =>
        if !hasMissing then hadTrust m b
        else if !hasExisting then hadFresh m
        else onSt m fun s => { s with verifier := true }
      | none =>
        if !hasExisting then hadFresh m
        else onSt m fun s => { s with verifier := true } := rfl

def hvdInstall (m : M) : M :=
  let m := onSt m fun s => { s with verifier := false, bf := some s.diskOK, tainted := false }
  let m := onSt m (·.writeBitfield)
  let m := onSt m fun s => { s with done := (List.range s.n).map fun i => s.done.getD i false || s.diskOK.getD i false }
  onSt m fun s => if !allTrue s.diskOK then s.resetCompletion else s

def hvdPre (m : M) : M :=
  let m := onSt m fun s => { s with verifier := false, bf := some s.diskOK, tainted := false }
  let m := onSt m (·.writeBitfield)
  onSt m fun s => { s with done := (List.range s.n).map fun i => s.done.getD i false || s.diskOK.getD i false }

theorem hvdPre_record (m : M) : (hvdPre m).1.bf = some m.1.diskOK ∧ (hvdPre m).1.persisted = some m.1.diskOK :=
  ⟨rfl, rfl⟩

theorem hvdInstall_eq (m : M) :
    hvdInstall m = onSt (hvdPre m) fun s => if !allTrue s.diskOK then s.resetCompletion else s := rfl

def hvdHaves (m : M) : M :=
  let haves := (List.range m.1.n).filter fun i => m.1.diskOK.getD i false
  m.1.peers.foldl (fun m p =>
    updateInterested (haves.foldl (fun m i => send m p.k s!"have:{i}") m) p.k) m

theorem handleVerificationDone_eq (m : M) :
    handleVerificationDone m =
      let m := hvdInstall m
      if m.1.doVerify then onSt m fun s => ({ s with doVerify := false }).stop false
      else hadCheck (hvdHaves m) := by
  -- once the phases are unfolded the two sides are the same term; plain `rfl` makes the unifier search (7M heartbeats)
  with_reducible (unfold handleVerificationDone hvdInstall hadCheck hvdHaves hadReady; rfl)

/-- The storage calls of an allocation whose `Open` of data file `failAt` fails: the files before it are opened
(created, if missing) and closed again. -/
def allocFailOpen (m : M) : M :=
  onSt m fun s =>
    { s with sto := s.sto ++ ((allocData m.1).take m.1.failAt).map (fun i =>
               s!"open:{fileName s.cfg i}:{s.cfg.flens.getD i 0}:" ++ (if s.fileExists.getD i false then "existed" else "new")) ++
               ["openfail:" ++ fileName s.cfg ((allocData m.1).getD m.1.failAt 0)] ++
               ((allocData m.1).take m.1.failAt).map (fun i => "close:" ++ fileName s.cfg i),
             fileExists := (List.range s.cfg.flens.length).map (fun i => s.fileExists.getD i false || ((allocData m.1).take m.1.failAt).contains i),
             known := (List.range s.cfg.flens.length).map (fun i => s.known.getD i false || ((allocData m.1).take m.1.failAt).contains i),
             allocator := false }

/-- One of the files the failing allocation opened did not exist (it has been re-created). -/
def allocFailMissing (s : St) : Bool := ((allocData s).take s.failAt).any fun i => !(s.fileExists.getD i false)

/-- The failing allocation: storage calls, the bitfield forgotten if a file was re-created (fix C05-F2), `stop(err)`. -/
def allocFail (m : M) : M := onSt (hadForget (allocFailOpen m) (allocFailMissing m.1)) (·.stop true)

/-- The storage calls of a successful allocation. -/
def allocOkOpen (m : M) : M :=
  onSt m fun s =>
    { s with sto := s.sto ++ (allocData m.1).map (fun i =>
               s!"open:{fileName s.cfg i}:{s.cfg.flens.getD i 0}:" ++ (if s.fileExists.getD i false then "existed" else "new")),
             fileExists := (List.range s.cfg.flens.length).map (fun i => s.fileExists.getD i false || (allocData m.1).contains i),
             known := (List.range s.cfg.flens.length).map (fun i => s.known.getD i false || (allocData m.1).contains i) }

theorem allocatorRun_eq (m : M) :
    allocatorRun m =
      if allocFailing m.1 then allocFail m
      else handleAllocationDone (allocOkOpen m) ((allocData m.1).any fun i => m.1.fileExists.getD i false)
        ((allocData m.1).any fun i => !(m.1.fileExists.getD i false)) := rfl

/-- The metadata is adopted (`info = true`): `StopAfterMetadata` stops the torrent
(`stopAndSetStoppedOnMetadata`), otherwise the allocator is started. -/
def hmdStart (m : M) : M :=
  if m.1.cfg.stopAfterMeta then onSt m (·.stop false)
  else onSt m fun s => if s.allocator then s.crash "allocator exists" else { s with allocator := true }

/-- Every block arrived and the hash is right: the metadata downloads are dropped, then `parseInfo`'s
piece-count limit (`Config.MaxPieces`) and the private flag refuse the info dictionary, else it is adopted. -/
def hmdAdopt (m : M) : M :=
  let m := onSt m fun s => { s with idls := [] }
  if m.1.cfg.n > m.1.cfg.maxPieces then onSt m (·.stop true)
  else if m.1.cfg.isPrivate then onSt m (·.stop true)
  else hmdStart (onSt m fun s => { s with info := true, metaDone := true })

def hmdBlock (m : M) (d : IDl) (k i len : Nat) (good : Bool) : M :=
  if i ≥ d.nb then onSt (closePeerM m k) fun s => { s with mayStartI := !s.info }
  else if len ≠ blockSizeOf d.size i then onSt (closePeerM m k) fun s => { s with mayStartI := !s.info }
  else if (d.blocks.getD i none).isSome then onSt (closePeerM m k) fun s => { s with mayStartI := !s.info }
  else
    let d' : IDl := { d with pending := d.pending - 1, blocks := d.blocks.set i (some good) }
    let m' := onSt m fun s => { s with idls := s.idls.map fun x => if x.k = k then d' else x }
    if d'.pending ≠ 0 then
      onSt m' (·.updPeer k fun p => { p with snubbed := false })
    else
      if !(d'.size = m.1.isize && d'.blocks.all (· = some true)) then
        onSt (closePeerM m' k) fun s => { s with mayStartI := !s.info }
      else hmdAdopt m'

theorem handleMetadataData_eq (m : M) (k i len : Nat) (good : Bool) :
    handleMetadataData m k i len good =
      match m.1.idls.find? (·.k = k) with
      | none => m
      | some d => hmdBlock m d k i len good := rfl

end Rain.Loop
