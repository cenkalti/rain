import RainModel.Lemmas.PickerGaps
/-! The pick ladder for peers (`findPiece`, `PickFor`) of M-PICK.  Each rung is characterised once and in both directions,
what an answer is and what silence means (`pickAllowedFastLoop_spec`, `firstRung_spec`, `mem_argmins_choice`, `peerSteals_spec`,
the scans as `find?`): soundness (`findPiece_spec`, here) and completeness (`PickerComplete.lean`) read off the same lemmas. -/
namespace Rain.Picker

theorem pickable_iff (pc : Piece) (p : Nat) :
    pc.pickable p = true ↔ pc.done = false ∧ pc.writing = false ∧ pc.requested = [] ∧ p ∈ pc.having := by
  unfold Piece.pickable
  cases pc.done <;> cases pc.writing <;> simp [List.isEmpty_iff]

theorem pickAllowedFastLoop_spec (s : State) (p : Nat) : ∀ (l : List Nat) (acc : Option Nat),
    (∀ i, pickAllowedFastLoop s p l acc = some i → acc = some i ∨ i ∈ l ∧ i < s.n ∧ (s.pieces i).pickable p = true) ∧
    (pickAllowedFastLoop s p l acc = none → acc = none ∧ ∀ x ∈ l, ¬(x < s.n ∧ (s.pieces x).pickable p = true))
  | [], acc => ⟨fun i h => Or.inl h, fun h => ⟨h, nofun⟩⟩
  | x :: rest, acc => by
    simp only [pickAllowedFastLoop, Bool.and_eq_true, decide_eq_true_eq]
    split
    · rename_i hc
      have hx : ∀ i, some x = some i → acc = some i ∨ i ∈ x :: rest ∧ i < s.n ∧ (s.pieces i).pickable p = true := by
        rintro _ ⟨⟩; exact Or.inr ⟨List.mem_cons_self, hc⟩
      split
      · exact ⟨hx, nofun⟩
      · have ih := pickAllowedFastLoop_spec s p rest
        refine ⟨fun i h => ?_, fun h => ?_⟩
        · rcases (ih _).1 i h with e | ⟨hm, hok⟩
          · cases acc with
            | none => exact hx i e
            | some k =>
              simp only at e
              split at e
              · exact hx i e
              · exact Or.inl e
          · exact Or.inr ⟨List.mem_cons_of_mem _ hm, hok⟩
        · have := ((ih _).2 h).1
          cases acc with
          | none => cases this
          | some k => simp only at this; split at this <;> cases this
    · rename_i hc
      have ih := pickAllowedFastLoop_spec s p rest acc
      exact ⟨fun i h => (ih.1 i h).imp_right fun ⟨hm, hok⟩ => ⟨List.mem_cons_of_mem _ hm, hok⟩,
        fun h => ⟨(ih.2 h).1, List.forall_mem_cons.mpr ⟨hc, (ih.2 h).2⟩⟩⟩

theorem find?_concat_rev {c : Nat → Bool} (a : Nat) (l : List Nat) :
    (l ++ [a]).reverse.find? c = if c a then some a else l.reverse.find? c := by
  rw [List.reverse_append, List.reverse_singleton, List.singleton_append, List.find?_cons]; cases c a <;> rfl

theorem gapScan_eq (s : State) (p b : Nat) : ∀ f, gapScan s p b f = (List.range' b f).reverse.find? fun i =>
    (s.pieces i).requested.isEmpty && (s.pieces i).having.contains p &&
      (!(s.peers p).choking || (s.peers p).af.contains i)
  | 0 => rfl
  | f + 1 => by rw [List.range'_concat, find?_concat_rev, Nat.one_mul, gapScan, gapScan_eq s p b f]

theorem stealScan_eq (s : State) (p c : Nat) : ∀ f, stealScan s p c f =
    (List.range' (c + 1) f).reverse.find? fun i => (s.pieces i).pickable p
  | 0 => rfl
  | f + 1 => by
    rw [List.range'_concat, find?_concat_rev, Nat.one_mul, Nat.add_right_comm, stealScan, stealScan_eq s p c f]

theorem find?_rev_range'_some {c : Nat → Bool} {b f i : Nat} (h : (List.range' b f).reverse.find? c = some i) :
    b ≤ i ∧ i < b + f ∧ c i = true := by
  have := List.mem_of_find?_eq_some h
  rw [List.mem_reverse, List.mem_range'_1] at this
  exact ⟨this.1, this.2, List.find?_some h⟩

theorem find?_rev_range'_isSome {c : Nat → Bool} {b f j : Nat} (h1 : b ≤ j) (h2 : j < b + f) (hc : c j = true) :
    ((List.range' b f).reverse.find? c).isSome = true :=
  List.find?_isSome.mpr ⟨j, List.mem_reverse.mpr (List.mem_range'_1.mpr ⟨h1, h2⟩), hc⟩

/-- `peerStealsFromWebseed`; `SrcOk` is what keeps `WebseedStopAt` from panicking. -/
theorem peerSteals_spec (s : State) (p : Nat) (hs : SrcOk s) : ∀ (l : List (Nat × Dl)),
    (∀ x ∈ l, x ∈ downloadingSources s) →
    ∃ s1 res, peerSteals s p l = .ok (s1, res) ∧
      ((s1 = s ∧ res = none ∧ ∀ x ∈ l, x.2.remaining = 0 ∨ stealScan s p x.2.c (x.2.e - 1 - x.2.c) = none) ∨
        ∃ k d i, k < s.ns ∧ s.srcs k = some d ∧ s1 = stopSt s k d i ∧ res = some i ∧
          i ≤ d.e ∧ i < s.n ∧ (s.pieces i).pickable p = true)
  | [], _ => ⟨s, none, rfl, Or.inl ⟨rfl, rfl, nofun⟩⟩
  | (k, d) :: rest, hl => by
    simp only [peerSteals]
    obtain ⟨s1, res, e, ih⟩ := peerSteals_spec s p hs rest (fun x hx => hl x (by simp [hx]))
    split
    · exact ⟨s1, res, e, ih.imp_left fun ⟨e1, e2, hall⟩ => ⟨e1, e2, List.forall_mem_cons.mpr ⟨Or.inl ‹_›, hall⟩⟩⟩
    · split
      · rename_i i hscan
        have hkd := (mem_downloadingSources s k d).mp (hl (k, d) (by simp))
        obtain ⟨hbc, hce, hen, -⟩ := hs k hkd.1 d hkd.2
        have hsp := find?_rev_range'_some (stealScan_eq .. ▸ hscan)
        have hbi : d.b ≤ i := by omega
        have hie : i ≤ d.e := by omega
        rw [webseedStopAt_eq s k d i hs hkd.1 hkd.2 hbi hie]
        exact ⟨_, _, rfl, Or.inr ⟨k, d, i, hkd.1, hkd.2, rfl, rfl, hie, by omega, hsp.2.2⟩⟩
      · exact ⟨s1, res, e, ih.imp_left fun ⟨e1, e2, hall⟩ => ⟨e1, e2, List.forall_mem_cons.mpr ⟨Or.inr ‹_›, hall⟩⟩⟩

def GoodPick (s : State) (p i : Nat) : Prop :=
  i < s.n ∧ (s.pieces i).done = false ∧ (s.pieces i).writing = false ∧ p ∈ (s.pieces i).having ∧
  (s.pieces i).requested.length < max 1 s.maxDup ∧ ((s.peers p).choking = false ∨ i ∈ (s.peers p).af)

theorem endgame_inv (s : State) (h : PickInv s) : PickInv { s with endgame := true } :=
  ⟨h.nodup, h.reqSubHaving, h.stalled, h.dupLimit, h.doneIdle, h.reqDl, h.chokedOk, h.havingOpen, h.webOwner,
   h.dlReq, h.closedIdle, h.afRange, h.srcOk, h.avail, h.maxWeb⟩

theorem goodPick_of_pickable {s : State} {p i : Nat} (hi : i < s.n) (hp : (s.pieces i).pickable p = true)
    (hc : (s.peers p).choking = false ∨ i ∈ (s.peers p).af) : GoodPick s p i := by
  obtain ⟨h1, h2, h3, h4⟩ := (pickable_iff _ _).mp hp
  refine ⟨hi, h1, h2, h4, ?_, hc⟩
  rw [h3]; simp; omega

theorem mem_argmins {key : Nat → Int} {c : List Nat} {i : Nat} (h : i ∈ argmins key c) : i ∈ c := by
  unfold argmins at h; exact (List.mem_filter.mp h).1

/-- The shape shared by `pickEndgame`, `pickStalled` and `pickRarest`. -/
theorem mem_argmins_choice {α : Type} {key : Nat → Int} {c : List Nat} {x r : α} {f : Nat → α}
    (hr : r ∈ if c.isEmpty then [x] else (argmins key c).map f) : (c = [] ∧ r = x) ∨ ∃ i ∈ c, r = f i := by
  split at hr
  · exact Or.inl ⟨List.isEmpty_iff.mp ‹_›, List.mem_singleton.mp hr⟩
  · obtain ⟨i, hi, e⟩ := List.mem_map.mp hr
    exact Or.inr ⟨i, mem_argmins hi, e.symm⟩

theorem mem_of_argmins_some {key : Nat → Int} {c : List Nat} {r : Option Nat} {i : Nat}
    (hr : r ∈ if c.isEmpty then [none] else (argmins key c).map some) (hi : r = some i) : i ∈ c := by
  obtain ⟨-, e⟩ | ⟨j, hj, e⟩ := mem_argmins_choice hr <;> cases hi.symm.trans e
  exact hj

theorem pickEndgame_spec (s : State) (p : Nat) (hc : (s.peers p).choking = false) :
    ∀ r ∈ pickEndgame s p, ∀ i, r = some i → GoodPick s p i := by
  intro r hr i hi
  have := List.mem_filter.mp (mem_of_argmins_some hr hi)
  simp only [List.mem_range, Bool.and_eq_true, Bool.not_eq_true', Bool.or_eq_false_iff, decide_eq_true_eq,
    List.contains_iff_mem] at this
  exact ⟨this.1, this.2.1.1.1, this.2.1.1.2, this.2.2, by omega, Or.inl hc⟩

theorem pickStalled_spec (s : State) (p : Nat) (hc : (s.peers p).choking = false) :
    ∀ r ∈ pickStalled s p, ∀ i, r = some i → GoodPick s p i := by
  intro r hr i hi
  have := List.mem_filter.mp (mem_of_argmins_some hr hi)
  simp only [List.mem_range, Bool.and_eq_true, Bool.not_eq_true', Bool.or_eq_false_iff, decide_eq_true_eq,
    List.contains_iff_mem] at this
  exact ⟨this.1, this.2.1.1.1.1, this.2.1.1.1.2, this.2.2, by omega, Or.inl hc⟩

theorem GoodPick.transfer {s s1 : State} {p i : Nat} (hs : SamePeers s s1) (h : GoodPick s1 p i) : GoodPick s p i := by
  obtain ⟨hn, hnp, hpe, hmd, _, hpc⟩ := hs
  obtain ⟨h1, h2, h3, h4, h5, h6⟩ := h
  have := hpc i
  exact ⟨by omega, by rw [← this.2.2.1]; exact h2, by rw [← this.2.2.2]; exact h3, by rw [← this.1]; exact h4,
    by rw [← this.2.1, ← hmd]; exact h5, by rw [← hpe]; exact h6⟩

def PickOk (s : State) (p : Nat) (r : R (State × Option (Nat × Bool))) : Prop :=
  ∃ s1 res, r = .ok (s1, res) ∧ PickInv s1 ∧ SamePeers s s1 ∧ ∀ x ∈ res, (s.peers p).dl = none ∧ GoodPick s1 p x.1

theorem firstRung_spec (s : State) (p : Nat) :
    ∀ x ∈ (if s.sequential then [pickSequential s p] else pickRarest s p),
      (∃ i, x = (s, some i) ∧ i < s.n ∧ (s.pieces i).pickable p = true) ∨
      (x = (s, none) ∨ x = ({ s with endgame := true }, none)) ∧ ∀ i, i < s.n → ¬ (s.pieces i).pickable p = true := by
  have flag : ((if hasUnrequested s then s else { s with endgame := true }, none) : State × Option Nat) = (s, none) ∨
      ((if hasUnrequested s then s else { s with endgame := true }, none) : State × Option Nat) =
        ({ s with endgame := true }, none) := by
    split
    · exact Or.inl rfl
    · exact Or.inr rfl
  intro x hx
  split at hx
  · rw [List.mem_singleton.mp hx]
    unfold pickSequential
    split
    · rename_i i hfind
      exact Or.inl ⟨i, rfl, find_range_some hfind⟩
    · rename_i hnone
      exact Or.inr ⟨flag, fun i hi => List.find?_eq_none.mp hnone i (List.mem_range.mpr hi)⟩
  · obtain ⟨hnil, rfl⟩ | ⟨i, hi, rfl⟩ := mem_argmins_choice hx
    · exact Or.inr ⟨flag, fun i hi => List.filter_eq_nil_iff.mp hnil i (List.mem_range.mpr hi)⟩
    · have := List.mem_filter.mp hi
      exact Or.inl ⟨i, rfl, List.mem_range.mp this.1, this.2⟩

/-! ### the ladder, rung by rung

`findPiece` is the dispatch `findPiece_eq` over three groups of rungs; each group has its own `_spec` here, its
`_ne_nil` further down. -/

/-- The last rungs: end game, or re-requests of stalled pieces. -/
def tailRungs (s : State) (p : Nat) : List (R (State × Option (Nat × Bool))) :=
  if s.endgame then (pickEndgame s p).map fun r => .ok (s, r.map (·, false))
  else (pickStalled s p).map fun r => .ok (s, r.map (·, false))

/-- The rungs for an idle unchoking peer while a web seed is downloading. -/
def webRungs (s : State) (p : Nat) : List (R (State × Option (Nat × Bool))) :=
  if !(pickLastPieceOfSmallestGap s p).isEmpty then
    (pickLastPieceOfSmallestGap s p).map fun i => .ok (s, some (i, (s.peers p).af.contains i))
  else [ (peerSteals s p (downloadingSources s)).map fun (s1, r) =>
           (s1, r.map fun i => (i, (s.peers p).af.contains i)) ]

/-- The rungs for an idle unchoking peer below file edge and allowed fast. -/
def mainRungs (legacy : Bool) (s : State) (p : Nat) : List (R (State × Option (Nat × Bool))) :=
  if s.endgame && (legacy || !s.sequential) then (pickEndgame s p).map fun r => .ok (s, r.map (·, false))
  else
    (if s.sequential then [pickSequential s p] else pickRarest s p).flatMap fun (s1, r) =>
      match r with
      | some i => [.ok (s1, some (i, !legacy && s.sequential && (s.peers p).af.contains i))]
      | none => tailRungs s1 p

theorem findPiece_eq (legacy : Bool) (s : State) (p : Nat) : findPiece legacy s p =
    if (s.peers p).dl.isSome then [.ok (s, none)]
    else if downloadingWebseed s then
      if (s.peers p).choking then [.ok (s, none)] else webRungs s p
    else
      match (if s.sequential && !(s.peers p).choking then pickFileEdge s p else none) with
      | some i => [.ok (s, some (i, false))]
      | none =>
      match (if legacy || !s.sequential || (s.peers p).choking then pickAllowedFast s p else none) with
      | some i => [.ok (s, some (i, true))]
      | none => if (s.peers p).choking then [.ok (s, none)] else mainRungs legacy s p := rfl

theorem pickOk_none {s : State} {p : Nat} (h : PickInv s) : PickOk s p (.ok (s, none)) :=
  ⟨s, _, rfl, h, .refl s, nofun⟩

section Rungs
variable {s : State} {p : Nat} (hdl : (s.peers p).dl = none)
include hdl

theorem pickOk_some (h : PickInv s) {i : Nat} (af : Bool) (hg : GoodPick s p i) :
    PickOk s p (.ok (s, some (i, af))) :=
  ⟨s, _, rfl, h, .refl s, by rintro _ ⟨⟩; exact ⟨hdl, hg⟩⟩

variable (hc : (s.peers p).choking = false)
include hc

/-- The tail runs on a state `s1` that is `s` up to the end-game flag. -/
theorem tailRungs_spec {s1 : State} (hs : SamePeers s s1) (hI : PickInv s1) :
    ∀ r ∈ tailRungs s1 p, PickOk s p r := by
  intro r hr
  have hc1 : (s1.peers p).choking = false := by rw [hs.2.2.1]; exact hc
  have : ∃ r0, r = .ok (s1, r0.map (·, false)) ∧ ∀ i, r0 = some i → GoodPick s1 p i := by
    unfold tailRungs at hr
    split at hr <;> obtain ⟨r0, hr0, rfl⟩ := List.mem_map.mp hr
    · exact ⟨r0, rfl, pickEndgame_spec s1 p hc1 r0 hr0⟩
    · exact ⟨r0, rfl, pickStalled_spec s1 p hc1 r0 hr0⟩
  obtain ⟨r0, rfl, hg⟩ := this
  refine ⟨s1, _, rfl, hI, hs, fun x hx => ?_⟩
  obtain ⟨i, rfl, rfl⟩ := Option.map_eq_some_iff.mp hx
  exact ⟨hdl, hg i rfl⟩

variable (h : PickInv s)
include h

theorem webRungs_spec : ∀ r ∈ webRungs s p, PickOk s p r := by
  intro r hr
  unfold webRungs at hr
  split at hr
  · -- last piece of a smallest gap
    obtain ⟨i, hi, rfl⟩ := List.mem_map.mp hr
    refine pickOk_some hdl h _ ?_
    unfold pickLastPieceOfSmallestGap at hi
    simp only [List.mem_map, List.mem_filter, List.mem_filterMap] at hi
    obtain ⟨x, ⟨⟨g, hg, hx⟩, _⟩, rfl⟩ := hi
    obtain ⟨i0, hscan, rfl⟩ := Option.map_eq_some_iff.mp hx
    have hgood := findGaps_good s g hg
    obtain ⟨h1, h2, hcond⟩ := find?_rev_range'_some (gapScan_eq .. ▸ hscan)
    simp only [Bool.and_eq_true, List.isEmpty_iff, List.contains_iff_mem] at hcond
    have hav := (availWeb_iff _).mp (hgood.2.2 i0 h1 (by have := hgood.1; omega))
    refine ⟨by have := hgood.1; have := hgood.2.1; omega, hav.1, hav.2.1, hcond.1.2, ?_, Or.inl hc⟩
    rw [hcond.1.1]; simp; omega
  · -- steal from a web seed
    obtain ⟨s1, res, he, hcase⟩ := peerSteals_spec s p h.srcOk (downloadingSources s) (fun x hx => hx)
    rw [List.mem_singleton.mp hr, he]
    rcases hcase with ⟨rfl, rfl, -⟩ | ⟨k, d, i, hk, hd, rfl, rfl, hie, hin, hpk⟩
    · exact pickOk_none h
    · obtain ⟨w, srcs, e, hcore, -⟩ := stopSt_spec h.core hk hd hie
      rw [e]
      refine ⟨_, _, rfl, hcore.inv h.doneIdle, .refl s, ?_⟩
      -- the stolen piece is as pickable as before: only `RequestedWebseed` fields and sources changed
      rintro _ ⟨⟩
      exact ⟨hdl, goodPick_of_pickable (s := s) hin hpk (Or.inl hc)⟩

theorem mainRungs_spec (legacy : Bool) : ∀ r ∈ mainRungs legacy s p, PickOk s p r := by
  intro r hr
  unfold mainRungs at hr
  split at hr
  · rename_i heg
    have := tailRungs_spec hdl hc (.refl s) h r
    simp only [tailRungs, (Bool.and_eq_true _ _ ▸ heg).1, if_true] at this
    exact this hr
  · obtain ⟨⟨s1, r1⟩, hfirst, hr⟩ := List.mem_flatMap.mp hr
    rcases firstRung_spec s p _ hfirst with ⟨i, e, hin, hpk⟩ | ⟨e | e, -⟩ <;> cases e
    · rw [List.mem_singleton.mp hr]
      exact pickOk_some hdl h _ (goodPick_of_pickable hin hpk (Or.inl hc))
    · exact tailRungs_spec hdl hc (.refl s) h r hr
    · exact tailRungs_spec (s1 := { s with endgame := true }) hdl hc
        ⟨rfl, rfl, rfl, rfl, rfl, fun _ => ⟨rfl, rfl, rfl, rfl⟩⟩ (endgame_inv s h) r hr

end Rungs

theorem findPiece_spec (legacy : Bool) (s : State) (p : Nat) (h : PickInv s) :
    ∀ r ∈ findPiece legacy s p, PickOk s p r := by
  intro r hr
  rw [findPiece_eq] at hr
  have none_ok := pickOk_none (p := p) h
  split at hr
  · rw [List.mem_singleton.mp hr]; exact none_ok
  rename_i hdl0
  have hdl : (s.peers p).dl = none := by simpa using hdl0
  split at hr
  · split at hr
    · rw [List.mem_singleton.mp hr]; exact none_ok
    · exact webRungs_spec hdl (Bool.eq_false_iff.mpr ‹_›) h r hr
  split at hr
  · -- file edge
    rename_i i hedge
    rw [List.mem_singleton.mp hr]
    split at hedge
    · rename_i hcond
      simp only [Bool.and_eq_true, Bool.not_eq_true'] at hcond
      have hp := find_range_some hedge
      simp only [Bool.and_eq_true] at hp
      exact pickOk_some hdl h _ (goodPick_of_pickable hp.1 hp.2.2 (Or.inl hcond.2))
    · cases hedge
  split at hr
  · -- allowed fast
    rename_i i haf
    rw [List.mem_singleton.mp hr]
    split at haf
    · obtain ⟨⟨⟩⟩ | ⟨hm, hin, hpk⟩ := (pickAllowedFastLoop_spec s p _ none).1 i haf
      exact pickOk_some hdl h _ (goodPick_of_pickable hin hpk (Or.inr hm))
    · cases haf
  split at hr
  · rw [List.mem_singleton.mp hr]; exact none_ok
  · exact mainRungs_spec hdl (Bool.eq_false_iff.mpr ‹_›) h legacy r hr

theorem addPick_inv (s : State) (p i : Nat) (af : Bool) (h : PickInv s) (hp : p < s.np)
    (hc : (s.peers p).closed = false) (hdl : (s.peers p).dl = none) (hg : GoodPick s p i) :
    PickInv (setPeer (setPiece s i { s.pieces i with requested := sadd (s.pieces i).requested p }) p
      { s.peers p with dl := some (i, af) }) := by
  obtain ⟨hi, hdone, hwr, hhav, hlen, _⟩ := hg
  have o := h.core.pieceOk hi
  have l := h.core.link hi p
  have hnr : p ∉ (s.pieces i).requested := fun m => by
    have := l.reqDl m
    rw [hdl] at this; cases this
  refine PickCore.inv ?_ (DoneIdle.updPiece (s := s) h.doneIdle fun _ hd => absurd hd (by simp [hdone]))
  refine h.core.updBoth
    ⟨⟨o.nodup.1, nodup_sadd o.nodup.2.1, o.nodup.2.2⟩, Nat.le_trans (length_sadd_le _ _) hlen⟩
    { h.core.peerOk hp with
      dlLt := fun x hx => Option.mem_some_iff.mp hx ▸ hi
      closedIdle := fun hcl => absurd hcl (by simp [hc]) }
    ?_ ?_ (by simp [hdl]) (by simp) rfl rfl rfl
  · exact ⟨fun _ => hhav, fun m => absurd (l.snubbed m).1 hnr, fun m => absurd (l.chokedReq m) hnr, l.having,
      fun _ => rfl, fun m => absurd (l.chokedReq m) hnr, fun _ _ _ _ => mem_sadd.mpr (Or.inr rfl)⟩
  · exact fun q hqp => (h.core.link hi q).congr .rfl (mem_sadd.trans (or_iff_left hqp)) .rfl .rfl

/-- Every outcome of `pick p` (`PickFor` + `startSinglePieceDownloader`). -/
theorem pickFor_spec (legacy : Bool) (s : State) (p : Nat) (h : PickInv s) (hp : p < s.np)
    (hc : (s.peers p).closed = false) :
    ∀ r ∈ pickFor legacy s p, ∃ s' res, r = .ok (s', res) ∧ PickInv s' := by
  intro r hr
  unfold pickFor at hr
  obtain ⟨r0, hr0, rfl⟩ := List.mem_map.mp hr
  obtain ⟨s1, res, rfl, hI, hs, hres⟩ := findPiece_spec legacy s p h r0 hr0
  cases res with
  | none => exact ⟨s1, none, rfl, hI⟩
  | some x =>
    obtain ⟨i, af⟩ := x
    obtain ⟨hdl, hg⟩ := hres (i, af) rfl
    refine ⟨_, some (i, af), rfl, ?_⟩
    have := addPick_inv s1 p i af hI (hs.2.1 ▸ hp) (by rw [hs.2.2.1]; exact hc) (by rw [hs.2.2.1]; exact hdl) hg
    simpa using this

theorem step_pick_inv (legacy : Bool) (s : State) (p : Nat) (h : PickInv s) : AllInv (step legacy s (.pick p)) := by
  simp only [step]
  split
  · rename_i hpre
    intro r hr
    obtain ⟨r0, hr0, rfl⟩ := List.mem_map.mp hr
    obtain ⟨s', res, rfl, hI⟩ := pickFor_spec legacy s p h hpre.1 hpre.2 r0 hr0
    exact ⟨s', _, rfl, hI⟩
  · exact .single h

theorem step_pick_mem {legacy : Bool} {s s' : State} {p : Nat} {res : Option (Nat × Bool)}
    (hr : .ok (s', .pick res) ∈ step legacy s (.pick p)) : ∃ s1, .ok (s1, res) ∈ findPiece legacy s p := by
  simp only [step] at hr
  split at hr
  · obtain ⟨r0, hr0, he⟩ := List.mem_map.mp hr
    obtain ⟨r1, hr1, rfl⟩ := List.mem_map.mp hr0
    obtain _ | ⟨s1, _ | ⟨i, af⟩⟩ := r1 <;> cases he <;> exact ⟨s1, hr1⟩
  · simp at hr

theorem step_pick_safe (legacy : Bool) (s : State) (p : Nat) (h : PickInv s) (s' : State) (i : Nat) (af : Bool)
    (hr : .ok (s', .pick (some (i, af))) ∈ step legacy s (.pick p)) : PickSafe s p i := by
  obtain ⟨s1, h1⟩ := step_pick_mem hr
  obtain ⟨_, _, e, -, hs, hres⟩ := findPiece_spec legacy s p h _ h1
  cases e
  obtain ⟨hdl, hg⟩ := (hres _ rfl).imp_right (·.transfer hs)
  exact ⟨hg.1, hg.2.1, hg.2.2.1, hg.2.2.2.1, hg.2.2.2.2.2, hdl⟩

/-- `sequential_lowest` on the ladder `findPiece false`. -/
theorem findPiece_seqLowest (s : State) (p : Nat) :
    ∀ r ∈ findPiece false s p, ∀ s1 res, r = .ok (s1, res) → SeqLowest s p (res.map (·.1)) := by
  intro r hr s1 res he
  intro hyp j hj
  obtain ⟨hseq, hch, hdl, hweb, hedge⟩ := hyp
  unfold lowestPickable at hj
  simp only [Option.mem_def] at hj
  unfold findPiece at hr
  simp only [hdl, hweb, hseq, hch, hedge, Option.isSome_none, Bool.false_eq_true, if_false, Bool.not_false,
    Bool.and_true, Bool.not_true, Bool.or_false, Bool.and_false, if_true, Bool.true_and] at hr
  simp only [pickSequential, hj, List.flatMap_cons, List.flatMap_nil, List.append_nil, List.mem_singleton] at hr
  subst hr
  simp only [Except.ok.injEq, Prod.mk.injEq] at he
  rw [← he.2]; rfl

/-! ### progress: outcome lists are never empty -/

theorem exists_least {α : Type} (r : α → α → Prop) (total : ∀ a b, r a b ∨ r b a)
    (trans : ∀ {a b c}, r a b → r b c → r a c) : ∀ (c : List α), c ≠ [] → ∃ x ∈ c, ∀ y ∈ c, r x y
  | [], h => absurd rfl h
  | [x], _ => ⟨x, by simp, by intro j hj; simp at hj; subst hj; exact (total j j).elim id id⟩
  | x :: y :: rest, _ => by
    obtain ⟨m, hm, hmin⟩ := exists_least r total trans (y :: rest) (by simp)
    rcases total x m with hx | hx
    · refine ⟨x, by simp, fun j hj => ?_⟩
      rcases List.mem_cons.mp hj with rfl | hj
      · exact (total j j).elim id id
      · exact trans hx (hmin j hj)
    · refine ⟨m, List.mem_cons_of_mem _ hm, fun j hj => ?_⟩
      rcases List.mem_cons.mp hj with rfl | hj
      · exact hx
      · exact hmin j hj

theorem filter_least_ne_nil {α : Type} (r : α → α → Prop) [DecidableRel r] (total : ∀ a b, r a b ∨ r b a)
    (trans : ∀ {a b c}, r a b → r b c → r a c) (c : List α) (h : c ≠ []) :
    (c.filter fun x => c.all fun y => decide (r x y)) ≠ [] := by
  obtain ⟨x, hx, hmin⟩ := exists_least r total trans c h
  intro e
  have : x ∈ c.filter fun x => c.all fun y => decide (r x y) :=
    List.mem_filter.mpr ⟨hx, by simpa [List.all_eq_true] using hmin⟩
  rw [e] at this; cases this

theorem map_ne_nil {α β : Type} {l : List α} (f : α → β) (hl : l ≠ []) : l.map f ≠ [] :=
  fun e => hl (List.map_eq_nil_iff.mp e)

theorem argmins_ne_nil (key : Nat → Int) (c : List Nat) (h : c ≠ []) : argmins key c ≠ [] :=
  filter_least_ne_nil (fun a b => key a ≤ key b) (fun _ _ => Int.le_total _ _) Int.le_trans c h

theorem argmins_choice_ne_nil {α : Type} (key : Nat → Int) (c : List Nat) (x : α) (f : Nat → α) :
    (if c.isEmpty then [x] else (argmins key c).map f) ≠ [] := by
  split
  · simp
  · rename_i h
    exact map_ne_nil _ (argmins_ne_nil _ _ (mt List.isEmpty_iff.2 h))

theorem pickEndgame_ne_nil (s : State) (p : Nat) : pickEndgame s p ≠ [] := argmins_choice_ne_nil _ _ _ _

theorem pickStalled_ne_nil (s : State) (p : Nat) : pickStalled s p ≠ [] := argmins_choice_ne_nil _ _ _ _

theorem pickRarest_ne_nil (s : State) (p : Nat) : pickRarest s p ≠ [] := argmins_choice_ne_nil _ _ _ _

theorem tailRungs_ne_nil (s : State) (p : Nat) : tailRungs s p ≠ [] := by
  unfold tailRungs
  split
  · exact map_ne_nil _ (pickEndgame_ne_nil s p)
  · exact map_ne_nil _ (pickStalled_ne_nil s p)

theorem webRungs_ne_nil (s : State) (p : Nat) : webRungs s p ≠ [] := by
  unfold webRungs
  split
  · rename_i h
    exact map_ne_nil _ fun e => by simp [e] at h
  · simp

theorem mainRungs_ne_nil (legacy : Bool) (s : State) (p : Nat) : mainRungs legacy s p ≠ [] := by
  unfold mainRungs
  split
  · exact map_ne_nil _ (pickEndgame_ne_nil s p)
  · intro e
    have hfirst : (if s.sequential = true then [pickSequential s p] else pickRarest s p) ≠ [] := by
      split
      · simp
      · exact pickRarest_ne_nil s p
    obtain ⟨⟨s1, r⟩, hx⟩ := List.exists_mem_of_ne_nil _ hfirst
    have := List.flatMap_eq_nil_iff.mp e _ hx
    cases r with
    | some i => cases this
    | none => exact tailRungs_ne_nil s1 p this

theorem findPiece_ne_nil (legacy : Bool) (s : State) (p : Nat) : findPiece legacy s p ≠ [] := by
  rw [findPiece_eq]
  split
  · exact List.cons_ne_nil _ _
  split
  · split
    · exact List.cons_ne_nil _ _
    · exact webRungs_ne_nil s p
  split
  · exact List.cons_ne_nil _ _
  split
  · exact List.cons_ne_nil _ _
  split
  · exact List.cons_ne_nil _ _
  · exact mainRungs_ne_nil legacy s p

theorem findRange_ne_nil (s : State) : findRange s ≠ [] := by
  unfold findRange
  simp only []
  split
  · unfold webseedSteals
    simp only []
    split
    · simp
    · rename_i h
      exact map_ne_nil _ (filter_least_ne_nil (fun x y : Nat × Dl => y.2.remaining ≤ x.2.remaining)
        (fun _ _ => Nat.le_total _ _) (fun h1 h2 => Nat.le_trans h2 h1) _ (mt List.isEmpty_iff.2 h))
  · rename_i h
    split
    · split <;> simp
    · exact map_ne_nil _ (filter_least_ne_nil (fun g h : Nat × Nat => h.2 - h.1 ≤ g.2 - g.1)
        (fun _ _ => Nat.le_total _ _) (fun h1 h2 => Nat.le_trans h2 h1) _ (mt List.isEmpty_iff.2 h))

/-- **Progress**: every operation has at least one admissible outcome in every state (the model
never blocks; the "for every outcome" theorems are not vacuous for any operation). -/
theorem step_ne_nil (legacy : Bool) (s : State) (op : Op) : step legacy s op ≠ [] := by
  cases op <;> simp only [step]
  case pick p =>
    split
    · exact map_ne_nil _ (map_ne_nil _ (findPiece_ne_nil legacy s p))
    · simp
  case pickweb k =>
    split
    · exact map_ne_nil _ (map_ne_nil _ (findRange_ne_nil s))
    · simp
  all_goals (repeat' split) <;> exact List.cons_ne_nil _ _

end Rain.Picker
