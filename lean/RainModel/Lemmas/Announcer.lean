import RainModel.Model.Announcer
/-! Invariants of the announcer event machine (`Model/Announcer`).  `Step` lists what one step can do,
one constructor per branch of `stepWith` that changes something; `Run` chains steps into a history.
Every fact is a case analysis of a `Step`, then an induction on a `Run`; `stepWith_cases` and
`runWith_run` say that the model's functions are a `Step` and a `Run`. -/
namespace Rain.Announcer

/-- `noop` stands for every guard that fails, so it carries no hypothesis. -/
inductive Step (store : Int → Int → Int) (c : Cfg) (s : St) (now : Int) : In → St × List Ann → Prop
  | noop (i : In) : Step store c s now i (s, [])
  | start (ca : Bool) (hr : s.running = false) (hc : s.closed = false) : Step store c s now (.start ca)
      ({ s with running := true, boCur := c.boInit,
                completedArmed := if ca then false else s.completedArmed,
                status := .contacting, lastAnnounce := now },
       [⟨.started, now, s.lastAnnounce, s.status, false⟩])
  | timerBusy (d : Int) (hr : s.running = true) (ht : s.timer = some d) (hd : d ≤ now)
      (hs : s.status = .contacting) : Step store c s now .timer ({ s with timer := none }, [])
  | timerFire (d : Int) (hr : s.running = true) (ht : s.timer = some d) (hd : d ≤ now)
      (hs : s.status ≠ .contacting) : Step store c s now .timer
      ({ s with timer := none, status := .contacting, lastAnnounce := now },
       [⟨.none, now, s.lastAnnounce, s.status, false⟩])
  | response (iv mi minI : Int) (hr : s.running = true)
      (hm : minI = if mi > 0 then mi else s.minInterval) : Step store c s now (.response iv mi)
      ({ s with status := .working, interval := store iv minI, minInterval := minI,
                hasAnnounced := true, boCur := c.boInit,
                timer := some (now + if s.needMore then minI else store iv minI) }, [])
  | errorRetry (r bo : Int) (hr : s.running = true) (h : 0 < r) : Step store c s now (.error r bo)
      ({ s with status := .notWorking, timer := some (now + r) }, [])
  | errorBackoff (r bo : Int) (hr : s.running = true) (h : r ≤ 0) : Step store c s now (.error r bo)
      ({ s with status := .notWorking, boCur := boNext c s.boCur, timer := some (now + bo) }, [])
  | setNeed (v : Bool) : Step store c s now (.setNeed v) ({ s with needMore := v }, [])
  | needSignal (hr : s.running = true) (hs : s.status ≠ .contacting) (hs' : s.status ≠ .notWorking) :
      Step store c s now .needSignal
      ({ s with timer := some (now + (s.lastAnnounce + getNextInterval s - now)) }, [])
  | completed (hr : s.running = true) (ha : s.completedArmed = true) : Step store c s now .completed
      ({ s with status := .contacting, lastAnnounce := now, completedArmed := false },
       [⟨.completed, now, s.lastAnnounce, s.status, s.status = .contacting⟩])
  | close (hr : s.running = true) : Step store c s now .close
      ({ s with running := false, closed := true }, [])

theorem stepWith_cases (store : Int → Int → Int) (c : Cfg) (s : St) (now : Int) (i : In) :
    Step store c s now i (stepWith store c s now i) := by
  cases i with
  | start ca =>
    simp only [stepWith]; split
    · exact .noop _
    · next h =>
      simp only [not_or, Bool.not_eq_true] at h
      exact .start ca h.1 h.2
  | timer =>
    simp only [stepWith]; split
    · exact .noop _
    · next h =>
      simp only [not_or, Decidable.not_not, timerDue] at h
      obtain ⟨hr, hd⟩ := h
      cases ht : s.timer with
      | none => simp [ht] at hd
      | some d =>
        simp only [ht, decide_eq_true_eq] at hd
        split
        · next hs => exact .timerBusy d hr ht hd hs
        · next hs => exact .timerFire d hr ht hd hs
  | response iv mi =>
    simp only [stepWith]; split
    · exact .noop _
    · next h => exact .response iv mi _ (Decidable.not_not.1 h) rfl
  | error r bo =>
    simp only [stepWith]; split
    · exact .noop _
    · next h =>
      split
      · next hr => exact .errorRetry r bo (Decidable.not_not.1 h) hr
      · next hr => exact .errorBackoff r bo (Decidable.not_not.1 h) (Int.not_lt.1 hr)
  | setNeed v => exact .setNeed v
  | needSignal =>
    simp only [stepWith]; split
    · exact .noop _
    · next h =>
      split
      · exact .noop _
      · next hs => exact .needSignal (Decidable.not_not.1 h) (fun x => hs (.inl x)) (fun x => hs (.inr x))
  | completed =>
    simp only [stepWith]; split
    · exact .noop _
    · next h =>
      simp only [not_or, Decidable.not_not] at h
      exact .completed h.1 h.2
  | close =>
    simp only [stepWith]; split
    · exact .noop _
    · next h => exact .close (Decidable.not_not.1 h)

variable {store : Int → Int → Int} {c : Cfg} {s : St} {now : Int} {i : In} {r : St × List Ann}

inductive Run (store : Int → Int → Int) (c : Cfg) : St → List (Int × In) → St × List Ann → Prop
  | nil (s : St) : Run store c s [] (s, [])
  | cons {s now i r rest q} (hc : Step store c s now i r) (h : Run store c r.1 rest q) :
      Run store c s ((now, i) :: rest) (q.1, r.2 ++ q.2)

theorem runWith_run (store : Int → Int → Int) (c : Cfg) (s : St) (tr : List (Int × In)) :
    Run store c s tr (runWith store c s tr) := by
  induction tr generalizing s with
  | nil => exact .nil s
  | cons p rest ih => exact .cons (stepWith_cases store c s p.1 p.2) (ih _)

variable {tr : List (Int × In)} {q : St × List Ann}

theorem Run.preserves {P : St → Prop} (hstep : ∀ {s now i r}, Step store c s now i r → P s → P r.1)
    (h : Run store c s tr q) (hs : P s) : P q.1 := by
  induction h with
  | nil => exact hs
  | cons hc _ ih => exact ih (hstep hc hs)

theorem Step.started (hc : Step store c s now i r) (h : s.running ∨ s.closed) :
    (r.1.running ∨ r.1.closed) ∧ ∀ a ∈ r.2, a.ev = .none ∨ a.ev = .completed := by
  cases hc <;> simp_all

theorem Step.fresh (hc : Step store c s now i r) (h : ¬ s.running ∧ ¬ s.closed) :
    (r.2 = [] ∧ ¬ r.1.running ∧ ¬ r.1.closed) ∨ ((∃ a, r.2 = [a] ∧ a.ev = .started) ∧ r.1.running) := by
  cases hc <;> simp_all

theorem Run.started (h : Run store c s tr q) (hs : s.running ∨ s.closed) :
    ∀ a ∈ q.2, a.ev = .none ∨ a.ev = .completed := by
  induction h with
  | nil => exact fun _ ha => nomatch ha
  | cons hc _ ih =>
    exact fun a ha => (List.mem_append.1 ha).elim ((hc.started hs).2 a) (ih (hc.started hs).1 a)

theorem Run.fresh (h : Run store c s tr q) (hs : ¬ s.running ∧ ¬ s.closed) :
    q.2 = [] ∨ ∃ a rest, q.2 = a :: rest ∧ a.ev = .started ∧ ∀ b ∈ rest, b.ev = .none ∨ b.ev = .completed := by
  induction h with
  | nil => exact .inl rfl
  | cons hc h ih =>
    rcases hc.fresh hs with ⟨h0, h1, h2⟩ | ⟨⟨a, ha, hev⟩, hrun⟩
    · simpa [h0] using ih ⟨h1, h2⟩
    · exact .inr ⟨a, _, by rw [ha]; rfl, hev, h.started (.inl hrun)⟩

def countC (l : List Ann) : Nat := (l.filter (fun a => a.ev = .completed)).length

theorem countC_append (a b : List Ann) : countC (a ++ b) = countC a + countC b := by
  simp [countC, List.filter_append]

/-- `completedArmed` (`a.completedC != nil`) is never re-armed and a `completed` announce disarms it;
only the input `completed` emits one. -/
theorem Step.completedOnce (hc : Step store c s now i r) :
    countC r.2 + (if r.1.completedArmed then 1 else 0) ≤ (if s.completedArmed then 1 else 0) ∧
    (i ≠ .completed → countC r.2 = 0) := by
  cases hc <;> simp_all [countC]
  split <;> simp_all

theorem Run.completedOnce (h : Run store c s tr q) : countC q.2 ≤ (if s.completedArmed then 1 else 0) := by
  induction h with
  | nil => exact Nat.zero_le _
  | cons hc _ ih =>
    have := hc.completedOnce.1
    rw [countC_append]
    omega

theorem Run.no_completed_input (h : Run store c s tr q) (hi : ∀ p ∈ tr, p.2 ≠ .completed) : countC q.2 = 0 := by
  induction h with
  | nil => rfl
  | cons hc _ ih =>
    rw [countC_append, hc.completedOnce.2 (hi _ List.mem_cons_self), ih fun p hp => hi p (List.mem_cons_of_mem _ hp)]

theorem Step.hasAnnounced (hc : Step store c s now i r) (h : r.1.hasAnnounced = true) :
    s.hasAnnounced = true ∨ ∃ iv mi, i = .response iv mi := by
  cases hc <;> simp_all

theorem Run.hasAnnounced (h : Run store c s tr q) (hq : q.1.hasAnnounced = true) :
    s.hasAnnounced = true ∨ ∃ p ∈ tr, ∃ iv mi, p.2 = .response iv mi := by
  induction h with
  | nil => exact .inl hq
  | cons hc _ ih =>
    rcases ih hq with h1 | ⟨p, hp, hx⟩
    · exact (hc.hasAnnounced h1).imp_right fun ⟨iv, mi, hi⟩ => ⟨(_, _), List.mem_cons_self, iv, mi, hi⟩
    · exact .inr ⟨p, List.mem_cons_of_mem _ hp, hx⟩

theorem FloorFor_tail (c : Cfg) (fl : Int) (p : Int × In) (rest : List (Int × In))
    (h : FloorFor c fl (p :: rest)) : FloorFor c fl rest := by
  obtain ⟨now, i⟩ := p
  cases i <;> simp only [FloorFor] at h <;> first | exact h | exact h.2.2

theorem FloorFor_clientMin (c : Cfg) (fl : Int) (tr : List (Int × In)) (h : FloorFor c fl tr) :
    fl ≤ c.clientMin := by
  induction tr with
  | nil => exact h
  | cons p rest ih => exact ih (FloorFor_tail c fl p rest h)

theorem le_clip {fl x f : Int} (h : fl ≤ if 0 < x ∧ x < f then x else f) : fl ≤ f ∧ (0 < x → fl ≤ x) := by
  split at h <;> omega

theorem FloorFor_of_le (c : Cfg) (fl : Int) (tr : List (Int × In)) (h : fl ≤ floorOf c tr) : FloorFor c fl tr := by
  induction tr with
  | nil => exact h
  | cons p rest ih =>
    obtain ⟨now, i⟩ := p
    cases i <;> simp only [FloorFor, floorOf] at h ⊢ <;> first | exact ih h | skip
    obtain ⟨h1, hmi⟩ := le_clip h
    obtain ⟨h2, hiv⟩ := le_clip h1
    exact ⟨hiv, hmi, ih h2⟩

theorem floorOf_FloorFor (c : Cfg) (tr : List (Int × In)) : FloorFor c (floorOf c tr) tr :=
  FloorFor_of_le c _ tr (Int.le_refl _)

theorem Step.timed (hc : Step store c s now i r) : ∀ a ∈ r.2, a.ev = .none →
    a.prevAt = s.lastAnnounce ∧ a.after = s.status ∧ ∃ d, s.timer = some d ∧ d ≤ a.time := by
  cases hc <;> simp_all

def FInv (fl T : Int) (s : St) : Prop :=
  fl ≤ s.minInterval ∧ s.lastAnnounce ≤ T ∧
  (s.status = .working → fl ≤ s.interval ∧ ∀ d, s.timer = some d → s.lastAnnounce + fl ≤ d)

theorem FInv_init (c : Cfg) (fl T : Int) (h : fl ≤ c.clientMin) (hT : 0 ≤ T) : FInv fl T (init c) := by
  refine ⟨h, hT, ?_⟩
  intro hs; simp [init] at hs

theorem Step.floor {fl T : Int} {rest : List (Int × In)} (hc : Step storeFixed c s now i r)
    (hT : T ≤ now) (hf : FloorFor c fl ((now, i) :: rest)) (hinv : FInv fl T s) : FInv fl now r.1 := by
  obtain ⟨h1, h2, h3⟩ := hinv
  have h2' : s.lastAnnounce ≤ now := Int.le_trans h2 hT
  unfold FInv
  cases hc <;> dsimp only
  case noop | setNeed | close => exact ⟨h1, h2', h3⟩
  case start | completed | timerFire => exact ⟨h1, Int.le_refl _, by simp⟩
  case timerBusy hs => exact ⟨h1, h2', by simp [hs]⟩
  case errorRetry | errorBackoff => exact ⟨h1, h2', by simp⟩
  case response iv mi minI _ hm =>
    obtain ⟨hiv, hmi, _⟩ := hf
    have hmin : fl ≤ minI := by
      rw [hm]; split
      · exact hmi ‹_›
      · exact h1
    have hst : fl ≤ storeFixed iv minI := by unfold storeFixed; split <;> omega
    refine ⟨hmin, h2', fun _ => ⟨hst, ?_⟩⟩
    simp only [Option.some.injEq, forall_eq']
    split <;> omega
  case needSignal hs hs' =>
    refine ⟨h1, h2', fun hw => ⟨(h3 hw).1, ?_⟩⟩
    have := (h3 hw).1
    simp only [Option.some.injEq, forall_eq', getNextInterval]
    split <;> omega

theorem Run.floor {fl T : Int} (h : Run storeFixed c s tr q)
    (hm : Mono T tr) (hf : FloorFor c fl tr) (hinv : FInv fl T s) :
    ∀ a ∈ q.2, a.ev = .none → a.after = .working → fl ≤ a.time - a.prevAt := by
  induction h generalizing T with
  | nil => exact fun _ ha => nomatch ha
  | cons hc _ ih =>
    intro a ha hev hw
    rcases List.mem_append.1 ha with ha | ha
    · obtain ⟨hp, hst, d, hd, hle⟩ := hc.timed a ha hev
      have := (hinv.2.2 (hst ▸ hw)).2 d hd
      omega
    · exact ih hm.2 (FloorFor_tail c fl _ _ hf) (hc.floor hm.1 hf hinv) a ha hev hw

/-- `prevAt` really is the time of the previous announce: outputs are chained through
`lastAnnounce`. -/
theorem Step.chain (hc : Step store c s now i r) :
    (r.2 = [] ∧ r.1.lastAnnounce = s.lastAnnounce) ∨
    (∃ a, r.2 = [a] ∧ a.prevAt = s.lastAnnounce ∧ a.time = now ∧ r.1.lastAnnounce = now) := by
  cases hc <;> simp

def Chained : Int → List Ann → Prop
  | _, [] => True
  | t, a :: rest => a.prevAt = t ∧ Chained a.time rest

theorem Run.chain (h : Run store c s tr q) : Chained s.lastAnnounce q.2 := by
  induction h with
  | nil => trivial
  | cons hc _ ih =>
    rcases hc.chain with ⟨h0, hl⟩ | ⟨a, ha, hp, ht, hl⟩
    · simpa [h0, hl] using ih
    · rw [ha]
      exact ⟨hp, by simpa [ht, hl] using ih⟩

/-- A running announcer either has an announce outstanding or a timer armed. -/
def NeverIdle (s : St) : Prop := s.running = true → s.status = .contacting ∨ s.timer.isSome = true

theorem Step.neverIdle (hc : Step store c s now i r) (h : NeverIdle s) : NeverIdle r.1 := by
  unfold NeverIdle at *
  cases hc <;> simp_all

/-- The back-off's current interval stays between `InitialInterval` and `MaxInterval`. -/
def BoInv (c : Cfg) (s : St) : Prop := s.running = true → c.boInit ≤ s.boCur ∧ s.boCur ≤ c.boMax

theorem boNext_bounds (c : Cfg) (cur : Int) (h0 : 0 < c.boInit) (h1 : c.boInit ≤ cur) (h2 : cur ≤ c.boMax) :
    c.boInit ≤ boNext c cur ∧ boNext c cur ≤ c.boMax := by
  unfold boNext; split <;> omega

theorem Step.boInv (hc : Step store c s now i r) (h0 : 0 < c.boInit) (hle : c.boInit ≤ c.boMax)
    (h : BoInv c s) : BoInv c r.1 := by
  unfold BoInv at *
  cases hc <;> simp_all
  exact boNext_bounds c s.boCur h0 h.1 h.2

/-- `rl` is a lower bound of every retry delay the history contains: the tracker's positive
`retry in`, else the back-off value that was drawn. -/
def RetryFor (rl : Int) : List (Int × In) → Prop
  | [] => True
  | (_, .error r bo) :: rest => (0 < r → rl ≤ r) ∧ (r ≤ 0 → rl ≤ bo) ∧ RetryFor rl rest
  | _ :: rest => RetryFor rl rest

theorem RetryFor_tail (rl : Int) (p : Int × In) (rest : List (Int × In))
    (h : RetryFor rl (p :: rest)) : RetryFor rl rest := by
  obtain ⟨now, i⟩ := p
  cases i <;> simp only [RetryFor] at h <;> first | exact h | exact h.2.2

def RInv (rl T : Int) (s : St) : Prop :=
  s.lastAnnounce ≤ T ∧ (s.status = .notWorking → ∀ d, s.timer = some d → s.lastAnnounce + rl ≤ d)

theorem Step.retry {rl T : Int} {rest : List (Int × In)} (hc : Step store c s now i r)
    (hT : T ≤ now) (hf : RetryFor rl ((now, i) :: rest)) (hinv : RInv rl T s) : RInv rl now r.1 := by
  obtain ⟨h2, h3⟩ := hinv
  have h2' : s.lastAnnounce ≤ now := Int.le_trans h2 hT
  unfold RInv
  cases hc <;> dsimp only
  case noop | setNeed | close => exact ⟨h2', h3⟩
  case start | completed | timerFire => exact ⟨Int.le_refl _, by simp⟩
  case timerBusy | response => exact ⟨h2', by simp⟩
  case needSignal hs' => exact ⟨h2', fun hw => absurd hw hs'⟩
  case errorRetry r bo _ hr | errorBackoff r bo _ hr =>
    obtain ⟨hf1, hf2, _⟩ := hf
    refine ⟨h2', fun _ => ?_⟩
    simp only [Option.some.injEq, forall_eq']
    omega

theorem Run.retry {rl T : Int} (h : Run store c s tr q)
    (hm : Mono T tr) (hf : RetryFor rl tr) (hinv : RInv rl T s) :
    ∀ a ∈ q.2, a.ev = .none → a.after = .notWorking → rl ≤ a.time - a.prevAt := by
  induction h generalizing T with
  | nil => exact fun _ ha => nomatch ha
  | cons hc _ ih =>
    intro a ha hev hw
    rcases List.mem_append.1 ha with ha | ha
    · obtain ⟨hp, hst, d, hd, hle⟩ := hc.timed a ha hev
      have := hinv.2 (hst ▸ hw) d hd
      omega
    · exact ih hm.2 (RetryFor_tail rl _ _ hf) (hc.retry hm.1 hf hinv) a ha hev hw

end Rain.Announcer
