import RainModel.Lemmas.LoopInv
import RainModel.Lemmas.LoopShrink
/-!
What `stop` does to the request and to the record (`stop_record`), what the completion check does to the flags
(`checkCompletion_flags`); then the pending verification request and the resume record relative to the bitfield, handler by handler (`PAdv`):
nothing but the verify command raises `doVerify`, and while it is down the resume bitfield never claims a piece
the in-memory bitfield does not claim (`PBehind`; C05 across external deletions/restorations of files).  With a
verify pending this fails: `handleStopped` drops the bitfield and leaves the record.
-/
namespace Rain.Loop

/-! ### `stop` and `doVerify`: a stop caused by an error withdraws the request (fix C04-F8) -/

theorem stop_doVerify_eq (s : St) (e : Bool) :
    (s.stop e).doVerify = s.doVerify ∨ (e = true ∧ (s.stop e).doVerify = false) := by
  refine stop_cases (P := fun t => t.doVerify = s.doVerify ∨ (e = true ∧ t.doVerify = false)) s e (.inl rfl) fun _ => ?_
  rw [(stopRun_fields s e).doVerify]
  cases e <;> simp

theorem stop_false_doVerify (s : St) : (s.stop false).doVerify = s.doVerify := by
  rcases stop_doVerify_eq s false with h | h
  · exact h
  · cases h.1

theorem stop_doVerify_false (s : St) (e : Bool) (h : s.doVerify = false) : (s.stop e).doVerify = false := by
  rcases stop_doVerify_eq s e with h' | h'
  · rw [h', h]
  · exact h'.2

theorem getD_map_range (n : Nat) (g : Nat → Bool) (f : Nat) :
    ((List.range n).map g).getD f false = (decide (f < n) && g f) := by
  by_cases h : f < n
  · simp [List.getD, h]
  · simp [List.getD, h]

/-- The files after the allocator has opened `opened`, none of which was missing: none came into existence. -/
theorem no_new_file {n : Nat} {fe : List Bool} {opened : List Nat}
    (hany : opened.any (fun i => !(fe.getD i false)) = false) {f : Nat}
    (hf : ((List.range n).map fun i => fe.getD i false || opened.contains i).getD f false = true) :
    fe.getD f false = true := by
  rw [getD_map_range] at hf
  simp only [Bool.and_eq_true, decide_eq_true_eq, Bool.or_eq_true] at hf
  rcases hf.2 with h | h
  · exact h
  · simp only [List.any_eq_false, Bool.not_eq_true] at hany
    have := hany f (by simpa using h)
    simpa using this

theorem writeBitfield_persisted (s : St) :
    s.writeBitfield.persisted = s.persisted ∨ s.writeBitfield.persisted = s.bf := by
  unfold St.writeBitfield
  split
  · next b hb => right; simp [hb]
  · left; simp

/-- Second alternative: the dropped allocator had re-created a missing file. -/
theorem stopAlloc_record (s : St) :
    ((stopAlloc s).bf = s.bf ∧ (stopAlloc s).persisted = s.persisted ∧
      ∀ f, (stopAlloc s).fileExists.getD f false = true → s.fileExists.getD f false = true) ∨
    ((stopAlloc s).bf = none ∧
      ((stopAlloc s).persisted = none ∨ (s.bf = none ∧ (stopAlloc s).persisted = s.persisted))) := by
  unfold stopAlloc
  split
  · dsimp only
    cases hany : (allocOpened s).any (fun i => !(s.fileExists.getD i false))
    · exact Or.inl ⟨rfl, rfl, fun _ => no_new_file hany⟩
    · cases hb : s.bf
      · exact Or.inr ⟨rfl, Or.inr ⟨rfl, rfl⟩⟩
      · exact Or.inr ⟨rfl, Or.inl rfl⟩
  · exact Or.inl ⟨rfl, rfl, fun _ h => h⟩

theorem stop_record (s : St) (e : Bool) :
    ((s.stop e).bf = s.bf ∧ ((s.stop e).persisted = s.persisted ∨ (s.stop e).persisted = s.bf) ∧
      ∀ f, (s.stop e).fileExists.getD f false = true → s.fileExists.getD f false = true) ∨
    ((s.stop e).bf = none ∧ ((s.stop e).persisted = none ∨ (s.bf = none ∧ (s.stop e).persisted = s.persisted))) := by
  rw [stop_eq]
  split
  · exact Or.inl ⟨rfl, Or.inl rfl, fun _ h => h⟩
  · -- only `stopWB` and `stopAlloc` write `bf`, `persisted` or `fileExists`
    have hT := fun x => (stopVer_writes x).trans (stopFin_writes _)
    have hY := ((stopA_writes s e).trans (stopPeers_writes _)).trans (stopClear_writes _)
    generalize hy : stopClear (stopPeers (stopA s e)) = y at hY
    have hB : (stopWB y).bf = s.bf ∧ (stopWB y).fileExists = s.fileExists ∧
        ((stopWB y).persisted = s.persisted ∨ (stopWB y).persisted = s.bf) ∧
        (s.bf = none → (stopWB y).persisted = s.persisted) := by
      unfold stopWB
      split
      · next hs =>
        exact ⟨(writeBitfield_writes y).bf.trans hY.bf, (writeBitfield_writes y).fileExists.trans hY.fileExists,
          (writeBitfield_persisted y).imp (·.trans hY.persisted) (·.trans hY.bf),
          fun hn => by rw [hY.bf, hn] at hs; cases hs⟩
      · exact ⟨hY.bf, hY.fileExists, Or.inl hY.persisted, fun _ => hY.persisted⟩
    have hC := closeData_writes (stopWB y)
    unfold stopRun
    rw [hy, (hT _).bf, (hT _).persisted, (hT _).fileExists]
    rcases stopAlloc_record (stopWB y).closeData with ⟨h1, h2, h3⟩ | ⟨h1, h2⟩
    · exact Or.inl ⟨h1.trans (hC.bf.trans hB.1), by rw [h2, hC.persisted]; exact hB.2.2.1,
        fun f hf => hB.2.1 ▸ hC.fileExists ▸ h3 f hf⟩
    · refine Or.inr ⟨h1, h2.imp_right fun ⟨hn, hp⟩ => ?_⟩
      have hn' : s.bf = none := (hC.bf.trans hB.1).symm.trans hn
      exact ⟨hn', hp.trans (hC.persisted.trans (hB.2.2.2 hn'))⟩

theorem stop_bf (s : St) (e : Bool) : (s.stop e).bf = s.bf ∨ (s.stop e).bf = none :=
  (stop_record s e).elim (fun h => .inl h.1) fun h => .inr h.1

theorem stop_persisted (s : St) (e : Bool) :
    (s.stop e).persisted = s.persisted ∨ (s.stop e).persisted = s.bf ∨ (s.stop e).persisted = none := by
  rcases stop_record s e with ⟨_, h | h, _⟩ | ⟨_, h | h⟩
  · exact .inl h
  · exact .inr (.inl h)
  · exact .inr (.inr h)
  · exact .inl h.2

structure PBehind (s : St) : Prop where
  dv : s.doVerify = false
  sub : ∀ i, bitOf s.persisted i = true → bitOf s.bf i = true

structure PAdv (s s' : St) : Prop where
  dv : s.doVerify = false → s'.doVerify = false
  sub : PBehind s → ∀ i, bitOf s'.persisted i = true → bitOf s'.bf i = true

theorem PBehind.adv {s s' : St} (h : PBehind s) (a : PAdv s s') : PBehind s' := ⟨a.dv h.dv, a.sub h⟩

theorem PAdv.refl (s : St) : PAdv s s := ⟨id, PBehind.sub⟩

theorem PAdv.trans {a b c : St} (h1 : PAdv a b) (h2 : PAdv b c) : PAdv a c :=
  ⟨fun h => h2.dv (h1.dv h), fun h => h2.sub (h.adv h1)⟩

theorem PAdv.grow {s s' : St} (hd : s'.doVerify = s.doVerify)
    (hb : ∀ i, bitOf s.bf i = true → bitOf s'.bf i = true) (hp : s'.persisted = s.persisted) : PAdv s s' :=
  ⟨hd.trans, fun h i hi => hb i (h.sub i (hp ▸ hi))⟩

theorem PAdv.of_eq {s s' : St} (hd : s'.doVerify = s.doVerify) (hb : s'.bf = s.bf)
    (hp : s'.persisted = s.persisted) : PAdv s s' :=
  .grow hd (fun _ hi => hb ▸ hi) hp

theorem PAdv.written {s s' : St} (hd : s'.doVerify = s.doVerify) (hp : s'.persisted = s'.bf) : PAdv s s' :=
  ⟨hd.trans, fun _ _ hi => hp ▸ hi⟩

theorem PAdv.forgot {s s' : St} (hd : s'.doVerify = s.doVerify) (hp : s'.persisted = none) : PAdv s s' :=
  ⟨hd.trans, fun _ i hi => by rw [hp] at hi; cases hi⟩

theorem PBehind.written {s s' : St} (h : PBehind s) (hd : s'.doVerify = s.doVerify) (hp : s'.persisted = s'.bf) :
    PBehind s' :=
  h.adv (.written hd hp)

theorem PAdv.of_writes {w : List Fld} {s s' : St} (hW : Writes w s s')
    (hd : Fld.doVerify ∉ w := by decide) (hb : Fld.bf ∉ w := by decide) (hp : Fld.persisted ∉ w := by decide) :
    PAdv s s' :=
  .of_eq (hW.doVerify hd) (hW.bf hb) (hW.persisted hp)

theorem PAdv.withdraw (s : St) : PAdv s { s with doVerify := false } := ⟨fun _ => rfl, PBehind.sub⟩

theorem writeBitfield_pb (s : St) : PAdv s s.writeBitfield := by
  unfold St.writeBitfield
  split
  · next b hb => exact .written rfl (by simp [hb])
  · exact .of_eq (by simp) (by simp) (by simp)

theorem stop_pb (s : St) (e : Bool) : PAdv s (s.stop e) := by
  refine ⟨stop_doVerify_false s e, fun h i hi => ?_⟩
  rcases stop_record s e with ⟨h1, h2 | h2, _⟩ | ⟨_, h2 | ⟨hn, h2⟩⟩
  · rw [h1]; exact h.sub i (h2 ▸ hi)
  · rw [h1]; exact h2 ▸ hi
  · rw [h2] at hi; cases hi
  · have := h.sub i (h2 ▸ hi)
    rw [hn] at this; cases this

theorem bitOf_foldl_setAt (idx : List Nat) (b : List Bool) (i : Nat) (h : b.getD i false = true) :
    (idx.foldl (fun d i => setAt d i true) b).getD i false = true := by
  refine foldl_inv (·.getD i false = true) _ (fun d a hd => ?_) idx b h
  rw [getD_setAt]
  split
  · rfl
  · exact hd

theorem markPaddingPieces_pb (s : St) : PAdv s s.markPaddingPieces := by
  unfold St.markPaddingPieces
  split
  · exact .refl _
  · next b hb =>
    refine .grow rfl (fun i hi => ?_) rfl
    rw [hb] at hi
    simp only [bitOf_some] at hi ⊢
    exact bitOf_foldl_setAt _ b i hi

theorem checkCompletion_flags (s : St) :
    (s.checkCompletion.1.completed = s.completed ∧ s.checkCompletion.1.completeCClosed = s.completeCClosed) ∨
    (s.checkCompletion.1.completed = true ∧ s.checkCompletion.1.completeCClosed = true ∧
      ∃ b, s.bf = some b ∧ allTrue b = true) := by
  let Q : St × Bool → Prop := fun x =>
    (x.1.completed = s.completed ∧ x.1.completeCClosed = s.completeCClosed) ∨
    (x.1.completed = true ∧ x.1.completeCClosed = true ∧ ∃ b, s.bf = some b ∧ allTrue b = true)
  unfold St.checkCompletion
  refine ite_ind (P := Q) (fun _ => Or.inl ⟨rfl, rfl⟩) fun _ => ?_
  cases hb : s.bf with
  | none => exact Or.inl ⟨(crash_writes ..).completed, (crash_writes ..).completeCClosed⟩
  | some b =>
    -- closing peers and downloads keeps the flags
    have hW (t : St) : Writes [.peers, .dls, .idls, .mayStartI, .unchoked, .optimistic, .mayStart, .closedDl] t
        ((t.peers.foldl (fun s p => if !p.peerInterested then s.closePeer p.k else s) t).dls.foldl (fun s d => s.closeDl d.k)
          (t.peers.foldl (fun s p => if !p.peerInterested then s.closePeer p.k else s) t)) := .intro (by frame)
    exact ite_ind (P := Q) (fun _ => Or.inl ⟨rfl, rfl⟩) fun (hat : ¬(!allTrue b) = true) =>
      Or.inr ⟨(hW _).completed, (hW _).completeCClosed, b, hb, by simpa using hat⟩

theorem checkCompletion_pb (s : St) : PAdv s s.checkCompletion.1 := .of_writes (checkCompletion_writes s)

theorem hadCheck_pb (m : M) : PAdv m.1 (hadCheck m).1 :=
  hadCheck_cases (P := fun x => PAdv m.1 x.1) m (fun _ => onSt_stop _ _ _ ((checkCompletion_pb _).trans (stop_pb _ _)))
    ((checkCompletion_pb _).trans (.of_writes (hadReady_writes _)))

/-- A fresh (all-false) bitfield is installed only when there was none: the record then has no bit. -/
theorem hadFreshInstall_pb (m : M) (hb : m.1.bf = none) : PAdv m.1 (hadFreshInstall m).1 := by
  unfold hadFreshInstall
  simp only [onSt_fst]
  have a : PAdv m.1 { m.1 with bf := some (List.replicate m.1.n false) } :=
    ⟨id, fun h i hi => by have := h.sub i hi; rw [hb] at this; cases this⟩
  exact (a.trans (.of_writes (resetCompletion_writes _))).trans (markPaddingPieces_pb _)

theorem hadFresh_pb (m : M) (hb : m.1.bf = none) : PAdv m.1 (hadFresh m).1 :=
  (hadFreshInstall_pb m hb).trans (hadFresh_cases (P := fun x => PAdv (hadFreshInstall m).1 x.1) m
    (fun _ => onSt_stop _ _ _ ((PAdv.withdraw _).trans (stop_pb _ _))) fun _ => hadCheck_pb _)

theorem hadTrust_pb (m : M) (b : List Bool) : PAdv m.1 (hadTrust m b).1 := by
  unfold hadTrust
  refine .trans ?_ (hadCheck_pb _)
  simp only [onSt_fst]
  exact (PAdv.of_eq rfl rfl rfl : PAdv m.1 { m.1 with done := b }).trans (markPaddingPieces_pb _)

theorem hadForget_pb (m : M) (mi : Bool) : PAdv m.1 (hadForget m mi).1 := by
  unfold hadForget
  simp only [onSt_fst]
  split
  · exact .forgot rfl rfl
  · exact .refl _

theorem handleAllocationDone_pb (m : M) (ex mi : Bool) : PAdv m.1 (handleAllocationDone m ex mi).1 :=
  ((PAdv.of_writes (hadInstall_writes m)).trans (hadForget_pb _ mi)).trans
    (handleAllocationDone_cases (P := fun x => PAdv (hadForget (hadInstall m) mi).1 x.1) m ex mi
      (fun _ _ _ => hadTrust_pb _ _) (fun hb _ => hadFresh_pb _ hb) fun _ _ => .of_eq rfl rfl rfl)

theorem allocatorRun_pb (m : M) : PAdv m.1 (allocatorRun m).1 := by
  refine allocatorRun_cases (P := fun x => PAdv m.1 x.1) m (fun _ => ?_)
    fun _ => (PAdv.of_writes (allocOkOpen_writes m)).trans (handleAllocationDone_pb _ _ _)
  unfold allocFail
  simp only [onSt_fst]
  exact ((PAdv.of_writes (allocFailOpen_writes m)).trans (hadForget_pb _ _)).trans (stop_pb _ _)

theorem hvdInstall_pb (m : M) : PAdv m.1 (hvdInstall m).1 := by
  rw [hvdInstall_eq]
  have h1 : PAdv m.1 (hvdPre m).1 :=
    .written (hvdPre_writes m).doVerify ((hvdPre_record m).2.trans (hvdPre_record m).1.symm)
  simp only [onSt_fst]
  split
  · exact h1.trans (.of_writes (resetCompletion_writes _))
  · exact h1

theorem handleVerificationDone_pb (m : M) : PAdv m.1 (handleVerificationDone m).1 :=
  (hvdInstall_pb m).trans (handleVerificationDone_cases (P := fun x => PAdv (hvdInstall m).1 x.1) m
    (fun _ => onSt_stop _ _ _ ((PAdv.withdraw _).trans (stop_pb _ _)))
    fun _ => (PAdv.of_writes (hvdHaves_writes _)).trans (hadCheck_pb _))

theorem pwdFinish_pb (m : M) : PAdv m.1 (pwdFinish m).1 := by
  have h1 := checkCompletion_pb m.1
  have h2 := h1.trans (writeBitfield_pb _)
  refine pwdFinish_cases (P := fun x => PAdv m.1 x.1) m (fun _ => h1) (fun _ => h2) fun _ => ?_
  simp only [onSt_fst]; exact h2.trans (stop_pb _ _)

theorem pwdSet_bf (m : M) (w : WriteJob) (b : List Bool) : (pwdSet m w b).1.bf = some (setAt b w.piece true) := by
  unfold pwdSet; dsimp only; split <;> rfl

theorem pwdOk_pb (m : M) (w : WriteJob) (b : List Bool) (hb : m.1.bf = some b) : PAdv m.1 (pwdOk m w b).1 := by
  have hW := pwdSet_writes m w b
  have h2 : PAdv m.1 (pwdSet m w b).1 := by
    refine .grow hW.doVerify (fun i hi => ?_) hW.persisted
    rw [hb] at hi
    rw [pwdSet_bf, bitOf_some, getD_setAt]
    split
    · rfl
    · exact hi
  exact ((h2.trans (.of_writes (pwdOthers_writes _ w))).trans (.of_writes (pwdHaves_writes _ w))).trans (pwdFinish_pb _)

theorem handlePieceWriteDone_pb (m : M) (w : WriteJob) (e : Bool) : PAdv m.1 (handlePieceWriteDone m w e).1 :=
  have h0 : PAdv m.1 (pwdReset m w).1 := .of_writes (pwdReset_writes m w)
  have hW := (pwdReset_writes m w).trans (pwdDone_writes _ w)
  have h1 : PAdv m.1 (pwdDone (pwdReset m w) w).1 := .of_writes hW
  handlePieceWriteDone_cases (P := fun x => PAdv m.1 x.1) m w e (fun _ => h0.trans (.of_writes (pwdBan_writes _ w)))
    (fun _ _ => h0) (fun _ _ _ _ => onSt_stop _ _ _ (h0.trans (stop_pb _ _)))
    (fun _ _ _ _ _ => h1.trans (.of_writes (crash_writes _ _)))
    fun b _ _ _ _ hb => h1.trans (pwdOk_pb _ w b (hW.bf.trans hb))

theorem writerRun_pb (m : M) (w : WriteJob) : PAdv m.1 (writerRun m w).1 :=
  writerRun_job (P := fun x => PAdv m.1 x.1) m w
    (fun sto bad _ _ _ => (show PAdv m.1 ({ m.1 with sto := sto, bad := bad } : St) from .of_eq rfl rfl rfl).trans
      (handlePieceWriteDone_pb (_, m.2) _ _)) fun _ _ => .of_eq rfl rfl rfl

/-- With no verify pending `handleStopped` does not touch the bitfield. -/
theorem handleStopped_pb (m : M) : PAdv m.1 (handleStopped m).1 := by
  cases hd : m.1.doVerify
  · unfold handleStopped
    dsimp only
    rw [if_neg (by simp [hd])]
    exact .of_eq rfl rfl rfl
  · exact ⟨fun h => Bool.noConfusion (hd.symm.trans h), fun h => Bool.noConfusion (hd.symm.trans h.dv)⟩

theorem start_pb (m : M) : PAdv m.1 (start m).1 :=
  start_inv (P := PAdv m.1) m (.refl _)
    (fun _ => (show PAdv m.1 ({ m.1 with stopHang := false } : St) from .of_eq rfl rfl rfl).trans (handleStopped_pb (_, m.2)))
    fun x h _ => h.trans (.of_writes (startCore_writes x))

theorem runWorkers_pb (fuel : Nat) (m : M) : PAdv m.1 (runWorkers fuel m).1 :=
  runWorkers_inv (P := fun x => PAdv m.1 x.1) (fun x _ _ a => a.trans (handleStopped_pb x))
    (fun x _ a => a.trans (allocatorRun_pb x)) (fun x _ a => a.trans (handleVerificationDone_pb x))
    (fun x j _ _ a => a.trans (handlePieceWriteDone_pb x j false)) (fun x j _ a => a.trans (writerRun_pb x j)) fuel m
    (.refl _)

theorem handlePieceMessage_pb (m : M) (k i b l : Nat) (g : Bool) : PAdv m.1 (handlePieceMessage m k i b l g).1 :=
  .of_writes (handlePieceMessage_writes m k i b l g)

theorem hmdStart_pb (m : M) : PAdv m.1 (hmdStart m).1 :=
  hmdStart_cases (P := fun x => PAdv m.1 x.1) m (fun _ => onSt_stop _ _ _ (stop_pb _ _))
    fun _ => .of_writes (hmdStart_alloc_writes m)

theorem hmdAdopt_pb (m : M) : PAdv m.1 (hmdAdopt m).1 :=
  have h0 : PAdv m.1 { m.1 with idls := [] } := .of_eq rfl rfl rfl
  hmdAdopt_cases (P := fun x => PAdv m.1 x.1) m (fun _ => onSt_stop _ _ _ (h0.trans (stop_pb _ _)))
    fun _ _ => .trans (b := { m.1 with idls := [], info := true, metaDone := true }) (.of_eq rfl rfl rfl) (hmdStart_pb (_, m.2))

theorem handleMetadataData_pb (m : M) (k i len : Nat) (g : Bool) : PAdv m.1 (handleMetadataData m k i len g).1 :=
  handleMetadataData_ind (PAdv m.1) m k i len g (fun _ hW => .of_writes hW)
    fun _ hW => (PAdv.of_writes hW).trans (hmdAdopt_pb _)

theorem hadCheck_doVerify_false (m : M) (h : m.1.doVerify = false) : (hadCheck m).1.doVerify = false :=
  (hadCheck_pb m).dv h

theorem hmdAdopt_doVerify_false (m : M) (h : m.1.doVerify = false) : (hmdAdopt m).1.doVerify = false :=
  (hmdAdopt_pb m).dv h

theorem handleMetadataData_doVerify_false (m : M) (k i len : Nat) (g : Bool) (h : m.1.doVerify = false) :
    (handleMetadataData m k i len g).1.doVerify = false := (handleMetadataData_pb m k i len g).dv h

/-- The two forms of the verify command (`verifyHeld`: the harness leaves the storage gates alone). -/
def Op.isVerify : Op → Bool
  | .verify => true
  | .verifyHeld => true
  | _ => false

theorem handle_pb (s : St) (p : Parked) (kn : Nat → Bool) (op : Op) (hop : op.isVerify = false) :
    PAdv s (handle s p kn op).1.1 :=
  handle_ind (P := PAdv s) s p kn op
    (fun _ _ _ _ _ _ _ _ _ _ hpe ht => ht.trans (hpe.elim (fun e => .of_eq rfl rfl e) fun e => .written rfl e))
    (.refl s) (start_pb (s, [])) ((PAdv.withdraw s).trans (stop_pb _ false))
    (fun e => by rcases e with e | e <;> rw [e] at hop <;> cases hop)
    (fun f how _ _ _ => .of_writes (mutate_writes s f how)) (fun _ hW _ => .of_writes hW) (fun _ hW => .of_writes hW)
    (fun k i b l g _ _ => handlePieceMessage_pb (s, []) k i b l g) fun k i len g _ _ => handleMetadataData_pb (s, []) k i len g

theorem step_pb (s : St) (p : Parked) (kn : Nat → Bool) (op : Op) (hop : op.isVerify = false) :
    PAdv s (step s p kn op).1.st :=
  have a0 : PAdv s s.opStart := .of_eq rfl rfl rfl
  step_inv s p kn op (a0.trans (handle_pb _ p kn op hop)) (fun m a => a.trans (runWorkers_pb 12 m))
    fun m k i b l g a _ => a.trans (handlePieceMessage_pb m k i b l g)

theorem dstep_pb (sp : St × Parked) (e : Ev) (hop : e.op.isVerify = false) : PAdv sp.1 (dstep sp e).1 := by
  unfold dstep
  exact ((step_pb sp.1 sp.2 e.known e.op hop).trans (.of_writes (reconcile_writes _ _))).trans
    (.of_writes (reconcileIdl_writes _ _))

theorem drun_pb (evs : List Ev) (sp : St × Parked) (hop : ∀ e ∈ evs, e.op.isVerify = false) (h : PBehind sp.1) :
    PBehind (drun sp evs).1 :=
  foldl_inv_mem (fun sp => PBehind sp.1) evs dstep (fun sp e he h => h.adv (dstep_pb sp e (hop e he))) sp h

end Rain.Loop
