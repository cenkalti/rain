import RainModel.Model.LoopStep
/-!
Invariants of M-LOOP (definitions) and the driver-level step.
-/
namespace Rain.Loop

def bitOf (b : Option (List Bool)) (i : Nat) : Bool :=
  match b with
  | some l => l.getD i false
  | none => false

@[simp] theorem bitOf_none (i : Nat) : bitOf none i = false := rfl
@[simp] theorem bitOf_some (l : List Bool) (i : Nat) : bitOf (some l) i = l.getD i false := rfl

/-- **The** soundness statement of C01/C05: a set bit means verified bytes on disk. -/
def BitsSound (s : St) : Prop :=
  ∀ i, (∃ b, s.bf = some b ∧ b.getD i false = true) → s.diskOKi i = true

theorem bitsSound_iff (s : St) : BitsSound s ↔ ∀ i, bitOf s.bf i = true → s.diskOKi i = true := by
  unfold BitsSound
  constructor
  · intro h i hb
    cases hbf : s.bf with
    | none => simp [hbf] at hb
    | some b => exact h i ⟨b, hbf, by simpa [hbf] using hb⟩
  · rintro h i ⟨b, hb, hi⟩
    exact h i (by simpa [hb] using hi)

/-- The resume bitfield names only pieces whose bytes are on disk. -/
def PersistedSound (s : St) : Prop := ∀ i, bitOf s.persisted i = true → s.diskOKi i = true

/-- A section that holds torrent data on disk (not padding, not empty). -/
def Cfg.isData (c : Cfg) (sc : Sect) : Bool := !(c.fpads.getD sc.file false) && decide (sc.len > 0)

/-- `bad` only ever names (piece, file) pairs of real data sections. -/
def BadWF (s : St) : Prop :=
  ∀ x ∈ s.bad, ∃ sc ∈ s.cfg.sections x.1, sc.file = x.2 ∧ s.cfg.isData sc = true

/-- Well-formedness of the configuration: a piece without blocks has no data section (what `calcBlocks`
guarantees for the block lists the driver computes: blocks cover exactly the non-padding bytes). -/
def CfgWF (c : Cfg) : Prop :=
  ∀ i, (c.blocks.getD i []).isEmpty = true → ∀ sc ∈ c.sections i, c.isData sc = false

theorem diskOKi_eq_true (s : St) (i : Nat) :
    s.diskOKi i = true ↔ (∀ x ∈ s.bad, x.1 ≠ i) ∧ s.cfg.padOK i = true := by
  simp [St.diskOKi]

/-- A piece whose recorded hash is wrong is never "verified on disk". -/
theorem padOK_of_diskOKi {s : St} {i : Nat} (h : s.diskOKi i = true) : s.cfg.padOK i = true :=
  ((diskOKi_eq_true s i).1 h).2

/-- A piece that has a section in a stored file has the right recorded hash (`padHashOK` only speaks
about padding-only pieces). -/
theorem padOK_of_stored {c : Cfg} {i : Nat}
    (h : ((c.sections i).filter fun sc => !(c.fpads.getD sc.file false)) ≠ []) : c.padOK i = true := by
  unfold Cfg.padOK Cfg.padOnly
  have : ((c.sections i).filter fun sc => !(c.fpads.getD sc.file false)).isEmpty = false := by
    cases hl : (c.sections i).filter fun sc => !(c.fpads.getD sc.file false) with
    | nil => exact absurd hl h
    | cons _ _ => rfl
  rw [this]
  simp

theorem diskOKi_of_no_data (s : St) (h : BadWF s) (i : Nat)
    (hno : ∀ sc ∈ s.cfg.sections i, s.cfg.isData sc = false) (hp : s.cfg.padOK i = true) : s.diskOKi i = true := by
  rw [diskOKi_eq_true]
  refine ⟨?_, hp⟩
  intro x hx hxi
  obtain ⟨sc, hsc, _, hd⟩ := h x hx
  rw [hxi] at hsc
  rw [hno sc hsc] at hd
  cases hd

/-- A piece with no stored section has no data: each of its sections lies in a padding file. -/
theorem diskOKi_of_no_stored (s : St) (h : BadWF s) (i : Nat)
    (hs : ((s.cfg.sections i).filter fun sc => !(s.cfg.fpads.getD sc.file false)) = []) (hp : s.cfg.padOK i = true) :
    s.diskOKi i = true :=
  diskOKi_of_no_data s h i (fun sc hsc => by
    have := List.filter_eq_nil_iff.1 hs sc hsc
    rw [Bool.not_eq_true, Bool.not_eq_false'] at this
    rw [Cfg.isData, this]; rfl) hp

theorem diskOK_getD (s : St) (i : Nat) : s.diskOK.getD i false = true ↔ i < s.n ∧ s.diskOKi i = true := by
  unfold St.diskOK
  by_cases h : i < s.n
  · simp [List.getD, h]
  · simp [List.getD, h]

@[simp] theorem getElem?_getD_replicate_false (n i : Nat) : (List.replicate n false)[i]?.getD false = false := by
  simp only [List.getElem?_replicate]
  split <;> rfl

theorem getD_replicate_false (n i : Nat) : (List.replicate n false).getD i false = false := by
  simp


theorem getD_setAt (l : List Bool) (i j : Nat) (v : Bool) :
    (setAt l i v).getD j false = if j = i ∧ j < l.length then v else l.getD j false := by
  unfold setAt
  simp only [List.getD_eq_getElem?_getD, List.getElem?_set]
  by_cases hji : i = j
  · subst hji
    by_cases hl : i < l.length
    · simp [hl]
    · simp [hl]
  · have : ¬ j = i := fun h => hji h.symm
    simp [hji, this]

theorem getD_foldl_setAt_true (idx : List Nat) (l : List Bool) (j : Nat) :
    (idx.foldl (fun d i => setAt d i true) l).getD j false = true →
      l.getD j false = true ∨ j ∈ idx := by
  induction idx generalizing l with
  | nil => intro h; exact Or.inl h
  | cons a idx ih =>
    intro h
    rcases ih _ h with h | h
    · rw [getD_setAt] at h
      by_cases hja : j = a ∧ j < l.length
      · exact Or.inr (by simp [hja.1])
      · rw [if_neg hja] at h; exact Or.inl h
    · exact Or.inr (List.mem_cons_of_mem _ h)

/-- One event as the driver sees it: the op, which scripted peers exist, and the implementation's
choice of piece downloads and metadata downloads after the op. -/
structure Ev where
  op : Op
  known : Nat → Bool
  impl : List ImplDl
  implI : List Nat

/-- `stepDriver` (Driver/Suites/Loop.lean) without the parsing: step, reconcile, reconcileIdl. -/
def dstep (sp : St × Parked) (e : Ev) : St × Parked :=
  let (r, parked) := step sp.1 sp.2 e.known e.op
  ((reconcileIdl (reconcile r.st e.impl).1 e.implI).1, parked)

def drun (sp : St × Parked) (evs : List Ev) : St × Parked := evs.foldl dstep sp

def Op.isMutate : Op → Bool
  | .mutate _ _ => true
  | _ => false

end Rain.Loop
