import RainModel.Lemmas.LoopWInvStep
import RainModel.Lemmas.LoopCfg
/-!
Decidability of the hypotheses of `no_panic` (so that concrete runs are checked by `decide`), and a decidable
sufficient condition for `CfgWF`.
-/
namespace Rain.Loop

instance (sp : St × Parked) (e : Ev) : Decidable (e.admissible sp) :=
  inferInstanceAs (Decidable ((reconcile (step sp.1 sp.2 e.known e.op).1.st e.impl).2 = []))

instance (sp : St × Parked) (e : Ev) : Decidable (e.admissibleI sp) :=
  inferInstanceAs (Decidable
    ((reconcileIdl (reconcile (step sp.1 sp.2 e.known e.op).1.st e.impl).1 e.implI).2 = []))

instance drunAdmissible.dec : (evs : List Ev) → (sp : St × Parked) → Decidable (drunAdmissible sp evs)
  | [], _ => isTrue True.intro
  | e :: evs, sp =>
    @instDecidableAnd _ _ (inferInstanceAs (Decidable (e.admissible sp))) (drunAdmissible.dec evs (dstep sp e))

instance drunAdmissibleI.dec : (evs : List Ev) → (sp : St × Parked) → Decidable (drunAdmissibleI sp evs)
  | [], _ => isTrue True.intro
  | e :: evs, sp =>
    @instDecidableAnd _ _ (inferInstanceAs (Decidable (e.admissibleI sp))) (drunAdmissibleI.dec evs (dstep sp e))

/-- `CfgWF`, checked piece by piece. -/
def Cfg.wfCheck (c : Cfg) : Bool :=
  (List.range c.n).all fun i =>
    !(c.blocks.getD i []).isEmpty || (c.sections i).all fun sc => !(c.isData sc)

theorem cfgWF_of_check (c : Cfg) (h : c.wfCheck = true) : CfgWF c := by
  intro i hb sc hsc
  by_cases hi : i < c.n
  · unfold Cfg.wfCheck at h
    rw [List.all_eq_true] at h
    have := h i (List.mem_range.2 hi)
    rw [hb, Bool.not_true, Bool.false_or, List.all_eq_true] at this
    simpa using this sc hsc
  · rw [sections_of_ge c i (Nat.le_of_not_lt hi)] at hsc
    cases hsc

end Rain.Loop
