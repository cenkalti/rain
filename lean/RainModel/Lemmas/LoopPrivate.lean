import RainModel.Lemmas.LoopHmd
import RainModel.Lemmas.LoopIdl
import RainModel.Lemmas.LoopWeak
/-!
C19, run level: "PEX runs towards no connected peer" (`NoPexL s.peers`) survives whatever only closes peers and
updates them in place (`Shrinks`), hence every function of M-LOOP except the two that do more: the admission of a
peer, which connects it without PEX, and the extension handshake, which starts PEX unless the torrent is private.
Then: an info dictionary that `parseInfo` refuses (over the piece limit, or private) is never
adopted (`handle_info_refused` … `drun_info_refused`), `info` only ever turns true, and a private torrent with
metadata dials nobody learnt from PEX or the DHT; together the invariants of `step` / `dstep` / `drun` for a
private torrent.
-/
namespace Rain.Loop

def NoPexL (l : List Peer) : Prop := ∀ p ∈ l, p.pexOn = false

theorem NoPexL.nil : NoPexL [] := fun _ h => nomatch h

@[simp] theorem NoPexL.filter {l : List Peer} (h : NoPexL l) (f : Peer → Bool) : NoPexL (l.filter f) :=
  fun p hp => h p (List.mem_filter.1 hp).1

theorem NoPexL.of_kept {l l' : List Peer} (h : NoPexL l) (hk : ∀ q ∈ l', ∃ p ∈ l, p.Kept q) : NoPexL l' :=
  fun q hq => let ⟨p, hp, e⟩ := hk q hq; e.pexOn.trans (h p hp)

theorem Shrinks.noPex {s s' : St} (a : Shrinks s s') (h : NoPexL s.peers) : NoPexL s'.peers := h.of_kept a.peers

/-- Closes a leaf `NoPexL (…).peers` from the hypothesis `h : NoPexL m.1.peers`. -/
macro "nopex_leaf" h:ident : tactic =>
  `(tactic| first | exact $h | (simp (maxDischargeDepth := 6) [$h:ident]; done))

/-- The extension handshake: the only place where PEX is started.  For a private torrent it is not
(whether or not the metadata is known yet), whatever the peer advertises and whatever `Config.PEXEnabled` says. -/
theorem handleExtHandshake_noPex (m : M) (k : Nat) (hasMeta : Bool) (size : Nat) (hasPex : Bool)
    (hp : m.1.cfg.isPrivate = true) (h : NoPexL m.1.peers) :
    NoPexL (handleExtHandshake m k hasMeta size hasPex).1.peers := by
  unfold handleExtHandshake
  split
  · exact h
  · refine ite_inv (Q := fun s => NoPexL s.peers) (f := fun x : M => x.1) h ?_
    dsimp only
    rw [hp, Bool.not_true, Bool.and_false]
    have hu : NoPexL (m.1.updPeer k fun p =>
        { p with extHS := true, extMeta := hasMeta, extSize := size, pexOn := false }).peers := by
      intro q hq
      obtain ⟨p, hp', rfl⟩ := List.mem_map.1 hq
      split
      · rfl
      · exact h p hp'
    exact ite_inv (Q := fun s => NoPexL s.peers) (f := fun x : M => x.1) hu hu

theorem acceptPeer_noPex (m : M) (k : Nat) (ip : String) (fast ext bad dup : Bool)
    (h : NoPexL m.1.peers) : NoPexL (acceptPeer m k ip fast ext bad dup).1.1.peers := by
  unfold acceptPeer
  iterate 5 refine ite_inv (Q := fun t => NoPexL t.peers) (f := fun x : M × String => x.1.1) h ?_
  refine foldl_inv (fun x : M => NoPexL x.1.peers) _ (fun x a hx => ?_) _ _ fun q hq => ?_
  · exact hx
  rcases List.mem_append.1 hq with hq | hq
  · exact h q hq
  · rw [List.mem_singleton.1 hq]

theorem handle_noPex (s : St) (p : Parked) (kn : Nat → Bool) (op : Op) (hp : s.cfg.isPrivate = true)
    (h : NoPexL s.peers) : NoPexL (handle s p kn op).1.1.peers :=
  handle_of_shrinks (P := fun t => NoPexL t.peers) Shrinks.noPex s p kn op h
    (fun k ip fast ext bad => acceptPeer_noPex (s, []) k ip fast ext bad false h)
    fun k hm sz hx => handleExtHandshake_noPex (s, []) k hm sz hx hp h

theorem step_noPex (s : St) (p : Parked) (kn : Nat → Bool) (op : Op) (hp : s.cfg.isPrivate = true)
    (h : NoPexL s.peers) : NoPexL (step s p kn op).1.st.peers :=
  step_of_shrinks (P := fun t => NoPexL t.peers) Shrinks.noPex s p kn op (handle_noPex _ p kn op hp h)

theorem dstep_noPex (sp : St × Parked) (e : Ev) (hp : sp.1.cfg.isPrivate = true) (h : NoPexL sp.1.peers) :
    NoPexL (dstep sp e).1.peers := by
  unfold dstep
  rw [reconcileIdl_peers]
  exact (step_noPex sp.1 sp.2 e.known e.op hp h).of_kept (reconcile_peers_kept _ _)

/-- What holds of `info` before an event, and after the metadata data message if the event is one, holds after the
handler. -/
theorem handle_info_inv {Q : Bool → Prop} (s : St) (p : Parked) (kn : Nat → Bool) (op : Op) (h0 : Q s.info)
    (hm : ∀ k i len good, op = .metadata k i len good → Q (handleMetadataData (s, []) k i len good).1.info) :
    Q (handle s p kn op).1.1.info := by
  have w {s' : St} (hi : s'.info = s.info) : Q s'.info := hi ▸ h0
  exact handle_ind (P := fun t => Q t.info) s p kn op (fun _ _ _ _ _ _ _ _ _ _ _ ht => ht) h0 (w (start_writes _).info)
    (w (stop_writes ..).info) (fun _ => w (handleVerifyCommand_writes _).info)
    (fun _ _ _ _ _ => w (mutate_writes ..).info) (fun _ hW _ => w hW.info) (fun _ hW => w hW.info)
    (fun _ _ _ _ _ _ _ => w (handlePieceMessage_writes ..).info) fun k i len g e _ => hm k i len g e

/-- For a torrent whose info dictionary `parseInfo` refuses (too many pieces, or private) no event changes whether
the metadata is known: what is known stays known (no op forgets it) and what is not known is never adopted. -/
theorem handle_info_refused (s : St) (p : Parked) (kn : Nat → Bool) (op : Op)
    (h : s.cfg.n > s.cfg.maxPieces ∨ s.cfg.isPrivate = true) : (handle s p kn op).1.1.info = s.info :=
  handle_info_inv (Q := (· = s.info)) s p kn op rfl fun _ _ _ _ _ => handleMetadataData_info_refused (s, []) _ _ _ _ h

theorem step_info (s : St) (p : Parked) (kn : Nat → Bool) (op : Op) :
    (step s p kn op).1.st.info =
      (handle s.opStart p kn op).1.1.info :=
  step_inv (P := fun t => t.info = _) s p kn op rfl
    (fun _ h => (runWorkers_writes ..).info.trans h) (fun _ _ _ _ _ _ h _ => (handlePieceMessage_writes ..).info.trans h)

theorem step_info_refused (s : St) (p : Parked) (kn : Nat → Bool) (op : Op)
    (h : s.cfg.n > s.cfg.maxPieces ∨ s.cfg.isPrivate = true) : (step s p kn op).1.st.info = s.info :=
  (step_info ..).trans (handle_info_refused _ p kn op h)

theorem dstep_info_refused (sp : St × Parked) (e : Ev) (h : sp.1.cfg.n > sp.1.cfg.maxPieces ∨ sp.1.cfg.isPrivate = true) :
    (dstep sp e).1.info = sp.1.info := by
  unfold dstep
  exact ((reconcileIdl_writes ..).info.trans (reconcile_writes ..).info).trans (step_info_refused sp.1 sp.2 e.known e.op h)

/-- A private torrent whose metadata is known ignores a PEX message (fix for finding C19-F1). -/
theorem handlePex_private (m : M) (added dropped : Bool) (hi : m.1.info = true) (hp : m.1.cfg.isPrivate = true) :
    handlePex m added dropped = m := by
  unfold handlePex
  simp [hi, hp]

/-- And a DHT result. -/
theorem handleDhtPeers_private (m : M) (nonEmpty : Bool) (hi : m.1.info = true) (hp : m.1.cfg.isPrivate = true) :
    handleDhtPeers m nonEmpty = m := by
  unfold handleDhtPeers
  simp [hi, hp]

/-- No handler dials an address learnt from PEX or the DHT for a private torrent whose metadata is known: the two
handlers that dial ignore the message, the others do not write `dials`. -/
theorem handle_dials_private (s : St) (p : Parked) (kn : Nat → Bool) (op : Op)
    (hi : s.info = true) (hp : s.cfg.isPrivate = true) : (handle s p kn op).1.1.dials = s.dials :=
  handle_arms (P := fun t => t.dials = s.dials) s p kn op (fun _ _ _ _ _ _ _ _ _ _ _ ht => ht) rfl
    (start_writes _).dials (stop_writes ..).dials (fun _ => (handleVerifyCommand_writes _).dials)
    (fun _ _ _ _ _ => (mutate_writes ..).dials) (fun _ _ _ _ _ _ => (acceptPeer_writes ..).dials)
    (fun _ _ _ _ _ _ _ => (handlePieceMessage_writes ..).dials) (fun _ _ _ _ => (handlePeerMessage_writes ..).dials)
    (fun _ _ _ _ _ => (handleExtHandshake_writes ..).dials) (fun _ _ _ _ _ _ => (handleMetadataData_writes ..).dials)
    (fun _ _ => (handleMetadataReject_writes ..).dials)
    (fun a d => congrArg (·.1.dials) (handlePex_private (s, []) a d hi hp))
    (fun ne => congrArg (·.1.dials) (handleDhtPeers_private (s, []) ne hi hp))
    (fun _ _ => (closePeer_writes ..).dials) fun _ _ => (handlePeerSnubbed_writes ..).dials

theorem step_dials_private (s : St) (p : Parked) (kn : Nat → Bool) (op : Op)
    (hi : s.info = true) (hp : s.cfg.isPrivate = true) : (step s p kn op).1.st.dials = s.dials :=
  step_inv (P := fun t => t.dials = s.dials) s p kn op (handle_dials_private _ p kn op hi hp)
    (fun _ h => (runWorkers_writes ..).dials.trans h) (fun _ _ _ _ _ _ h _ => (handlePieceMessage_writes ..).dials.trans h)

theorem dstep_dials_private (sp : St × Parked) (e : Ev) (hi : sp.1.info = true) (hp : sp.1.cfg.isPrivate = true) :
    (dstep sp e).1.dials = sp.1.dials := by
  unfold dstep
  exact ((reconcileIdl_writes ..).dials.trans (reconcile_writes ..).dials).trans
    (step_dials_private sp.1 sp.2 e.known e.op hi hp)

theorem handleMetadataData_info_mono (m : M) (k i len : Nat) (good : Bool) (h : m.1.info = true) :
    (handleMetadataData m k i len good).1.info = true := by
  rcases handleMetadataData_info_cases m k i len good with h' | ⟨d, hc⟩
  · rw [h', h]
  · rw [handleMetadataData_complete m d k i len good hc, hmdAdopt_info_eq]
    simp [hmdStored, h]

theorem handle_info_mono (s : St) (p : Parked) (kn : Nat → Bool) (op : Op) (h : s.info = true) :
    (handle s p kn op).1.1.info = true :=
  handle_info_inv (Q := (· = true)) s p kn op h fun _ _ _ _ _ => handleMetadataData_info_mono (s, []) _ _ _ _ h

/-- No event makes the torrent forget its metadata (private or not). -/
theorem step_info_mono (s : St) (p : Parked) (kn : Nat → Bool) (op : Op) (h : s.info = true) :
    (step s p kn op).1.st.info = true :=
  (step_info ..).trans (handle_info_mono _ p kn op h)

theorem dstep_info_mono (sp : St × Parked) (e : Ev) (h : sp.1.info = true) : (dstep sp e).1.info = true := by
  unfold dstep
  exact ((reconcileIdl_writes ..).info.trans (reconcile_writes ..).info).trans (step_info_mono sp.1 sp.2 e.known e.op h)

theorem drun_info_mono (evs : List Ev) (sp : St × Parked) (h : sp.1.info = true) : (drun sp evs).1.info = true :=
  foldl_inv (fun sp => sp.1.info = true) dstep dstep_info_mono evs sp h

/-- Along every run of a torrent whose info dictionary `parseInfo` refuses, whether the metadata is known never
changes. -/
theorem drun_info_refused (evs : List Ev) (sp : St × Parked)
    (h : sp.1.cfg.n > sp.1.cfg.maxPieces ∨ sp.1.cfg.isPrivate = true) : (drun sp evs).1.info = sp.1.info := by
  induction evs generalizing sp with
  | nil => rfl
  | cons e evs ih => exact (ih (dstep sp e) (by rw [dstep_cfg]; exact h)).trans (dstep_info_refused sp e h)

/-- Along every run of a private torrent: whether the metadata is known never changes and PEX is never
started, from any state and any parked message. -/
theorem drun_private (evs : List Ev) (sp : St × Parked) (hp : sp.1.cfg.isPrivate = true)
    (h : NoPexL sp.1.peers) : (drun sp evs).1.info = sp.1.info ∧ NoPexL (drun sp evs).1.peers := by
  refine ⟨drun_info_refused evs sp (Or.inr hp), ?_⟩
  induction evs generalizing sp with
  | nil => exact h
  | cons e evs ih => exact ih (dstep sp e) (by rw [dstep_cfg]; exact hp) (dstep_noPex sp e hp h)

/-- Along every run of a private torrent whose metadata is known no address learnt from PEX or the DHT
is dialled. -/
theorem drun_dials_private (evs : List Ev) (sp : St × Parked) (hi : sp.1.info = true)
    (hp : sp.1.cfg.isPrivate = true) : (drun sp evs).1.dials = sp.1.dials := by
  induction evs generalizing sp with
  | nil => rfl
  | cons e evs ih =>
    exact (ih (dstep sp e) ((dstep_info_refused sp e (Or.inr hp)).trans hi) (by rw [dstep_cfg]; exact hp)).trans
      (dstep_dials_private sp e hi hp)

end Rain.Loop
