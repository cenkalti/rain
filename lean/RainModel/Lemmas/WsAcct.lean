import RainModel.Model.WsAcct
/-!
Invariant of M-WSACCT and its preservation by every handler of `stepFixed`, the code since the repair of finding C17-F3
(rain commit b821f33); `step`, the code before the repair, agrees with it on every event except a corrupt-piece verdict
for a source without a downloader.
Every handler is: rewrite one source and let the counter follow its downloader (`Inv.modify`), then start sources that
are idle (`startFor_inv`).
-/
namespace Rain.WsAcct

/-- A retry timer only runs for a source that is disabled and has no downloader. -/
def SrcOk (x : Src) : Prop := x.retryDue = true → x.disabled = true ∧ x.dl = false

/-- `c` is the configured maximum.  A negative maximum starts nothing, and the last clause is silent on it so that `Inv`
holds from every `init`. -/
structure Inv (c : Int) (s : St) : Prop where
  count : s.active = (countDl s.srcs : Int)
  ok : ∀ x ∈ s.srcs, SrcOk x
  cap : s.cap = c
  le : 0 ≤ c → s.active ≤ c

theorem SrcOk.notDue {x : Src} (h : SrcOk x) (hx : x.disabled = false ∨ x.dl = true) : x.retryDue = false := by
  cases hr : x.retryDue with
  | false => rfl
  | true => obtain ⟨h1, h2⟩ := h hr; rcases hx with hx | hx <;> simp_all

theorem exists_of_hasDl {s : St} {i : Nat} (h : hasDl s i = true) : ∃ x, s.srcs[i]? = some x ∧ x.dl = true := by
  unfold hasDl at h
  cases hx : s.srcs[i]? with
  | none => simp [hx] at h
  | some x => exact ⟨x, rfl, by simpa [hx] using h⟩

theorem exists_of_isDue {s : St} {i : Nat} (h : isDue s i = true) :
    ∃ x, s.srcs[i]? = some x ∧ x.retryDue = true := by
  unfold isDue at h
  cases hx : s.srcs[i]? with
  | none => simp [hx] at h
  | some x => exact ⟨x, rfl, by simpa [hx] using h⟩

theorem upd_eq (f : Src → Src) : ∀ (l : List Src) (i : Nat), upd f l i = l.modify i f
  | [], _ => by simp [upd]
  | _ :: _, 0 => rfl
  | _ :: r, i + 1 => congrArg _ (upd_eq f r i)

theorem countDl_eq : ∀ l : List Src, countDl l = l.countP (·.dl)
  | [] => rfl
  | x :: r => by simp [countDl, countDl_eq r, List.countP_cons, Nat.add_comm]

theorem getElem?_upd (f : Src → Src) (l : List Src) (i : Nat) : (upd f l i)[i]? = (l[i]?).map f := by
  rw [upd_eq, List.getElem?_modify_eq]; rfl

theorem Inv.modify {c : Int} {s : St} {i : Nat} {x : Src} (h : Inv c s) (f : Src → Src) (a : Int)
    (hx : s.srcs[i]? = some x) (hok : SrcOk (f x)) (ha : a + x.dl.toNat = s.active + (f x).dl.toNat)
    (hle : a ≤ max s.active c) : Inv c { s with srcs := upd f s.srcs i, active := a } := by
  obtain ⟨l₁, y, l₂, hl, hlen, hm⟩ := List.exists_of_modify f (List.getElem?_eq_some_iff.1 hx).1
  obtain rfl : y = x := by simpa [hl, ← hlen] using hx
  have hc := h.count
  rw [hl, countDl_eq, List.countP_append, List.countP_cons] at hc
  simp only [Bool.toNat, cond_eq_ite] at ha
  refine ⟨?_, fun z hz => ?_, h.cap, fun h0 => by have := h.le h0; show a ≤ c; omega⟩
  · show a = (countDl (upd f s.srcs i) : Int)
    rw [upd_eq, hm, countDl_eq, List.countP_append, List.countP_cons]
    omega
  · rw [show upd f s.srcs i = _ from (upd_eq ..).trans hm] at hz
    rcases List.mem_append.1 hz with hz | hz
    · exact h.ok z (hl ▸ List.mem_append_left _ hz)
    · rcases List.mem_cons.1 hz with rfl | hz
      · exact hok
      · exact h.ok z (hl ▸ List.mem_append_right _ (List.mem_cons_of_mem _ hz))

theorem startFor_cases (s : St) (i : Nat) (pick : Bool) :
    (startFor s i pick).1 = s ∨
    (s.active < s.cap ∧ (startFor s i pick).1 = { s with srcs := upd openDl s.srcs i, active := s.active + 1 }) := by
  unfold startFor
  split
  · exact .inl rfl
  · split
    · exact .inl rfl
    · split
      · exact .inl rfl
      · exact .inr ⟨by omega, rfl⟩

theorem startFor_inv {c : Int} {s : St} {i : Nat} {x : Src} (pick : Bool) (h : Inv c s) (hx : s.srcs[i]? = some x)
    (hd : x.dl = false) (hr : x.retryDue = false) : Inv c (startFor s i pick).1 := by
  rcases startFor_cases s i pick with e | ⟨hlt, e⟩ <;> rw [e]
  · exact h
  · exact h.modify openDl _ hx (by simp [SrcOk, openDl, hd, hr]) (by simp [openDl, hd]) (by have := h.cap; omega)

theorem startLoop_induct {P : St → Prop}
    (hstep : ∀ s i x pick, P s → s.srcs[i]? = some x → x.dl = false → x.disabled = false →
      P (startFor s i pick).1) :
    ∀ (is : List Nat) (s : St) (k : Nat), P s → P (startLoop s is k)
  | [], _, _, h => h
  | i :: is, s, k, h => by
    unfold startLoop
    split
    · exact startLoop_induct hstep is s k h
    · rename_i x hx
      split
      · rename_i hcond
        have hxd : x.dl = false ∧ x.disabled = false := by simpa using hcond
        have hinv := hstep s i x (decide (0 < k)) h hx hxd.1 hxd.2
        split
        · rename_i s' heq
          rw [heq] at hinv
          exact startLoop_induct hstep is s' (k - 1) hinv
        · exact h
      · exact startLoop_induct hstep is s k h

theorem startAll_induct {P : St → Prop}
    (hstep : ∀ s i x pick, P s → s.srcs[i]? = some x → x.dl = false → x.disabled = false →
      P (startFor s i pick).1) (s : St) (k : Nat) (h : P s) : P (startAll s k) := by
  unfold startAll; split
  · exact h
  · exact startLoop_induct hstep _ s k h

theorem startAll_inv {c : Int} (s : St) (k : Nat) (h : Inv c s) : Inv c (startAll s k) :=
  startAll_induct (fun _ _ x pick h hx hd hdis =>
    startFor_inv pick h hx hd ((h.ok x (List.mem_of_getElem? hx)).notDue (.inl hdis))) s k h

theorem closeAndRestart_inv {c : Int} {s : St} {i : Nat} (pick : Bool) (h : Inv c s) (hd : hasDl s i = true) :
    Inv c (closeAndRestart s i pick) := by
  obtain ⟨x, hx, hxd⟩ := exists_of_hasDl hd
  have hok := h.ok x (List.mem_of_getElem? hx)
  refine startFor_inv (x := closeDl x) pick
    (h.modify closeDl _ hx (fun hr => ⟨(hok hr).1, rfl⟩) (by simp [closeDl, hxd]) (by omega)) ?_ rfl
    (hok.notDue (.inr hxd))
  simp [getElem?_upd, hx]

theorem stepFixed_inv {c : Int} (s : St) (e : Ev) (h : Inv c s) : Inv c (stepFixed s e) := by
  cases e with
  | run b => exact ⟨h.count, h.ok, h.cap, h.le⟩
  | startAll k => exact startAll_inv s k h
  | wsError i k =>
    simp only [stepFixed, step]
    split
    · rename_i hd
      obtain ⟨x, hx, hxd⟩ := exists_of_hasDl hd
      exact startAll_inv _ k (h.modify (disable true) _ hx (fun _ => ⟨rfl, rfl⟩) (by simp [disable, hxd]) (by omega))
    · exact h
  | rangeEnd i pick | stopAtClosed i pick =>
    simp only [stepFixed, step]; split
    · rename_i hd; exact closeAndRestart_inv pick h hd
    · exact h
  | wsCorrupt i k =>
    simp only [stepFixed]; split
    · rename_i hi
      have hx : s.srcs[i]? = some s.srcs[i] := List.getElem?_eq_getElem hi
      refine startAll_inv _ k (h.modify (disable false) _ hx (fun _ => ⟨rfl, rfl⟩) ?_ (by split <;> omega))
      cases hd : s.srcs[i].dl <;> simp [hasDl, hx, hd, disable]
    · exact h
  | retry i pick =>
    simp only [stepFixed, step]; split
    · rename_i hdue
      obtain ⟨x, hx, hxr⟩ := exists_of_isDue hdue
      have hok := h.ok x (List.mem_of_getElem? hx) hxr
      refine startFor_inv (x := clearDue x) pick
        (h.modify clearDue s.active hx (by simp [SrcOk, clearDue]) (by simp [clearDue]) (by omega)) ?_ hok.2 rfl
      simp [getElem?_upd, hx]
    · exact h
  | stopAll =>
    refine ⟨by simp [stepFixed, step, countDl_eq, Function.comp_def, closeDl], fun y hy => ?_, h.cap, id⟩
    obtain ⟨x, hx, rfl⟩ := List.mem_map.1 hy
    exact fun hdue => ⟨(h.ok x hx hdue).1, rfl⟩

theorem init_inv (n : Nat) (cap : Int) : Inv cap (init n cap) :=
  ⟨by simp [init, countDl_eq, List.countP_replicate], fun x hx hdue => by simp [(List.mem_replicate.1 hx).2] at hdue, rfl, id⟩

theorem runFixed_inv {c : Int} : ∀ (es : List Ev) (s : St), Inv c s → Inv c (runFixed s es)
  | [], _, h => h
  | e :: es, s, h => runFixed_inv es _ (stepFixed_inv s e h)

theorem step_eq_stepFixed (s : St) (e : Ev) (h : SafeEv s e) : step s e = stepFixed s e := by
  cases e with
  | wsCorrupt i k =>
    simp only [SafeEv] at h
    simp only [step, stepFixed, h, if_true]
  | _ => rfl

theorem run_eq_runFixed : ∀ (es : List Ev) (s : St), SafeRun s es → run s es = runFixed s es
  | [], _, _ => rfl
  | e :: es, s, h => by
    simp only [run, runFixed]
    rw [← step_eq_stepFixed s e h.1]
    exact run_eq_runFixed es _ h.2

end Rain.WsAcct
