import RainModel.Lemmas.LoopFrameMsg
/-!
What the write / allocation / verification completions write.
-/
namespace Rain.Loop
open Fld

@[frame] theorem pwdReset_writes (m : M) (w : WriteJob) : Writes [writing, wflag] m.1 (pwdReset m w).1 :=
  .intro rfl
@[simp] theorem pwdReset_status (m : M) (w : WriteJob) : (pwdReset m w).1.status = m.1.status := (pwdReset_writes m w).status
@[simp] theorem pwdReset_n (m : M) (w : WriteJob) : (pwdReset m w).1.n = m.1.n := (pwdReset_writes m w).n
@[simp] theorem pwdReset_diskOK (m : M) (w : WriteJob) : (pwdReset m w).1.diskOK = m.1.diskOK := (pwdReset_writes m w).diskOK
@[simp] theorem pwdReset_findDl (m : M) (w : WriteJob) (k' : Nat) : (pwdReset m w).1.findDl k' = m.1.findDl k' := (pwdReset_writes m w).findDl k'

@[frame] theorem pwdBan_writes (m : M) (w : WriteJob) :
    Writes [peers, dls, idls, mayStartI, unchoked, optimistic, banned, mayStart, closedDl]
    m.1 (pwdBan m w).1 :=
  .intro (by unfold pwdBan; frame)
@[simp] theorem pwdBan_lastErr (m : M) (w : WriteJob) : (pwdBan m w).1.lastErr = m.1.lastErr := (pwdBan_writes m w).lastErr
@[simp] theorem pwdBan_openFiles (m : M) (w : WriteJob) : (pwdBan m w).1.openFiles = m.1.openFiles := (pwdBan_writes m w).openFiles
@[simp] theorem pwdBan_done (m : M) (w : WriteJob) : (pwdBan m w).1.done = m.1.done := (pwdBan_writes m w).done
@[simp] theorem pwdBan_wflag (m : M) (w : WriteJob) : (pwdBan m w).1.wflag = m.1.wflag := (pwdBan_writes m w).wflag
@[simp] theorem pwdBan_known (m : M) (w : WriteJob) : (pwdBan m w).1.known = m.1.known := (pwdBan_writes m w).known
@[simp] theorem pwdBan_gateOpen (m : M) (w : WriteJob) : (pwdBan m w).1.gateOpen = m.1.gateOpen := (pwdBan_writes m w).gateOpen
@[simp] theorem pwdBan_gateRead (m : M) (w : WriteJob) : (pwdBan m w).1.gateRead = m.1.gateRead := (pwdBan_writes m w).gateRead
@[simp] theorem pwdBan_status (m : M) (w : WriteJob) : (pwdBan m w).1.status = m.1.status := (pwdBan_writes m w).status
@[simp] theorem pwdBan_n (m : M) (w : WriteJob) : (pwdBan m w).1.n = m.1.n := (pwdBan_writes m w).n
@[simp] theorem pwdBan_diskOKi (m : M) (w : WriteJob) (i : Nat) : (pwdBan m w).1.diskOKi i = m.1.diskOKi i := (pwdBan_writes m w).diskOKi i
@[simp] theorem pwdBan_diskOK (m : M) (w : WriteJob) : (pwdBan m w).1.diskOK = m.1.diskOK := (pwdBan_writes m w).diskOK

@[frame] theorem pwdDone_writes (m : M) (w : WriteJob) : Writes [done] m.1 (pwdDone m w).1 :=
  .intro rfl
@[simp] theorem pwdDone_status (m : M) (w : WriteJob) : (pwdDone m w).1.status = m.1.status := (pwdDone_writes m w).status
@[simp] theorem pwdDone_n (m : M) (w : WriteJob) : (pwdDone m w).1.n = m.1.n := (pwdDone_writes m w).n
@[simp] theorem pwdDone_diskOK (m : M) (w : WriteJob) : (pwdDone m w).1.diskOK = m.1.diskOK := (pwdDone_writes m w).diskOK
@[simp] theorem pwdDone_findPeer (m : M) (w : WriteJob) (k' : Nat) : (pwdDone m w).1.findPeer k' = m.1.findPeer k' := (pwdDone_writes m w).findPeer k'
@[simp] theorem pwdDone_findDl (m : M) (w : WriteJob) (k' : Nat) : (pwdDone m w).1.findDl k' = m.1.findDl k' := (pwdDone_writes m w).findDl k'

@[frame] theorem pwdSet_writes (m : M) (w : WriteJob) (b : List Bool) : Writes [bf, panicked] m.1 (pwdSet m w b).1 :=
  .intro (by unfold pwdSet; frame)
@[simp] theorem pwdSet_lastErr (m : M) (w : WriteJob) (b : List Bool) : (pwdSet m w b).1.lastErr = m.1.lastErr := (pwdSet_writes m w b).lastErr
@[simp] theorem pwdSet_acceptor (m : M) (w : WriteJob) (b : List Bool) : (pwdSet m w b).1.acceptor = m.1.acceptor := (pwdSet_writes m w b).acceptor
@[simp] theorem pwdSet_openFiles (m : M) (w : WriteJob) (b : List Bool) : (pwdSet m w b).1.openFiles = m.1.openFiles := (pwdSet_writes m w b).openFiles
@[simp] theorem pwdSet_known (m : M) (w : WriteJob) (b : List Bool) : (pwdSet m w b).1.known = m.1.known := (pwdSet_writes m w b).known
@[simp] theorem pwdSet_mayStartI (m : M) (w : WriteJob) (b : List Bool) : (pwdSet m w b).1.mayStartI = m.1.mayStartI := (pwdSet_writes m w b).mayStartI
@[simp] theorem pwdSet_unchoked (m : M) (w : WriteJob) (b : List Bool) : (pwdSet m w b).1.unchoked = m.1.unchoked := (pwdSet_writes m w b).unchoked
@[simp] theorem pwdSet_optimistic (m : M) (w : WriteJob) (b : List Bool) : (pwdSet m w b).1.optimistic = m.1.optimistic := (pwdSet_writes m w b).optimistic
@[simp] theorem pwdSet_gateOpen (m : M) (w : WriteJob) (b : List Bool) : (pwdSet m w b).1.gateOpen = m.1.gateOpen := (pwdSet_writes m w b).gateOpen
@[simp] theorem pwdSet_gateRead (m : M) (w : WriteJob) (b : List Bool) : (pwdSet m w b).1.gateRead = m.1.gateRead := (pwdSet_writes m w b).gateRead
@[simp] theorem pwdSet_sto (m : M) (w : WriteJob) (b : List Bool) : (pwdSet m w b).1.sto = m.1.sto := (pwdSet_writes m w b).sto
@[simp] theorem pwdSet_mayStart (m : M) (w : WriteJob) (b : List Bool) : (pwdSet m w b).1.mayStart = m.1.mayStart := (pwdSet_writes m w b).mayStart
@[simp] theorem pwdSet_closedDl (m : M) (w : WriteJob) (b : List Bool) : (pwdSet m w b).1.closedDl = m.1.closedDl := (pwdSet_writes m w b).closedDl
@[simp] theorem pwdSet_status (m : M) (w : WriteJob) (b : List Bool) : (pwdSet m w b).1.status = m.1.status := (pwdSet_writes m w b).status
@[simp] theorem pwdSet_n (m : M) (w : WriteJob) (b : List Bool) : (pwdSet m w b).1.n = m.1.n := (pwdSet_writes m w b).n
@[simp] theorem pwdSet_diskOK (m : M) (w : WriteJob) (b : List Bool) : (pwdSet m w b).1.diskOK = m.1.diskOK := (pwdSet_writes m w b).diskOK
@[simp] theorem pwdSet_findPeer (m : M) (w : WriteJob) (b : List Bool) (k' : Nat) : (pwdSet m w b).1.findPeer k' = m.1.findPeer k' := (pwdSet_writes m w b).findPeer k'
@[simp] theorem pwdSet_findDl (m : M) (w : WriteJob) (b : List Bool) (k' : Nat) : (pwdSet m w b).1.findDl k' = m.1.findDl k' := (pwdSet_writes m w b).findDl k'

@[frame] theorem pwdOthers_writes (m : M) (w : WriteJob) : Writes [dls, mayStart, closedDl] m.1 (pwdOthers m w).1 :=
  .intro (by unfold pwdOthers; frame)
@[simp] theorem pwdOthers_lastErr (m : M) (w : WriteJob) : (pwdOthers m w).1.lastErr = m.1.lastErr := (pwdOthers_writes m w).lastErr
@[simp] theorem pwdOthers_acceptor (m : M) (w : WriteJob) : (pwdOthers m w).1.acceptor = m.1.acceptor := (pwdOthers_writes m w).acceptor
@[simp] theorem pwdOthers_openFiles (m : M) (w : WriteJob) : (pwdOthers m w).1.openFiles = m.1.openFiles := (pwdOthers_writes m w).openFiles
@[simp] theorem pwdOthers_known (m : M) (w : WriteJob) : (pwdOthers m w).1.known = m.1.known := (pwdOthers_writes m w).known
@[simp] theorem pwdOthers_mayStartI (m : M) (w : WriteJob) : (pwdOthers m w).1.mayStartI = m.1.mayStartI := (pwdOthers_writes m w).mayStartI
@[simp] theorem pwdOthers_unchoked (m : M) (w : WriteJob) : (pwdOthers m w).1.unchoked = m.1.unchoked := (pwdOthers_writes m w).unchoked
@[simp] theorem pwdOthers_optimistic (m : M) (w : WriteJob) : (pwdOthers m w).1.optimistic = m.1.optimistic := (pwdOthers_writes m w).optimistic
@[simp] theorem pwdOthers_gateOpen (m : M) (w : WriteJob) : (pwdOthers m w).1.gateOpen = m.1.gateOpen := (pwdOthers_writes m w).gateOpen
@[simp] theorem pwdOthers_gateRead (m : M) (w : WriteJob) : (pwdOthers m w).1.gateRead = m.1.gateRead := (pwdOthers_writes m w).gateRead
@[simp] theorem pwdOthers_sto (m : M) (w : WriteJob) : (pwdOthers m w).1.sto = m.1.sto := (pwdOthers_writes m w).sto
@[simp] theorem pwdOthers_status (m : M) (w : WriteJob) : (pwdOthers m w).1.status = m.1.status := (pwdOthers_writes m w).status
@[simp] theorem pwdOthers_n (m : M) (w : WriteJob) : (pwdOthers m w).1.n = m.1.n := (pwdOthers_writes m w).n
@[simp] theorem pwdOthers_diskOKi (m : M) (w : WriteJob) (i : Nat) : (pwdOthers m w).1.diskOKi i = m.1.diskOKi i := (pwdOthers_writes m w).diskOKi i
@[simp] theorem pwdOthers_diskOK (m : M) (w : WriteJob) : (pwdOthers m w).1.diskOK = m.1.diskOK := (pwdOthers_writes m w).diskOK
@[simp] theorem pwdOthers_findPeer (m : M) (w : WriteJob) (k' : Nat) : (pwdOthers m w).1.findPeer k' = m.1.findPeer k' := (pwdOthers_writes m w).findPeer k'

@[frame] theorem pwdHaves_writes (m : M) (w : WriteJob) : Writes [peers] m.1 (pwdHaves m w).1 :=
  .intro (by unfold pwdHaves; frame)
@[simp] theorem pwdHaves_lastErr (m : M) (w : WriteJob) : (pwdHaves m w).1.lastErr = m.1.lastErr := (pwdHaves_writes m w).lastErr
@[simp] theorem pwdHaves_acceptor (m : M) (w : WriteJob) : (pwdHaves m w).1.acceptor = m.1.acceptor := (pwdHaves_writes m w).acceptor
@[simp] theorem pwdHaves_openFiles (m : M) (w : WriteJob) : (pwdHaves m w).1.openFiles = m.1.openFiles := (pwdHaves_writes m w).openFiles
@[simp] theorem pwdHaves_done (m : M) (w : WriteJob) : (pwdHaves m w).1.done = m.1.done := (pwdHaves_writes m w).done
@[simp] theorem pwdHaves_wflag (m : M) (w : WriteJob) : (pwdHaves m w).1.wflag = m.1.wflag := (pwdHaves_writes m w).wflag
@[simp] theorem pwdHaves_known (m : M) (w : WriteJob) : (pwdHaves m w).1.known = m.1.known := (pwdHaves_writes m w).known
@[simp] theorem pwdHaves_mayStartI (m : M) (w : WriteJob) : (pwdHaves m w).1.mayStartI = m.1.mayStartI := (pwdHaves_writes m w).mayStartI
@[simp] theorem pwdHaves_unchoked (m : M) (w : WriteJob) : (pwdHaves m w).1.unchoked = m.1.unchoked := (pwdHaves_writes m w).unchoked
@[simp] theorem pwdHaves_optimistic (m : M) (w : WriteJob) : (pwdHaves m w).1.optimistic = m.1.optimistic := (pwdHaves_writes m w).optimistic
@[simp] theorem pwdHaves_gateOpen (m : M) (w : WriteJob) : (pwdHaves m w).1.gateOpen = m.1.gateOpen := (pwdHaves_writes m w).gateOpen
@[simp] theorem pwdHaves_gateRead (m : M) (w : WriteJob) : (pwdHaves m w).1.gateRead = m.1.gateRead := (pwdHaves_writes m w).gateRead
@[simp] theorem pwdHaves_sto (m : M) (w : WriteJob) : (pwdHaves m w).1.sto = m.1.sto := (pwdHaves_writes m w).sto
@[simp] theorem pwdHaves_mayStart (m : M) (w : WriteJob) : (pwdHaves m w).1.mayStart = m.1.mayStart := (pwdHaves_writes m w).mayStart
@[simp] theorem pwdHaves_closedDl (m : M) (w : WriteJob) : (pwdHaves m w).1.closedDl = m.1.closedDl := (pwdHaves_writes m w).closedDl
@[simp] theorem pwdHaves_status (m : M) (w : WriteJob) : (pwdHaves m w).1.status = m.1.status := (pwdHaves_writes m w).status
@[simp] theorem pwdHaves_n (m : M) (w : WriteJob) : (pwdHaves m w).1.n = m.1.n := (pwdHaves_writes m w).n
@[simp] theorem pwdHaves_diskOKi (m : M) (w : WriteJob) (i : Nat) : (pwdHaves m w).1.diskOKi i = m.1.diskOKi i := (pwdHaves_writes m w).diskOKi i
@[simp] theorem pwdHaves_diskOK (m : M) (w : WriteJob) : (pwdHaves m w).1.diskOK = m.1.diskOK := (pwdHaves_writes m w).diskOK
@[simp] theorem pwdHaves_findDl (m : M) (w : WriteJob) (k' : Nat) : (pwdHaves m w).1.findDl k' = m.1.findDl k' := (pwdHaves_writes m w).findDl k'

structure Fr_pwdFinish (s s' : St) : Prop where
  cfg : s'.cfg = s.cfg
  info : s'.info = s.info
  infoAtAdd : s'.infoAtAdd = s.infoAtAdd
  errC : s'.errC = s.errC
  gen : s'.gen = s.gen
  leaked : s'.leaked = s.leaked
  writing : s'.writing = s.writing
  bad : s'.bad = s.bad
  isize : s'.isize = s.isize
  maxMeta : s'.maxMeta = s.maxMeta
  parMeta : s'.parMeta = s.parMeta
  metaDone : s'.metaDone = s.metaDone
  nUnchoke : s'.nUnchoke = s.nUnchoke
  nOptimistic : s'.nOptimistic = s.nOptimistic
  stopHang : s'.stopHang = s.stopHang
  dials : s'.dials = s.dials
  banned : s'.banned = s.banned
  gateWrite : s'.gateWrite = s.gateWrite
  failWrite : s'.failWrite = s.failWrite
  failOpen : s'.failOpen = s.failOpen
  failAt : s'.failAt = s.failAt
  gateWriteDone : s'.gateWriteDone = s.gateWriteDone
  tainted : s'.tainted = s.tainted
@[frame] theorem pwdFinish_writes (m : M) :
    Writes [stopAnn, allocator, verifier, completed, completeCClosed, doVerify, lastErr, loaded, acceptor,
      openFiles, bf, done, wflag, fileExists, known, peers, dls, idls, mayStartI, unchoked, optimistic,
      panicked, gateOpen, gateRead, sto, mayStart, closedDl, persisted]
    m.1 (pwdFinish m).1 :=
  .intro (by unfold pwdFinish; frame)
theorem pwdFinish_frame (m : M) : Fr_pwdFinish m.1 (pwdFinish m).1 :=
  have h := pwdFinish_writes m
  ⟨h.cfg, h.info, h.infoAtAdd, h.errC, h.gen, h.leaked, h.writing, h.bad, h.isize, h.maxMeta, h.parMeta,
   h.metaDone, h.nUnchoke, h.nOptimistic, h.stopHang, h.dials, h.banned, h.gateWrite, h.failWrite, h.failOpen,
   h.failAt, h.gateWriteDone, h.tainted⟩
@[simp] theorem pwdFinish_n (m : M) : (pwdFinish m).1.n = m.1.n := (pwdFinish_writes m).n
@[simp] theorem pwdFinish_diskOKi (m : M) (i : Nat) : (pwdFinish m).1.diskOKi i = m.1.diskOKi i := (pwdFinish_writes m).diskOKi i
@[simp] theorem pwdFinish_diskOK (m : M) : (pwdFinish m).1.diskOK = m.1.diskOK := (pwdFinish_writes m).diskOK

@[frame] theorem pwdOk_writes (m : M) (w : WriteJob) (b : List Bool) :
    Writes [stopAnn, allocator, verifier, completed, completeCClosed, doVerify, lastErr, loaded, acceptor,
      openFiles, bf, done, wflag, fileExists, known, peers, dls, idls, mayStartI, unchoked, optimistic,
      panicked, gateOpen, gateRead, sto, mayStart, closedDl, persisted]
    m.1 (pwdOk m w b).1 :=
  .intro (by unfold pwdOk; frame)
@[simp] theorem pwdOk_banned (m : M) (w : WriteJob) (b : List Bool) : (pwdOk m w b).1.banned = m.1.banned := (pwdOk_writes m w b).banned
@[simp] theorem pwdOk_n (m : M) (w : WriteJob) (b : List Bool) : (pwdOk m w b).1.n = m.1.n := (pwdOk_writes m w b).n
@[simp] theorem pwdOk_diskOKi (m : M) (w : WriteJob) (b : List Bool) (i : Nat) : (pwdOk m w b).1.diskOKi i = m.1.diskOKi i := (pwdOk_writes m w b).diskOKi i
@[simp] theorem pwdOk_diskOK (m : M) (w : WriteJob) (b : List Bool) : (pwdOk m w b).1.diskOK = m.1.diskOK := (pwdOk_writes m w b).diskOK

structure Fr_handlePieceWriteDone (s s' : St) : Prop where
  cfg : s'.cfg = s.cfg
  info : s'.info = s.info
  infoAtAdd : s'.infoAtAdd = s.infoAtAdd
  errC : s'.errC = s.errC
  gen : s'.gen = s.gen
  leaked : s'.leaked = s.leaked
  bad : s'.bad = s.bad
  isize : s'.isize = s.isize
  maxMeta : s'.maxMeta = s.maxMeta
  parMeta : s'.parMeta = s.parMeta
  metaDone : s'.metaDone = s.metaDone
  nUnchoke : s'.nUnchoke = s.nUnchoke
  nOptimistic : s'.nOptimistic = s.nOptimistic
  stopHang : s'.stopHang = s.stopHang
  dials : s'.dials = s.dials
  gateWrite : s'.gateWrite = s.gateWrite
  failWrite : s'.failWrite = s.failWrite
  failOpen : s'.failOpen = s.failOpen
  failAt : s'.failAt = s.failAt
  gateWriteDone : s'.gateWriteDone = s.gateWriteDone
  tainted : s'.tainted = s.tainted
@[frame] theorem handlePieceWriteDone_writes (m : M) (w : WriteJob) (e : Bool) :
    Writes [stopAnn, allocator, verifier, completed, completeCClosed, doVerify, lastErr, loaded, acceptor,
      openFiles, bf, done, writing, wflag, fileExists, known, peers, dls, idls, mayStartI, unchoked,
      optimistic, banned, panicked, gateOpen, gateRead, sto, mayStart, closedDl, persisted]
    m.1 (handlePieceWriteDone m w e).1 :=
  have h := pwdReset_writes m w
  have hd := h.trans (pwdDone_writes _ w)
  handlePieceWriteDone_cases (P := fun r => Writes _ m.1 r.1) m w e
    (fun _ => .mono (h.trans (pwdBan_writes _ w))) (fun _ _ => h.mono)
    (fun _ _ _ _ => .mono (h.trans (.onSt (stop_writes _ true))))
    (fun _ _ _ _ _ => .mono (hd.trans (.onSt (crash_writes _ _))))
    fun b _ _ _ _ _ => .mono (hd.trans (pwdOk_writes _ w b))
theorem handlePieceWriteDone_frame (m : M) (w : WriteJob) (e : Bool) : Fr_handlePieceWriteDone m.1 (handlePieceWriteDone m w e).1 :=
  have h := handlePieceWriteDone_writes m w e
  ⟨h.cfg, h.info, h.infoAtAdd, h.errC, h.gen, h.leaked, h.bad, h.isize, h.maxMeta, h.parMeta, h.metaDone,
   h.nUnchoke, h.nOptimistic, h.stopHang, h.dials, h.gateWrite, h.failWrite, h.failOpen, h.failAt,
   h.gateWriteDone, h.tainted⟩
@[simp] theorem handlePieceWriteDone_cfg (m : M) (w : WriteJob) (e : Bool) : (handlePieceWriteDone m w e).1.cfg = m.1.cfg := (handlePieceWriteDone_frame m w e).cfg
@[simp] theorem handlePieceWriteDone_bad (m : M) (w : WriteJob) (e : Bool) : (handlePieceWriteDone m w e).1.bad = m.1.bad := (handlePieceWriteDone_frame m w e).bad
@[simp] theorem handlePieceWriteDone_n (m : M) (w : WriteJob) (e : Bool) : (handlePieceWriteDone m w e).1.n = m.1.n := (handlePieceWriteDone_writes m w e).n
@[simp] theorem handlePieceWriteDone_diskOKi (m : M) (w : WriteJob) (e : Bool) (i : Nat) : (handlePieceWriteDone m w e).1.diskOKi i = m.1.diskOKi i := (handlePieceWriteDone_writes m w e).diskOKi i
@[simp] theorem handlePieceWriteDone_diskOK (m : M) (w : WriteJob) (e : Bool) : (handlePieceWriteDone m w e).1.diskOK = m.1.diskOK := (handlePieceWriteDone_writes m w e).diskOK

@[frame] theorem hadInstall_writes (m : M) :
    Writes [allocator, loaded, gen, openFiles, done, wflag, peers]
    m.1 (hadInstall m).1 :=
  .intro rfl
@[simp] theorem hadInstall_errC (m : M) : (hadInstall m).1.errC = m.1.errC := (hadInstall_writes m).errC
@[simp] theorem hadInstall_stopAnn (m : M) : (hadInstall m).1.stopAnn = m.1.stopAnn := (hadInstall_writes m).stopAnn
@[simp] theorem hadInstall_completed (m : M) : (hadInstall m).1.completed = m.1.completed := (hadInstall_writes m).completed
@[simp] theorem hadInstall_completeCClosed (m : M) : (hadInstall m).1.completeCClosed = m.1.completeCClosed := (hadInstall_writes m).completeCClosed
@[simp] theorem hadInstall_doVerify (m : M) : (hadInstall m).1.doVerify = m.1.doVerify := (hadInstall_writes m).doVerify
@[simp] theorem hadInstall_bf (m : M) : (hadInstall m).1.bf = m.1.bf := (hadInstall_writes m).bf
@[simp] theorem hadInstall_writing (m : M) : (hadInstall m).1.writing = m.1.writing := (hadInstall_writes m).writing
@[simp] theorem hadInstall_n (m : M) : (hadInstall m).1.n = m.1.n := (hadInstall_writes m).n
@[simp] theorem hadInstall_diskOKi (m : M) (i : Nat) : (hadInstall m).1.diskOKi i = m.1.diskOKi i := (hadInstall_writes m).diskOKi i
@[simp] theorem hadInstall_diskOK (m : M) : (hadInstall m).1.diskOK = m.1.diskOK := (hadInstall_writes m).diskOK
@[simp] theorem hadInstall_findDl (m : M) (k' : Nat) : (hadInstall m).1.findDl k' = m.1.findDl k' := (hadInstall_writes m).findDl k'

@[frame] theorem hadForget_writes (m : M) (mi : Bool) : Writes [bf, persisted] m.1 (hadForget m mi).1 :=
  .intro (by unfold hadForget; frame)
@[simp] theorem hadForget_errC (m : M) (mi : Bool) : (hadForget m mi).1.errC = m.1.errC := (hadForget_writes m mi).errC
@[simp] theorem hadForget_stopAnn (m : M) (mi : Bool) : (hadForget m mi).1.stopAnn = m.1.stopAnn := (hadForget_writes m mi).stopAnn
@[simp] theorem hadForget_allocator (m : M) (mi : Bool) : (hadForget m mi).1.allocator = m.1.allocator := (hadForget_writes m mi).allocator
@[simp] theorem hadForget_completed (m : M) (mi : Bool) : (hadForget m mi).1.completed = m.1.completed := (hadForget_writes m mi).completed
@[simp] theorem hadForget_completeCClosed (m : M) (mi : Bool) : (hadForget m mi).1.completeCClosed = m.1.completeCClosed := (hadForget_writes m mi).completeCClosed
@[simp] theorem hadForget_doVerify (m : M) (mi : Bool) : (hadForget m mi).1.doVerify = m.1.doVerify := (hadForget_writes m mi).doVerify
@[simp] theorem hadForget_gen (m : M) (mi : Bool) : (hadForget m mi).1.gen = m.1.gen := (hadForget_writes m mi).gen
@[simp] theorem hadForget_writing (m : M) (mi : Bool) : (hadForget m mi).1.writing = m.1.writing := (hadForget_writes m mi).writing
@[simp] theorem hadForget_fileExists (m : M) (mi : Bool) : (hadForget m mi).1.fileExists = m.1.fileExists := (hadForget_writes m mi).fileExists
@[simp] theorem hadForget_peers (m : M) (mi : Bool) : (hadForget m mi).1.peers = m.1.peers := (hadForget_writes m mi).peers
@[simp] theorem hadForget_status (m : M) (mi : Bool) : (hadForget m mi).1.status = m.1.status := (hadForget_writes m mi).status
@[simp] theorem hadForget_n (m : M) (mi : Bool) : (hadForget m mi).1.n = m.1.n := (hadForget_writes m mi).n
@[simp] theorem hadForget_diskOKi (m : M) (mi : Bool) (i : Nat) : (hadForget m mi).1.diskOKi i = m.1.diskOKi i := (hadForget_writes m mi).diskOKi i
@[simp] theorem hadForget_diskOK (m : M) (mi : Bool) : (hadForget m mi).1.diskOK = m.1.diskOK := (hadForget_writes m mi).diskOK
@[simp] theorem hadForget_findPeer (m : M) (mi : Bool) (k' : Nat) : (hadForget m mi).1.findPeer k' = m.1.findPeer k' := (hadForget_writes m mi).findPeer k'
@[simp] theorem hadForget_findDl (m : M) (mi : Bool) (k' : Nat) : (hadForget m mi).1.findDl k' = m.1.findDl k' := (hadForget_writes m mi).findDl k'

@[frame] theorem hadReady_writes (m : M) :
    Writes [acceptor, writing, wflag, peers, dls, idls, mayStartI, unchoked, optimistic, panicked, mayStart,
      closedDl]
    m.1 (hadReady m).1 :=
  .intro (by unfold hadReady; frame)
@[simp] theorem hadReady_lastErr (m : M) : (hadReady m).1.lastErr = m.1.lastErr := (hadReady_writes m).lastErr
@[simp] theorem hadReady_loaded (m : M) : (hadReady m).1.loaded = m.1.loaded := (hadReady_writes m).loaded
@[simp] theorem hadReady_openFiles (m : M) : (hadReady m).1.openFiles = m.1.openFiles := (hadReady_writes m).openFiles
@[simp] theorem hadReady_done (m : M) : (hadReady m).1.done = m.1.done := (hadReady_writes m).done
@[simp] theorem hadReady_known (m : M) : (hadReady m).1.known = m.1.known := (hadReady_writes m).known
@[simp] theorem hadReady_gateOpen (m : M) : (hadReady m).1.gateOpen = m.1.gateOpen := (hadReady_writes m).gateOpen
@[simp] theorem hadReady_gateRead (m : M) : (hadReady m).1.gateRead = m.1.gateRead := (hadReady_writes m).gateRead
@[simp] theorem hadReady_sto (m : M) : (hadReady m).1.sto = m.1.sto := (hadReady_writes m).sto
@[simp] theorem hadReady_status (m : M) : (hadReady m).1.status = m.1.status := (hadReady_writes m).status
@[simp] theorem hadReady_n (m : M) : (hadReady m).1.n = m.1.n := (hadReady_writes m).n
@[simp] theorem hadReady_diskOKi (m : M) (i : Nat) : (hadReady m).1.diskOKi i = m.1.diskOKi i := (hadReady_writes m).diskOKi i
@[simp] theorem hadReady_diskOK (m : M) : (hadReady m).1.diskOK = m.1.diskOK := (hadReady_writes m).diskOK

structure Fr_hadCheck (s s' : St) : Prop where
  cfg : s'.cfg = s.cfg
  info : s'.info = s.info
  infoAtAdd : s'.infoAtAdd = s.infoAtAdd
  errC : s'.errC = s.errC
  gen : s'.gen = s.gen
  leaked : s'.leaked = s.leaked
  bad : s'.bad = s.bad
  isize : s'.isize = s.isize
  maxMeta : s'.maxMeta = s.maxMeta
  parMeta : s'.parMeta = s.parMeta
  metaDone : s'.metaDone = s.metaDone
  nUnchoke : s'.nUnchoke = s.nUnchoke
  nOptimistic : s'.nOptimistic = s.nOptimistic
  stopHang : s'.stopHang = s.stopHang
  dials : s'.dials = s.dials
  banned : s'.banned = s.banned
  gateWrite : s'.gateWrite = s.gateWrite
  failWrite : s'.failWrite = s.failWrite
  failOpen : s'.failOpen = s.failOpen
  failAt : s'.failAt = s.failAt
  gateWriteDone : s'.gateWriteDone = s.gateWriteDone
  tainted : s'.tainted = s.tainted
@[frame] theorem hadCheck_writes (m : M) :
    Writes [stopAnn, allocator, verifier, completed, completeCClosed, doVerify, lastErr, loaded, acceptor,
      openFiles, bf, done, writing, wflag, fileExists, known, peers, dls, idls, mayStartI, unchoked,
      optimistic, panicked, gateOpen, gateRead, sto, mayStart, closedDl, persisted]
    m.1 (hadCheck m).1 :=
  .intro (by unfold hadCheck; frame)
theorem hadCheck_frame (m : M) : Fr_hadCheck m.1 (hadCheck m).1 :=
  have h := hadCheck_writes m
  ⟨h.cfg, h.info, h.infoAtAdd, h.errC, h.gen, h.leaked, h.bad, h.isize, h.maxMeta, h.parMeta, h.metaDone,
   h.nUnchoke, h.nOptimistic, h.stopHang, h.dials, h.banned, h.gateWrite, h.failWrite, h.failOpen, h.failAt,
   h.gateWriteDone, h.tainted⟩
@[simp] theorem hadCheck_n (m : M) : (hadCheck m).1.n = m.1.n := (hadCheck_writes m).n
@[simp] theorem hadCheck_diskOKi (m : M) (i : Nat) : (hadCheck m).1.diskOKi i = m.1.diskOKi i := (hadCheck_writes m).diskOKi i
@[simp] theorem hadCheck_diskOK (m : M) : (hadCheck m).1.diskOK = m.1.diskOK := (hadCheck_writes m).diskOK

@[frame] theorem hadFreshInstall_writes (m : M) :
    Writes [completed, completeCClosed, bf, done]
    m.1 (hadFreshInstall m).1 :=
  .intro (by unfold hadFreshInstall; frame)
@[simp] theorem hadFreshInstall_n (m : M) : (hadFreshInstall m).1.n = m.1.n := (hadFreshInstall_writes m).n
@[simp] theorem hadFreshInstall_diskOKi (m : M) (i : Nat) : (hadFreshInstall m).1.diskOKi i = m.1.diskOKi i := (hadFreshInstall_writes m).diskOKi i
@[simp] theorem hadFreshInstall_diskOK (m : M) : (hadFreshInstall m).1.diskOK = m.1.diskOK := (hadFreshInstall_writes m).diskOK
@[simp] theorem hadFreshInstall_findPeer (m : M) (k' : Nat) : (hadFreshInstall m).1.findPeer k' = m.1.findPeer k' := (hadFreshInstall_writes m).findPeer k'
@[simp] theorem hadFreshInstall_findDl (m : M) (k' : Nat) : (hadFreshInstall m).1.findDl k' = m.1.findDl k' := (hadFreshInstall_writes m).findDl k'

structure Fr_hadFresh (s s' : St) : Prop where
  cfg : s'.cfg = s.cfg
  info : s'.info = s.info
  infoAtAdd : s'.infoAtAdd = s.infoAtAdd
  errC : s'.errC = s.errC
  gen : s'.gen = s.gen
  leaked : s'.leaked = s.leaked
  bad : s'.bad = s.bad
  isize : s'.isize = s.isize
  maxMeta : s'.maxMeta = s.maxMeta
  parMeta : s'.parMeta = s.parMeta
  metaDone : s'.metaDone = s.metaDone
  nUnchoke : s'.nUnchoke = s.nUnchoke
  nOptimistic : s'.nOptimistic = s.nOptimistic
  stopHang : s'.stopHang = s.stopHang
  dials : s'.dials = s.dials
  banned : s'.banned = s.banned
  gateWrite : s'.gateWrite = s.gateWrite
  failWrite : s'.failWrite = s.failWrite
  failOpen : s'.failOpen = s.failOpen
  failAt : s'.failAt = s.failAt
  gateWriteDone : s'.gateWriteDone = s.gateWriteDone
  tainted : s'.tainted = s.tainted
@[frame] theorem hadFresh_writes (m : M) :
    Writes [stopAnn, allocator, verifier, completed, completeCClosed, doVerify, lastErr, loaded, acceptor,
      openFiles, bf, done, writing, wflag, fileExists, known, peers, dls, idls, mayStartI, unchoked,
      optimistic, panicked, gateOpen, gateRead, sto, mayStart, closedDl, persisted]
    m.1 (hadFresh m).1 :=
  have h := hadFreshInstall_writes m
  hadFresh_cases (P := fun r => Writes _ m.1 r.1) m (fun _ => .mono (h.trans (.onSt (stop_noVerify_writes _))))
    fun _ => .mono (h.trans (hadCheck_writes _))
theorem hadFresh_frame (m : M) : Fr_hadFresh m.1 (hadFresh m).1 :=
  have h := hadFresh_writes m
  ⟨h.cfg, h.info, h.infoAtAdd, h.errC, h.gen, h.leaked, h.bad, h.isize, h.maxMeta, h.parMeta, h.metaDone,
   h.nUnchoke, h.nOptimistic, h.stopHang, h.dials, h.banned, h.gateWrite, h.failWrite, h.failOpen, h.failAt,
   h.gateWriteDone, h.tainted⟩
@[simp] theorem hadFresh_gen (m : M) : (hadFresh m).1.gen = m.1.gen := (hadFresh_frame m).gen
@[simp] theorem hadFresh_n (m : M) : (hadFresh m).1.n = m.1.n := (hadFresh_writes m).n
@[simp] theorem hadFresh_diskOKi (m : M) (i : Nat) : (hadFresh m).1.diskOKi i = m.1.diskOKi i := (hadFresh_writes m).diskOKi i
@[simp] theorem hadFresh_diskOK (m : M) : (hadFresh m).1.diskOK = m.1.diskOK := (hadFresh_writes m).diskOK

@[frame] theorem hadTrust_writes (m : M) (b : List Bool) :
    Writes [stopAnn, allocator, verifier, completed, completeCClosed, doVerify, lastErr, loaded, acceptor,
      openFiles, bf, done, writing, wflag, fileExists, known, peers, dls, idls, mayStartI, unchoked,
      optimistic, panicked, gateOpen, gateRead, sto, mayStart, closedDl, persisted]
    m.1 (hadTrust m b).1 :=
  .intro (by unfold hadTrust; frame)
@[simp] theorem hadTrust_gen (m : M) (b : List Bool) : (hadTrust m b).1.gen = m.1.gen := (hadTrust_writes m b).gen
@[simp] theorem hadTrust_n (m : M) (b : List Bool) : (hadTrust m b).1.n = m.1.n := (hadTrust_writes m b).n
@[simp] theorem hadTrust_diskOKi (m : M) (b : List Bool) (i : Nat) : (hadTrust m b).1.diskOKi i = m.1.diskOKi i := (hadTrust_writes m b).diskOKi i
@[simp] theorem hadTrust_diskOK (m : M) (b : List Bool) : (hadTrust m b).1.diskOK = m.1.diskOK := (hadTrust_writes m b).diskOK

structure Fr_handleAllocationDone (s s' : St) : Prop where
  cfg : s'.cfg = s.cfg
  info : s'.info = s.info
  infoAtAdd : s'.infoAtAdd = s.infoAtAdd
  errC : s'.errC = s.errC
  leaked : s'.leaked = s.leaked
  bad : s'.bad = s.bad
  isize : s'.isize = s.isize
  maxMeta : s'.maxMeta = s.maxMeta
  parMeta : s'.parMeta = s.parMeta
  metaDone : s'.metaDone = s.metaDone
  nUnchoke : s'.nUnchoke = s.nUnchoke
  nOptimistic : s'.nOptimistic = s.nOptimistic
  stopHang : s'.stopHang = s.stopHang
  dials : s'.dials = s.dials
  banned : s'.banned = s.banned
  gateWrite : s'.gateWrite = s.gateWrite
  failWrite : s'.failWrite = s.failWrite
  failOpen : s'.failOpen = s.failOpen
  failAt : s'.failAt = s.failAt
  gateWriteDone : s'.gateWriteDone = s.gateWriteDone
  tainted : s'.tainted = s.tainted
@[frame] theorem handleAllocationDone_writes (m : M) (ex mi : Bool) :
    Writes [stopAnn, allocator, verifier, completed, completeCClosed, doVerify, lastErr, loaded, gen, acceptor,
      openFiles, bf, done, writing, wflag, fileExists, known, peers, dls, idls, mayStartI, unchoked,
      optimistic, panicked, gateOpen, gateRead, sto, mayStart, closedDl, persisted]
    m.1 (handleAllocationDone m ex mi).1 :=
  have h := (hadInstall_writes m).trans (hadForget_writes _ mi)
  handleAllocationDone_cases (P := fun r => Writes _ m.1 r.1) m ex mi
    (fun b _ _ => .mono (h.trans (hadTrust_writes _ b))) (fun _ _ => .mono (h.trans (hadFresh_writes _)))
    fun _ _ => .mono (h.trans (w₂ := [verifier]) (.onSt (.intro rfl)))
theorem handleAllocationDone_frame (m : M) (ex mi : Bool) : Fr_handleAllocationDone m.1 (handleAllocationDone m ex mi).1 :=
  have h := handleAllocationDone_writes m ex mi
  ⟨h.cfg, h.info, h.infoAtAdd, h.errC, h.leaked, h.bad, h.isize, h.maxMeta, h.parMeta, h.metaDone, h.nUnchoke,
   h.nOptimistic, h.stopHang, h.dials, h.banned, h.gateWrite, h.failWrite, h.failOpen, h.failAt,
   h.gateWriteDone, h.tainted⟩
@[simp] theorem handleAllocationDone_n (m : M) (ex mi : Bool) : (handleAllocationDone m ex mi).1.n = m.1.n := (handleAllocationDone_writes m ex mi).n
@[simp] theorem handleAllocationDone_diskOKi (m : M) (ex mi : Bool) (i : Nat) : (handleAllocationDone m ex mi).1.diskOKi i = m.1.diskOKi i := (handleAllocationDone_writes m ex mi).diskOKi i
@[simp] theorem handleAllocationDone_diskOK (m : M) (ex mi : Bool) : (handleAllocationDone m ex mi).1.diskOK = m.1.diskOK := (handleAllocationDone_writes m ex mi).diskOK

@[frame] theorem hvdPre_writes (m : M) : Writes [verifier, bf, done, panicked, persisted, tainted] m.1 (hvdPre m).1 :=
  .intro (by unfold hvdPre; frame)
@[simp] theorem hvdPre_info (m : M) : (hvdPre m).1.info = m.1.info := (hvdPre_writes m).info
@[simp] theorem hvdPre_infoAtAdd (m : M) : (hvdPre m).1.infoAtAdd = m.1.infoAtAdd := (hvdPre_writes m).infoAtAdd
@[simp] theorem hvdPre_errC (m : M) : (hvdPre m).1.errC = m.1.errC := (hvdPre_writes m).errC
@[simp] theorem hvdPre_stopAnn (m : M) : (hvdPre m).1.stopAnn = m.1.stopAnn := (hvdPre_writes m).stopAnn
@[simp] theorem hvdPre_allocator (m : M) : (hvdPre m).1.allocator = m.1.allocator := (hvdPre_writes m).allocator
@[simp] theorem hvdPre_completed (m : M) : (hvdPre m).1.completed = m.1.completed := (hvdPre_writes m).completed
@[simp] theorem hvdPre_completeCClosed (m : M) : (hvdPre m).1.completeCClosed = m.1.completeCClosed := (hvdPre_writes m).completeCClosed
@[simp] theorem hvdPre_doVerify (m : M) : (hvdPre m).1.doVerify = m.1.doVerify := (hvdPre_writes m).doVerify
@[simp] theorem hvdPre_lastErr (m : M) : (hvdPre m).1.lastErr = m.1.lastErr := (hvdPre_writes m).lastErr
@[simp] theorem hvdPre_loaded (m : M) : (hvdPre m).1.loaded = m.1.loaded := (hvdPre_writes m).loaded
@[simp] theorem hvdPre_gen (m : M) : (hvdPre m).1.gen = m.1.gen := (hvdPre_writes m).gen
@[simp] theorem hvdPre_acceptor (m : M) : (hvdPre m).1.acceptor = m.1.acceptor := (hvdPre_writes m).acceptor
@[simp] theorem hvdPre_openFiles (m : M) : (hvdPre m).1.openFiles = m.1.openFiles := (hvdPre_writes m).openFiles
@[simp] theorem hvdPre_leaked (m : M) : (hvdPre m).1.leaked = m.1.leaked := (hvdPre_writes m).leaked
@[simp] theorem hvdPre_writing (m : M) : (hvdPre m).1.writing = m.1.writing := (hvdPre_writes m).writing
@[simp] theorem hvdPre_wflag (m : M) : (hvdPre m).1.wflag = m.1.wflag := (hvdPre_writes m).wflag
@[simp] theorem hvdPre_fileExists (m : M) : (hvdPre m).1.fileExists = m.1.fileExists := (hvdPre_writes m).fileExists
@[simp] theorem hvdPre_known (m : M) : (hvdPre m).1.known = m.1.known := (hvdPre_writes m).known
@[simp] theorem hvdPre_idls (m : M) : (hvdPre m).1.idls = m.1.idls := (hvdPre_writes m).idls
@[simp] theorem hvdPre_isize (m : M) : (hvdPre m).1.isize = m.1.isize := (hvdPre_writes m).isize
@[simp] theorem hvdPre_maxMeta (m : M) : (hvdPre m).1.maxMeta = m.1.maxMeta := (hvdPre_writes m).maxMeta
@[simp] theorem hvdPre_parMeta (m : M) : (hvdPre m).1.parMeta = m.1.parMeta := (hvdPre_writes m).parMeta
@[simp] theorem hvdPre_mayStartI (m : M) : (hvdPre m).1.mayStartI = m.1.mayStartI := (hvdPre_writes m).mayStartI
@[simp] theorem hvdPre_metaDone (m : M) : (hvdPre m).1.metaDone = m.1.metaDone := (hvdPre_writes m).metaDone
@[simp] theorem hvdPre_unchoked (m : M) : (hvdPre m).1.unchoked = m.1.unchoked := (hvdPre_writes m).unchoked
@[simp] theorem hvdPre_optimistic (m : M) : (hvdPre m).1.optimistic = m.1.optimistic := (hvdPre_writes m).optimistic
@[simp] theorem hvdPre_nUnchoke (m : M) : (hvdPre m).1.nUnchoke = m.1.nUnchoke := (hvdPre_writes m).nUnchoke
@[simp] theorem hvdPre_nOptimistic (m : M) : (hvdPre m).1.nOptimistic = m.1.nOptimistic := (hvdPre_writes m).nOptimistic
@[simp] theorem hvdPre_stopHang (m : M) : (hvdPre m).1.stopHang = m.1.stopHang := (hvdPre_writes m).stopHang
@[simp] theorem hvdPre_dials (m : M) : (hvdPre m).1.dials = m.1.dials := (hvdPre_writes m).dials
@[simp] theorem hvdPre_banned (m : M) : (hvdPre m).1.banned = m.1.banned := (hvdPre_writes m).banned
@[simp] theorem hvdPre_gateOpen (m : M) : (hvdPre m).1.gateOpen = m.1.gateOpen := (hvdPre_writes m).gateOpen
@[simp] theorem hvdPre_gateWrite (m : M) : (hvdPre m).1.gateWrite = m.1.gateWrite := (hvdPre_writes m).gateWrite
@[simp] theorem hvdPre_gateRead (m : M) : (hvdPre m).1.gateRead = m.1.gateRead := (hvdPre_writes m).gateRead
@[simp] theorem hvdPre_failWrite (m : M) : (hvdPre m).1.failWrite = m.1.failWrite := (hvdPre_writes m).failWrite
@[simp] theorem hvdPre_failOpen (m : M) : (hvdPre m).1.failOpen = m.1.failOpen := (hvdPre_writes m).failOpen
@[simp] theorem hvdPre_failAt (m : M) : (hvdPre m).1.failAt = m.1.failAt := (hvdPre_writes m).failAt
@[simp] theorem hvdPre_gateWriteDone (m : M) : (hvdPre m).1.gateWriteDone = m.1.gateWriteDone := (hvdPre_writes m).gateWriteDone
@[simp] theorem hvdPre_sto (m : M) : (hvdPre m).1.sto = m.1.sto := (hvdPre_writes m).sto
@[simp] theorem hvdPre_mayStart (m : M) : (hvdPre m).1.mayStart = m.1.mayStart := (hvdPre_writes m).mayStart
@[simp] theorem hvdPre_closedDl (m : M) : (hvdPre m).1.closedDl = m.1.closedDl := (hvdPre_writes m).closedDl
@[simp] theorem hvdPre_n (m : M) : (hvdPre m).1.n = m.1.n := (hvdPre_writes m).n
@[simp] theorem hvdPre_diskOKi (m : M) (i : Nat) : (hvdPre m).1.diskOKi i = m.1.diskOKi i := (hvdPre_writes m).diskOKi i
@[simp] theorem hvdPre_diskOK (m : M) : (hvdPre m).1.diskOK = m.1.diskOK := (hvdPre_writes m).diskOK
@[simp] theorem hvdPre_findPeer (m : M) (k' : Nat) : (hvdPre m).1.findPeer k' = m.1.findPeer k' := (hvdPre_writes m).findPeer k'
@[simp] theorem hvdPre_findDl (m : M) (k' : Nat) : (hvdPre m).1.findDl k' = m.1.findDl k' := (hvdPre_writes m).findDl k'

structure Fr_hvdInstall (s s' : St) : Prop where
  cfg : s'.cfg = s.cfg
  info : s'.info = s.info
  infoAtAdd : s'.infoAtAdd = s.infoAtAdd
  errC : s'.errC = s.errC
  stopAnn : s'.stopAnn = s.stopAnn
  allocator : s'.allocator = s.allocator
  doVerify : s'.doVerify = s.doVerify
  lastErr : s'.lastErr = s.lastErr
  loaded : s'.loaded = s.loaded
  gen : s'.gen = s.gen
  acceptor : s'.acceptor = s.acceptor
  openFiles : s'.openFiles = s.openFiles
  leaked : s'.leaked = s.leaked
  writing : s'.writing = s.writing
  wflag : s'.wflag = s.wflag
  fileExists : s'.fileExists = s.fileExists
  known : s'.known = s.known
  bad : s'.bad = s.bad
  peers : s'.peers = s.peers
  dls : s'.dls = s.dls
  idls : s'.idls = s.idls
  isize : s'.isize = s.isize
  maxMeta : s'.maxMeta = s.maxMeta
  parMeta : s'.parMeta = s.parMeta
  mayStartI : s'.mayStartI = s.mayStartI
  metaDone : s'.metaDone = s.metaDone
  unchoked : s'.unchoked = s.unchoked
  optimistic : s'.optimistic = s.optimistic
  nUnchoke : s'.nUnchoke = s.nUnchoke
  nOptimistic : s'.nOptimistic = s.nOptimistic
  stopHang : s'.stopHang = s.stopHang
  dials : s'.dials = s.dials
  banned : s'.banned = s.banned
  gateOpen : s'.gateOpen = s.gateOpen
  gateWrite : s'.gateWrite = s.gateWrite
  gateRead : s'.gateRead = s.gateRead
  failWrite : s'.failWrite = s.failWrite
  failOpen : s'.failOpen = s.failOpen
  failAt : s'.failAt = s.failAt
  gateWriteDone : s'.gateWriteDone = s.gateWriteDone
  sto : s'.sto = s.sto
  mayStart : s'.mayStart = s.mayStart
  closedDl : s'.closedDl = s.closedDl
@[frame] theorem hvdInstall_writes (m : M) :
    Writes [verifier, completed, completeCClosed, bf, done, panicked, persisted, tainted]
    m.1 (hvdInstall m).1 :=
  .intro (by rw [hvdInstall_eq]; frame)
theorem hvdInstall_frame (m : M) : Fr_hvdInstall m.1 (hvdInstall m).1 :=
  have h := hvdInstall_writes m
  ⟨h.cfg, h.info, h.infoAtAdd, h.errC, h.stopAnn, h.allocator, h.doVerify, h.lastErr, h.loaded, h.gen,
   h.acceptor, h.openFiles, h.leaked, h.writing, h.wflag, h.fileExists, h.known, h.bad, h.peers, h.dls, h.idls,
   h.isize, h.maxMeta, h.parMeta, h.mayStartI, h.metaDone, h.unchoked, h.optimistic, h.nUnchoke, h.nOptimistic,
   h.stopHang, h.dials, h.banned, h.gateOpen, h.gateWrite, h.gateRead, h.failWrite, h.failOpen, h.failAt,
   h.gateWriteDone, h.sto, h.mayStart, h.closedDl⟩
@[simp] theorem hvdInstall_diskOK (m : M) : (hvdInstall m).1.diskOK = m.1.diskOK := (hvdInstall_writes m).diskOK
@[simp] theorem hvdInstall_findPeer (m : M) (k' : Nat) : (hvdInstall m).1.findPeer k' = m.1.findPeer k' := (hvdInstall_writes m).findPeer k'
@[simp] theorem hvdInstall_findDl (m : M) (k' : Nat) : (hvdInstall m).1.findDl k' = m.1.findDl k' := (hvdInstall_writes m).findDl k'

@[frame] theorem hvdHaves_writes (m : M) : Writes [peers] m.1 (hvdHaves m).1 :=
  .intro (by unfold hvdHaves; frame)
@[simp] theorem hvdHaves_lastErr (m : M) : (hvdHaves m).1.lastErr = m.1.lastErr := (hvdHaves_writes m).lastErr
@[simp] theorem hvdHaves_acceptor (m : M) : (hvdHaves m).1.acceptor = m.1.acceptor := (hvdHaves_writes m).acceptor
@[simp] theorem hvdHaves_openFiles (m : M) : (hvdHaves m).1.openFiles = m.1.openFiles := (hvdHaves_writes m).openFiles
@[simp] theorem hvdHaves_done (m : M) : (hvdHaves m).1.done = m.1.done := (hvdHaves_writes m).done
@[simp] theorem hvdHaves_wflag (m : M) : (hvdHaves m).1.wflag = m.1.wflag := (hvdHaves_writes m).wflag
@[simp] theorem hvdHaves_known (m : M) : (hvdHaves m).1.known = m.1.known := (hvdHaves_writes m).known
@[simp] theorem hvdHaves_mayStartI (m : M) : (hvdHaves m).1.mayStartI = m.1.mayStartI := (hvdHaves_writes m).mayStartI
@[simp] theorem hvdHaves_unchoked (m : M) : (hvdHaves m).1.unchoked = m.1.unchoked := (hvdHaves_writes m).unchoked
@[simp] theorem hvdHaves_optimistic (m : M) : (hvdHaves m).1.optimistic = m.1.optimistic := (hvdHaves_writes m).optimistic
@[simp] theorem hvdHaves_gateOpen (m : M) : (hvdHaves m).1.gateOpen = m.1.gateOpen := (hvdHaves_writes m).gateOpen
@[simp] theorem hvdHaves_gateRead (m : M) : (hvdHaves m).1.gateRead = m.1.gateRead := (hvdHaves_writes m).gateRead
@[simp] theorem hvdHaves_sto (m : M) : (hvdHaves m).1.sto = m.1.sto := (hvdHaves_writes m).sto
@[simp] theorem hvdHaves_mayStart (m : M) : (hvdHaves m).1.mayStart = m.1.mayStart := (hvdHaves_writes m).mayStart
@[simp] theorem hvdHaves_closedDl (m : M) : (hvdHaves m).1.closedDl = m.1.closedDl := (hvdHaves_writes m).closedDl
@[simp] theorem hvdHaves_tainted (m : M) : (hvdHaves m).1.tainted = m.1.tainted := (hvdHaves_writes m).tainted
@[simp] theorem hvdHaves_status (m : M) : (hvdHaves m).1.status = m.1.status := (hvdHaves_writes m).status
@[simp] theorem hvdHaves_n (m : M) : (hvdHaves m).1.n = m.1.n := (hvdHaves_writes m).n
@[simp] theorem hvdHaves_diskOKi (m : M) (i : Nat) : (hvdHaves m).1.diskOKi i = m.1.diskOKi i := (hvdHaves_writes m).diskOKi i
@[simp] theorem hvdHaves_diskOK (m : M) : (hvdHaves m).1.diskOK = m.1.diskOK := (hvdHaves_writes m).diskOK
@[simp] theorem hvdHaves_findDl (m : M) (k' : Nat) : (hvdHaves m).1.findDl k' = m.1.findDl k' := (hvdHaves_writes m).findDl k'

structure Fr_handleVerificationDone (s s' : St) : Prop where
  cfg : s'.cfg = s.cfg
  info : s'.info = s.info
  infoAtAdd : s'.infoAtAdd = s.infoAtAdd
  errC : s'.errC = s.errC
  gen : s'.gen = s.gen
  leaked : s'.leaked = s.leaked
  bad : s'.bad = s.bad
  isize : s'.isize = s.isize
  maxMeta : s'.maxMeta = s.maxMeta
  parMeta : s'.parMeta = s.parMeta
  metaDone : s'.metaDone = s.metaDone
  nUnchoke : s'.nUnchoke = s.nUnchoke
  nOptimistic : s'.nOptimistic = s.nOptimistic
  stopHang : s'.stopHang = s.stopHang
  dials : s'.dials = s.dials
  banned : s'.banned = s.banned
  gateWrite : s'.gateWrite = s.gateWrite
  failWrite : s'.failWrite = s.failWrite
  failOpen : s'.failOpen = s.failOpen
  failAt : s'.failAt = s.failAt
  gateWriteDone : s'.gateWriteDone = s.gateWriteDone
@[frame] theorem handleVerificationDone_writes (m : M) :
    Writes [stopAnn, allocator, verifier, completed, completeCClosed, doVerify, lastErr, loaded, acceptor,
      openFiles, bf, done, writing, wflag, fileExists, known, peers, dls, idls, mayStartI, unchoked,
      optimistic, panicked, gateOpen, gateRead, sto, mayStart, closedDl, persisted, tainted]
    m.1 (handleVerificationDone m).1 :=
  have h := hvdInstall_writes m
  handleVerificationDone_cases (P := fun r => Writes _ m.1 r.1) m
    (fun _ => .mono (h.trans (.onSt (stop_noVerify_writes _))))
    fun _ => .mono ((h.trans (hvdHaves_writes _)).trans (hadCheck_writes _))
theorem handleVerificationDone_frame (m : M) : Fr_handleVerificationDone m.1 (handleVerificationDone m).1 :=
  have h := handleVerificationDone_writes m
  ⟨h.cfg, h.info, h.infoAtAdd, h.errC, h.gen, h.leaked, h.bad, h.isize, h.maxMeta, h.parMeta, h.metaDone,
   h.nUnchoke, h.nOptimistic, h.stopHang, h.dials, h.banned, h.gateWrite, h.failWrite, h.failOpen, h.failAt,
   h.gateWriteDone⟩
@[simp] theorem handleVerificationDone_errC (m : M) : (handleVerificationDone m).1.errC = m.1.errC := (handleVerificationDone_frame m).errC
@[simp] theorem handleVerificationDone_gen (m : M) : (handleVerificationDone m).1.gen = m.1.gen := (handleVerificationDone_frame m).gen
@[simp] theorem handleVerificationDone_nUnchoke (m : M) : (handleVerificationDone m).1.nUnchoke = m.1.nUnchoke := (handleVerificationDone_frame m).nUnchoke
@[simp] theorem handleVerificationDone_nOptimistic (m : M) : (handleVerificationDone m).1.nOptimistic = m.1.nOptimistic := (handleVerificationDone_frame m).nOptimistic
@[simp] theorem handleVerificationDone_banned (m : M) : (handleVerificationDone m).1.banned = m.1.banned := (handleVerificationDone_frame m).banned
@[simp] theorem handleVerificationDone_n (m : M) : (handleVerificationDone m).1.n = m.1.n := (handleVerificationDone_writes m).n
@[simp] theorem handleVerificationDone_diskOK (m : M) : (handleVerificationDone m).1.diskOK = m.1.diskOK := (handleVerificationDone_writes m).diskOK

end Rain.Loop
