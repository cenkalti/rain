import RainModel.Lemmas.LoopPersist
import RainModel.Lemmas.LoopShrink
/-!
The invariant `WrOK` of the piece writer's held results (`WriteJob.written`, `gate writeDone`): a written job of the
current generation on loaded pieces has its bytes on disk.  `Running` (neither stopped nor stopping), which every
later file reads the lifecycle by, is defined here.
-/
namespace Rain.Loop

/-- `s` is neither stopped nor stopping. -/
def Running (s : St) : Prop := s.errC = true ∧ s.stopAnn = false

theorem Running.congr {s s' : St} (hr : Running s) (h1 : s'.errC = s.errC) (h2 : s'.stopAnn = s.stopAnn) :
    Running s' := ⟨h1 ▸ hr.1, h2 ▸ hr.2⟩

theorem Running.of_writes {w : List Fld} {s s' : St} (hr : Running s) (hW : Writes w s s')
    (he : Fld.errC ∉ w := by decide) (hs : Fld.stopAnn ∉ w := by decide) : Running s' :=
  hr.congr (hW.errC he) (hW.stopAnn hs)

theorem not_running {s : St} (h : ¬ Running s) : s.errC = false ∨ s.stopAnn = true := by
  unfold Running at h
  cases he : s.errC <;> cases hs : s.stopAnn <;> simp_all

theorem Running.status {s : St} (hr : Running s) : ¬(s.status = .stopping ∨ s.status = .stopped) := by
  rw [status_stopping_iff, status_stopped_iff, hr.1, hr.2]
  exact fun h => h.elim (fun h => Bool.noConfusion h.2) Bool.noConfusion

theorem Running.of_status {s : St} (h : ¬(s.status = .stopping ∨ s.status = .stopped)) : Running s := by
  rw [status_stopping_iff, status_stopped_iff] at h
  unfold Running
  cases he : s.errC <;> cases hs : s.stopAnn <;> simp_all

/-- Of a running torrent the lifecycle clauses (`WrOK.idle`, `Life.idle`) hold vacuously. -/
theorem Running.idle {s : St} (hr : Running s) {P : Prop} (h : s.errC = false ∨ s.stopAnn = true) : P := by
  rw [hr.1, hr.2] at h
  exact h.elim Bool.noConfusion Bool.noConfusion

/-- The held results of the piece writer are truthful, and the lifecycle facts that keep them so: a job whose
storage calls have returned (`written`) and which is still current (same generation, pieces loaded) has its
piece's bytes on disk; no job comes from the future; a stopped or stopping torrent has nothing loaded, no
allocator, no verifier, no acceptor and no peers (so files are only ever changed behind the back of a torrent
whose held jobs are stale). -/
structure WrOK (s : St) : Prop where
  ok : ∀ w, s.writing = some w → w.written = true → w.gen = s.gen → s.loaded = true → s.diskOKi w.piece = true
  wg : ∀ w, s.writing = some w → w.gen ≤ s.gen
  idle : (s.errC = false ∨ s.stopAnn = true) →
    s.loaded = false ∧ s.allocator = false ∧ s.verifier = false ∧ s.acceptor = false ∧ s.peers = []

/-- A lifecycle clause (`WrOK.idle`, `Life.idle`) read backwards: whoever holds anything is running. -/
theorem Running.of_held {s : St} {P : Prop} (idle : (s.errC = false ∨ s.stopAnn = true) → P) (hn : ¬P) : Running s :=
  Classical.byContradiction fun hr => hn (idle (not_running hr))

theorem WrOK.running_of_loaded {s : St} (h : WrOK s) (hl : s.loaded = true) : Running s :=
  .of_held h.idle fun i => by simp [i.1] at hl

theorem WrOK.running_of_alloc {s : St} (h : WrOK s) (hl : s.allocator = true) : Running s :=
  .of_held h.idle fun i => by simp [i.2.1] at hl

theorem WrOK.running_of_ver {s : St} (h : WrOK s) (hl : s.verifier = true) : Running s :=
  .of_held h.idle fun i => by simp [i.2.2.1] at hl

/-- The guard of the peer-facing arms of `handle` (`handle_ind`): the acceptor runs or a peer is connected. -/
theorem WrOK.running_of_conn {s : St} (h : WrOK s) (hg : s.acceptor = true ∨ s.peers ≠ []) : Running s :=
  .of_held h.idle fun i => hg.elim (by simp [i.2.2.2.1]) (· i.2.2.2.2)

theorem WrOK.running_of_peer {s : St} (h : WrOK s) {k : Nat} (hk : (s.findPeer k).isSome = true) : Running s :=
  h.running_of_conn (.inr fun hn => by simp [St.findPeer, hn] at hk)

theorem WrOK.of_released {s : St} (i : s.loaded = false ∧ s.allocator = false ∧ s.verifier = false ∧
    s.acceptor = false ∧ s.peers = []) (wg : ∀ w, s.writing = some w → w.gen ≤ s.gen) : WrOK s :=
  ⟨fun _ _ _ _ hl => Bool.noConfusion (i.1.symm.trans hl), wg, fun _ => i⟩

theorem diskOKi_mono {s s' : St} (hc : s'.cfg = s.cfg) (h : ∀ x ∈ s'.bad, x ∈ s.bad) (i : Nat) (hi : s.diskOKi i = true) :
    s'.diskOKi i = true := by
  rw [diskOKi_eq_true] at *
  exact ⟨fun x hx => hi.1 x (h x hx), hc ▸ hi.2⟩

theorem WrOK.jobs_frame {s s' : St} (h : WrOK s) (hc : s'.cfg = s.cfg) (hb : ∀ x ∈ s'.bad, x ∈ s.bad)
    (hw : s'.writing = s.writing ∨ s'.writing = none ∨ ∃ w, s'.writing = some w ∧ w.written = false ∧ w.gen = s'.gen)
    (hg : s'.gen = s.gen) (hl : s'.loaded = true → s.loaded = true) :
    (∀ w, s'.writing = some w → w.written = true → w.gen = s'.gen → s'.loaded = true → s'.diskOKi w.piece = true) ∧
    (∀ w, s'.writing = some w → w.gen ≤ s'.gen) := by
  rcases hw with hw | hw | ⟨w, hw, hwr, hg'⟩
  · rw [hw, hg]
    exact ⟨fun w a b c d => diskOKi_mono hc hb _ (h.ok w a b c (hl d)), h.wg⟩
  · rw [hw]
    exact ⟨fun w a => (by cases a), fun w a => (by cases a)⟩
  · rw [hw]
    exact ⟨fun w' a b => (by cases a; rw [hwr] at b; cases b), fun w' a => (by cases a; exact Nat.le_of_eq hg')⟩

/-- On a running torrent the lifecycle clause is vacuous.  For a record update of other fields every hypothesis is
`rfl`, which is the default. -/
theorem WrOK.congrR {s s' : St} (h : WrOK s) (hr : Running s) (he : s'.errC = s.errC := by rfl)
    (hs : s'.stopAnn = s.stopAnn := by rfl) (hc : s'.cfg = s.cfg := by rfl) (hb : s'.bad = s.bad := by rfl)
    (hw : s'.writing = s.writing := by rfl) (hg : s'.gen = s.gen := by rfl) (hl : s'.loaded = s.loaded := by rfl) :
    WrOK s' := by
  obtain ⟨a, b⟩ := h.jobs_frame hc (fun x hx => hb ▸ hx) (Or.inl hw) hg (fun h => hl ▸ h)
  exact ⟨a, b, (hr.congr he hs).idle⟩

/-- In any lifecycle state (the job may be dropped or new, peers may be closed). -/
theorem WrOK.of_frame {s s' : St} (h : WrOK s) (he : s'.errC = s.errC := by rfl) (hs : s'.stopAnn = s.stopAnn := by rfl)
    (hc : s'.cfg = s.cfg := by rfl) (hb : s'.bad = s.bad := by rfl)
    (hw : s'.writing = s.writing ∨ s'.writing = none ∨ ∃ w, s'.writing = some w ∧ w.written = false ∧ w.gen = s'.gen := by
      exact Or.inl rfl) (hg : s'.gen = s.gen := by rfl)
    (hl : s'.loaded = s.loaded := by rfl) (ha : s'.allocator = s.allocator := by rfl)
    (hv : s'.verifier = s.verifier := by rfl) (hac : s'.acceptor = s.acceptor := by rfl)
    (hp : s.peers = [] → s'.peers = [] := by exact id) : WrOK s' := by
  obtain ⟨a, b⟩ := h.jobs_frame hc (fun x hx => hb ▸ hx) hw hg (fun h => hl ▸ h)
  refine ⟨a, b, ?_⟩
  rw [he, hs, hl, ha, hv, hac]
  intro hh
  obtain ⟨i1, i2, i3, i4, i5⟩ := h.idle hh
  exact ⟨i1, i2, i3, i4, hp i5⟩

theorem WrOK.of_writesR {w : List Fld} {s s' : St} (h : WrOK s) (hr : Running s) (hW : Writes w s s')
    (hw : ∀ x ∈ [Fld.errC, .stopAnn, .cfg, .bad, .writing, .gen, .loaded], x ∉ w := by decide) : WrOK s' := by
  simp only [List.forall_mem_cons, List.not_mem_nil, false_imp_iff, implies_true, and_true] at hw
  obtain ⟨e, sa, c, b, wr, g, l⟩ := hw
  exact h.congrR hr (hW.errC e) (hW.stopAnn sa) (hW.cfg c) (hW.bad b) (hW.writing wr) (hW.gen g) (hW.loaded l)

theorem WrOK.of_writes {w : List Fld} {s s' : St} (h : WrOK s) (hW : Writes w s s') (hp : s.peers = [] → s'.peers = [])
    (hw : ∀ x ∈ [Fld.errC, .stopAnn, .cfg, .bad, .writing, .gen, .loaded, .allocator, .verifier, .acceptor], x ∉ w := by
      decide) : WrOK s' := by
  simp only [List.forall_mem_cons, List.not_mem_nil, false_imp_iff, implies_true, and_true] at hw
  obtain ⟨e, sa, c, b, wr, g, l, al, v, ac⟩ := hw
  exact h.of_frame (hW.errC e) (hW.stopAnn sa) (hW.cfg c) (hW.bad b) (Or.inl (hW.writing wr)) (hW.gen g) (hW.loaded l)
    (hW.allocator al) (hW.verifier v) (hW.acceptor ac) hp

theorem stop_wrOK (s : St) (e : Bool) (h : WrOK s) : WrOK (s.stop e) := by
  refine stop_cases s e h fun _ => ?_
  have F := stopRun_fields s e
  have hW := stopRun_writes s e
  exact .of_released ⟨F.loaded, F.allocator, F.verifier, F.acceptor, F.peers⟩ fun w a => hW.gen ▸ h.wg w (hW.writing ▸ a)

theorem closePeer_of_no_peers (s : St) (k : Nat) (h : s.peers = []) : s.closePeer k = s := by
  unfold St.closePeer
  simp [St.findPeer, h]

/-- The message handlers keep `WrOK` whatever the lifecycle state: no peer comes out of nothing, and a job they hand
to the writer is new. -/
theorem handlePieceMessage_wrOK (m : M) (k i b l : Nat) (g : Bool) (h : WrOK m.1) :
    WrOK (handlePieceMessage m k i b l g).1 :=
  have hW := handlePieceMessage_writes m k i b l g
  h.of_frame hW.errC hW.stopAnn hW.cfg hW.bad
    (handlePieceMessage_ind (fun x => x.1.writing = m.1.writing ∨ x.1.writing = none ∨
        ∃ w, x.1.writing = some w ∧ w.written = false ∧ w.gen = x.1.gen) m k i b l g (fun _ hW => .inl hW.writing)
      fun _ w _ hw hwr hg => .inr (.inr ⟨w, hw, hwr, hg⟩))
    hW.gen hW.loaded hW.allocator hW.verifier hW.acceptor (handlePieceMessage_shrinks m k i b l g (.refl _)).peers_nil

theorem handlePeerMessage_wrOK (m : M) (k : Nat) (msg : Msg) (h : WrOK m.1) : WrOK (handlePeerMessage m k msg).1 := by
  by_cases hp : ∃ i b l g, msg = .piece i b l g
  · obtain ⟨i, b, l, g, rfl⟩ := hp
    exact handlePieceMessage_wrOK m k i b l g h
  · exact h.of_writes (handlePeerMessage_writes_of_ne_piece m k msg fun i b l g he => hp ⟨i, b, l, g, he⟩)
      (handlePeerMessage_shrinks m k msg (.refl _)).peers_nil

theorem processQueued_wrOK (m : M) (h : WrOK m.1) : WrOK (processQueued m).1 := by
  unfold processQueued
  refine foldl_inv (fun x : M => WrOK x.1) _ (fun x k hx => ?_) _ _ h
  split
  · exact hx
  · exact foldl_inv (fun y : M => WrOK y.1) _ (fun y msg hy => ite_ind (P := fun z : M => WrOK z.1) (fun _ => handlePeerMessage_wrOK y k msg hy) fun _ => hy)
      _ _ (hx.of_frame (hp := fun hp => by simp [St.updPeer, hp]))

theorem startCore_wrOK (m : M) (h : WrOK m.1) : WrOK (startCore m).1 := by
  have hW := startCore_writes m
  obtain ⟨a, b⟩ := h.jobs_frame hW.cfg (fun x hx => hW.bad ▸ hx) (Or.inl hW.writing) hW.gen (fun h => hW.loaded ▸ h)
  exact ⟨a, b, Running.idle ⟨(startCore_fields m).1, (startCore_fields m).2.1⟩⟩

theorem handleStopped_wrOK (m : M) (h : WrOK m.1) (hs : m.1.stopAnn = true) : WrOK (handleStopped m).1 := by
  have h0 : WrOK ({ m.1 with stopAnn := false, errC := false } : St) := .of_released (h.idle (Or.inr hs)) h.wg
  unfold handleStopped
  dsimp only
  split
  · exact startCore_wrOK _ (h0.of_frame)
  · exact h0

theorem start_wrOK (m : M) (h : WrOK m.1) : WrOK (start m).1 :=
  start_inv m h (fun hs => handleStopped_wrOK _ h.of_frame hs) fun x hx _ => startCore_wrOK x hx

theorem handleVerifyCommand_wrOK (m : M) (h : WrOK m.1) : WrOK (handleVerifyCommand m).1 :=
  handleVerifyCommand_cases (P := fun x => WrOK x.1) m (fun _ => startCore_wrOK _ h.of_frame)
    fun _ => onSt_stop _ _ _ (stop_wrOK _ _ h.of_frame)

theorem hmdStart_wrOK (m : M) (h : WrOK m.1) (hr : Running m.1) : WrOK (hmdStart m).1 :=
  hmdStart_cases (P := fun x => WrOK x.1) m (fun _ => onSt_stop _ _ _ (stop_wrOK _ _ h))
    fun _ => h.of_writesR hr (hmdStart_alloc_writes m)

theorem hmdAdopt_wrOK (m : M) (h : WrOK m.1) (hr : Running m.1) : WrOK (hmdAdopt m).1 :=
  have h0 : WrOK ({ m.1 with idls := [] } : St) := h.congrR hr
  hmdAdopt_cases (P := fun x => WrOK x.1) m (fun _ => onSt_stop _ _ _ (stop_wrOK _ _ h0))
    fun _ _ => hmdStart_wrOK (_, m.2) (h.congrR hr) (hr.congr rfl rfl)

theorem handleMetadataData_wrOK (m : M) (k i len : Nat) (g : Bool) (h : WrOK m.1) (hr : Running m.1) :
    WrOK (handleMetadataData m k i len g).1 :=
  handleMetadataData_ind WrOK m k i len g (fun _ hW => h.of_writesR hr hW)
    fun _ hW => hmdAdopt_wrOK _ (h.of_writesR hr hW) (hr.of_writes hW)

theorem mutate_wrOK (s : St) (f : Option Nat) (how : Mut) (h : WrOK s) (he : s.errC = false) : WrOK (mutate s f how) := by
  have hW := mutate_writes s f how
  refine .of_released ?_ fun w a => hW.gen ▸ h.wg w (hW.writing ▸ a)
  rw [hW.loaded, hW.allocator, hW.verifier, hW.acceptor, hW.peers]
  exact h.idle (Or.inl he)

theorem checkCompletion_wrOK (s : St) (h : WrOK s) (hr : Running s) : WrOK s.checkCompletion.1 :=
  h.of_writesR hr (checkCompletion_writes s)

theorem hadCheck_wrOK (m : M) (h : WrOK m.1) (hr : Running m.1) : WrOK (hadCheck m).1 := by
  have h1 := checkCompletion_wrOK m.1 h hr
  have hr1 : Running m.1.checkCompletion.1 := hr.of_writes (checkCompletion_writes m.1)
  have hr2 := hr1.of_writes (processQueued_writes (m.1.checkCompletion.1, m.2))
  have h3 : WrOK { (processQueued (m.1.checkCompletion.1, m.2)).1 with acceptor := true } :=
    (processQueued_wrOK _ h1).congrR hr2
  exact hadCheck_cases (P := fun x => WrOK x.1) m (fun _ => onSt_stop _ _ _ (stop_wrOK _ _ h1))
    (h3.of_writesR (hr2.congr rfl rfl) (startDls_writes _))

theorem hadFresh_wrOK (m : M) (h : WrOK m.1) (hr : Running m.1) : WrOK (hadFresh m).1 := by
  have hW := hadFreshInstall_writes m
  have h1 : WrOK (hadFreshInstall m).1 := h.of_writesR hr hW
  have hr1 : Running (hadFreshInstall m).1 := hr.of_writes hW
  exact hadFresh_cases (P := fun x => WrOK x.1) m (fun _ => onSt_stop _ _ _ (stop_wrOK _ _ (h1.congrR hr1)))
    fun _ => hadCheck_wrOK _ h1 hr1

theorem handleAllocationDone_wrOK (m : M) (ex mi : Bool) (h : WrOK m.1) (hr : Running m.1) :
    WrOK (handleAllocationDone m ex mi).1 := by
  have hr0 : Running (hadForget (hadInstall m) mi).1 :=
    (hr.of_writes (hadInstall_writes m)).of_writes (hadForget_writes _ mi)
  have h0 : WrOK (hadForget (hadInstall m) mi).1 := by
    have hg : (hadForget (hadInstall m) mi).1.gen = m.1.gen + 1 := by simp [hadInstall]
    have hw : (hadForget (hadInstall m) mi).1.writing = m.1.writing := by simp
    refine ⟨fun w a b c _ => ?_, fun w a => ?_, hr0.idle⟩
    · have := h.wg w (hw ▸ a)
      omega
    · have := h.wg w (hw ▸ a)
      omega
  refine handleAllocationDone_cases (P := fun x => WrOK x.1) m ex mi (fun b _ _ => ?_)
    (fun _ _ => hadFresh_wrOK _ h0 hr0) fun _ _ => ?_
  · have hW : Writes [.bf, .done] (hadForget (hadInstall m) mi).1
        (onSt (hadForget (hadInstall m) mi) fun s => ({ s with done := b }).markPaddingPieces).1 := .intro (by frame)
    exact hadCheck_wrOK _ (h0.of_writesR hr0 hW) (hr0.of_writes hW)
  · rw [onSt_fst]; exact h0.congrR hr0

theorem allocatorRun_wrOK (m : M) (h : WrOK m.1) (ha : m.1.allocator = true) : WrOK (allocatorRun m).1 := by
  have hr := h.running_of_alloc ha
  have hF := (allocFailOpen_writes m).trans (hadForget_writes _ (allocFailMissing m.1))
  have hW := allocOkOpen_writes m
  exact allocatorRun_cases (P := fun x => WrOK x.1) m (fun _ => onSt_stop _ _ _ (stop_wrOK _ _ (h.of_writesR hr hF)))
    fun _ => handleAllocationDone_wrOK _ _ _ (h.of_writesR hr hW) (hr.of_writes hW)

theorem handleVerificationDone_wrOK (m : M) (h : WrOK m.1) (hv : m.1.verifier = true) :
    WrOK (handleVerificationDone m).1 := by
  have hr := h.running_of_ver hv
  have hW := hvdInstall_writes m
  have h1 : WrOK (hvdInstall m).1 := h.of_writesR hr hW
  have hr1 : Running (hvdInstall m).1 := hr.of_writes hW
  have hW2 := hvdHaves_writes (hvdInstall m)
  exact handleVerificationDone_cases (P := fun x => WrOK x.1) m (fun _ => onSt_stop _ _ _ (stop_wrOK _ _ (h1.congrR hr1)))
    fun _ => hadCheck_wrOK _ (h1.of_writesR hr1 hW2) (hr1.of_writes hW2)

theorem pwdFinish_wrOK (m : M) (h : WrOK m.1) (hr : Running m.1) : WrOK (pwdFinish m).1 := by
  have h1 := checkCompletion_wrOK m.1 h hr
  have hr1 : Running m.1.checkCompletion.1 := hr.of_writes (checkCompletion_writes m.1)
  have h2 : WrOK m.1.checkCompletion.1.writeBitfield := h1.of_writesR hr1 (writeBitfield_writes _)
  exact pwdFinish_cases (P := fun x => WrOK x.1) m (fun _ => h1) (fun _ => h2) fun _ => onSt_stop _ _ _ (stop_wrOK _ _ h2)

theorem handlePieceWriteDone_wrOK (m : M) (w : WriteJob) (e : Bool) (h : WrOK m.1) :
    WrOK (handlePieceWriteDone m w e).1 :=
  have hW0 := pwdReset_writes m w
  have h0 : WrOK (pwdReset m w).1 := h.of_frame (hw := .inr (.inl rfl))
  have run := fun hl : m.1.loaded = true => (h.running_of_loaded hl).of_writes hW0
  have hW1 := pwdDone_writes (pwdReset m w) w
  handlePieceWriteDone_cases (P := fun x => WrOK x.1) m w e
    (fun _ => h0.of_writes (pwdBan_writes _ w) (pwdBan_shrinks _ w (.refl _)).peers_nil) (fun _ _ => h0)
    (fun _ _ _ _ => onSt_stop _ _ _ (stop_wrOK _ _ h0))
    (fun _ _ _ hl _ => (h0.of_writesR (run hl) hW1).of_writesR ((run hl).of_writes hW1) (crash_writes _ _))
    fun b _ _ _ hl _ =>
      have hW2 := ((hW1.trans (pwdSet_writes _ w b)).trans (pwdOthers_writes _ w)).trans (pwdHaves_writes _ w)
      pwdFinish_wrOK _ (h0.of_writesR (run hl) hW2) ((run hl).of_writes hW2)

/-- The piece writer's storage calls for a current job: the bytes of the piece are on disk afterwards. -/
theorem written_diskOKi (s : St) (piece : Nat) (sc : Sect) (l : List Sect)
    (hs : ((s.cfg.sections piece).filter fun sc => !(s.cfg.fpads.getD sc.file false)) = sc :: l)
    (x : St) (hc : x.cfg = s.cfg) (hb : x.bad = s.bad.filter (fun b => b.1 ≠ piece)) :
    x.diskOKi piece = true := by
  have hpad : s.cfg.padOK piece = true := padOK_of_stored (by rw [hs]; simp)
  simp [St.diskOKi, hpad, hb, hc]

theorem writerRun_wrOK (m : M) (w : WriteJob) (h : WrOK m.1) (hw : m.1.writing = some w) : WrOK (writerRun m w).1 := by
  refine writerRun_cases (P := fun x => WrOK x.1) m w (fun _ => handlePieceWriteDone_wrOK _ _ _ h)
    (fun _ => handlePieceWriteDone_wrOK _ _ _ h) (fun _ => handlePieceWriteDone_wrOK _ _ _ h.of_frame)
    fun sc l sto hs _ _ hl _ => ?_
  -- the bytes are written: a held result is truthful
  obtain ⟨a, b⟩ := h.jobs_frame (s' := { m.1 with sto := sto, bad := m.1.bad.filter (fun b => b.1 ≠ w.piece) })
    rfl (fun y hy => (List.mem_filter.1 hy).1) (Or.inl rfl) rfl id
  refine ⟨⟨fun w' a _ _ _ => ?_, fun w' a => ?_, (h.running_of_loaded hl).idle⟩,
    handlePieceWriteDone_wrOK _ _ _ ⟨a, b, h.idle⟩⟩
  · cases a
    exact written_diskOKi m.1 w.piece sc l hs _ rfl rfl
  · cases a
    exact h.wg w hw

theorem runWorkers_wrOK (fuel : Nat) (m : M) (h : WrOK m.1) : WrOK (runWorkers fuel m).1 :=
  runWorkers_inv (P := fun x => WrOK x.1) (fun m hs _ h => handleStopped_wrOK m h hs) (fun m ha h => allocatorRun_wrOK m h ha)
    (fun m hv h => handleVerificationDone_wrOK m h hv) (fun m w _ _ h => handlePieceWriteDone_wrOK m w false h)
    (fun m w hw h => writerRun_wrOK m w h hw) fuel m h

theorem handle_wrOK (s : St) (p : Parked) (kn : Nat → Bool) (op : Op) (h : WrOK s) : WrOK (handle s p kn op).1.1 :=
  handle_ind s p kn op (fun _ _ _ _ _ _ _ _ _ _ _ ht => ht.of_frame) h (start_wrOK (s, []) h) (stop_wrOK _ _ h.of_frame)
    (fun _ => handleVerifyCommand_wrOK _ h.of_frame) (fun f how _ _ he => mutate_wrOK s f how h he)
    (fun _ hW hr => h.of_writesR (h.running_of_conn hr) hW)
    (fun _ hW => h.of_writes hW fun hp => hW.peers.trans hp)
    (fun k i b l g _ _ => handlePieceMessage_wrOK (s, []) k i b l g h)
    fun k i len g _ hk => handleMetadataData_wrOK (s, []) k i len g h (h.running_of_peer hk)

theorem step_wrOK (s : St) (p : Parked) (kn : Nat → Bool) (op : Op) (h : WrOK s) : WrOK (step s p kn op).1.st :=
  step_inv s p kn op (handle_wrOK _ p kn op h.of_frame) (fun m => runWorkers_wrOK 12 m)
    fun m k i b l g hm _ => handlePieceMessage_wrOK m k i b l g hm

theorem dstep_wrOK (sp : St × Parked) (e : Ev) (h : WrOK sp.1) : WrOK (dstep sp e).1 := by
  unfold dstep
  have hW := reconcileIdl_writes (reconcile (step sp.1 sp.2 e.known e.op).1.st e.impl).1 e.implI
  exact ((step_wrOK sp.1 sp.2 e.known e.op h).of_writes (reconcile_writes _ e.impl)
    (ListShrinks.nil (reconcile_peers_kept _ _))).of_writes hW hW.peers.trans

theorem drun_wrOK (evs : List Ev) (sp : St × Parked) (h : WrOK sp.1) : WrOK (drun sp evs).1 :=
  foldl_inv (fun sp => WrOK sp.1) dstep dstep_wrOK evs sp h

/-- No held write result in the state, no job from the future: what a freshly added torrent satisfies. -/
def NoWritten (s : St) : Prop := ∀ w, s.writing = some w → w.written = false ∧ w.gen ≤ s.gen

theorem noWritten_of_none {s : St} (h : s.writing = none) : NoWritten s := fun w hw => by rw [h] at hw; cases hw

end Rain.Loop
