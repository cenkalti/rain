import RainModel.Model.Cache
import RainModel.Lemmas.ListFacts
/-!
Helper lemmas for M-CACHE: the invariant is preserved by every operation, `makeRoom` never panics
from an invariant state, and every cached value was returned by a loader for its key.
-/
set_option linter.unusedSectionVars false
namespace Rain.Cache
variable {κ : Type} [DecidableEq κ]

theorem removeKey_cons_eq (k : κ) (i : Item κ) (r : List (Item κ)) (h : i.key = k) :
    removeKey k (i :: r) = removeKey k r := by
  simp [removeKey, h]

theorem removeKey_cons_ne (k : κ) (i : Item κ) (r : List (Item κ)) (h : i.key ≠ k) :
    removeKey k (i :: r) = i :: removeKey k r := by
  simp [removeKey, h]

theorem removeKey_of_not_mem (k : κ) (h : List (Item κ)) (hk : k ∉ h.map (·.key)) : removeKey k h = h :=
  List.filter_eq_self.mpr fun _ hi => decide_eq_true fun e => hk (e ▸ List.mem_map_of_mem hi)

theorem map_key_removeKey (k : κ) (h : List (Item κ)) (hn : (h.map (·.key)).Nodup) :
    (removeKey k h).map (·.key) = (h.map (·.key)).erase k := by
  -- without duplicates, erasing `k` is filtering by `· != k`
  rw [hn.erase_eq_filter, List.filter_map]
  exact congrArg _ (List.filter_congr fun _ _ => decide_not)

theorem sumLen_removeKey (i : Item κ) (h : List (Item κ)) (hn : (h.map (·.key)).Nodup) (hi : i ∈ h) :
    sumLen (removeKey i.key h) = sumLen h - i.value.length := by
  induction h with
  | nil => cases hi
  | cons j r ih =>
    have hr : (r.map (·.key)).Nodup := (List.nodup_cons.mp hn).2
    have hj : j.key ∉ r.map (·.key) := (List.nodup_cons.mp hn).1
    rcases List.mem_cons.mp hi with e | hir
    · subst e
      rw [removeKey_cons_eq _ _ _ rfl, removeKey_of_not_mem _ _ hj]
      simp [sumLen]; omega
    · have hne : j.key ≠ i.key := fun e => hj (e ▸ List.mem_map_of_mem hir)
      rw [removeKey_cons_ne _ _ _ hne]
      simp [sumLen, ih hr hir]; omega

theorem sumLen_nonneg (h : List (Item κ)) : 0 ≤ sumLen h := by
  induction h with
  | nil => simp [sumLen]
  | cons i r ih => simp [sumLen]; omega

theorem sumLen_append (a b : List (Item κ)) : sumLen (a ++ b) = sumLen a + sumLen b := by
  induction a with
  | nil => simp [sumLen]
  | cons i r ih => simp [sumLen, ih]; omega

theorem minLast_mem {h : List (Item κ)} {v : Item κ} (hv : minLast h = some v) : v ∈ h := by
  induction h generalizing v with
  | nil => simp [minLast] at hv
  | cons i r ih =>
    unfold minLast at hv
    cases hm : minLast r with
    | none => simp [hm] at hv; simp [hv]
    | some j =>
      simp only [hm] at hv
      split at hv
      · cases hv; exact List.mem_cons_of_mem _ (ih hm)
      · cases hv; exact List.mem_cons_self

theorem minLast_none {h : List (Item κ)} (hv : minLast h = none) : h = [] := by
  cases h with
  | nil => rfl
  | cons i r =>
    unfold minLast at hv
    cases hm : minLast r <;> simp [hm] at hv
    split at hv <;> cases hv

/-! ### generalised invariant: `extra` = keys that are in the map but whose item is being loaded -/

structure InvX (extra : List κ) (c : Cache κ) : Prop where
  size_eq : c.size = sumLen c.heap
  keys_perm : c.keys.Perm (extra ++ c.heap.map (·.key))
  nodup : (extra ++ c.heap.map (·.key)).Nodup
  bound : c.heap = [] ∨ c.size ≤ c.maxSize

theorem inv_iff_invX (c : Cache κ) : Inv c ↔ InvX [] c :=
  -- `[] ++ l` is `l` by computation
  ⟨fun h => ⟨h.size_eq, h.keys_perm, h.nodup, h.bound⟩, fun h => ⟨h.size_eq, h.keys_perm, h.nodup, h.bound⟩⟩

theorem InvX.size_nonneg {extra : List κ} {c : Cache κ} (h : InvX extra c) : 0 ≤ c.size := by
  rw [h.size_eq]; exact sumLen_nonneg _

theorem removeKey_length_lt {i : Item κ} {h : List (Item κ)} (hi : i ∈ h) :
    (removeKey i.key h).length < h.length := by
  unfold removeKey
  exact List.length_filter_lt_length_iff_exists.mpr ⟨i, hi, by simp⟩

/-- `c'` is `c` after some of its items were removed (`removeItem`, any number of times, and the clock may
have moved): what `makeRoom`, a timer callback and `advance` do to a cache. -/
structure Evicted (c c' : Cache κ) : Prop where
  maxSize : c'.maxSize = c.maxSize
  ttl : c'.ttl = c.ttl
  sub : ∀ j ∈ c'.heap, j ∈ c.heap
  invX : ∀ {extra : List κ}, InvX extra c → InvX extra c'

theorem Evicted.refl (c : Cache κ) : Evicted c c := ⟨rfl, rfl, fun _ h => h, fun h => h⟩

theorem Evicted.trans {c c' c'' : Cache κ} (h : Evicted c c') (h' : Evicted c' c'') : Evicted c c'' :=
  ⟨h'.maxSize.trans h.maxSize, h'.ttl.trans h.ttl, fun j hj => h.sub j (h'.sub j hj), fun hx => h'.invX (h.invX hx)⟩

theorem Evicted.inv {c c' : Cache κ} (h : Evicted c c') (hinv : Inv c) : Inv c' :=
  (inv_iff_invX _).mpr (h.invX ((inv_iff_invX _).mp hinv))

theorem Evicted.removeItem {c : Cache κ} {i : Item κ} (hi : i ∈ c.heap) : Evicted c (c.removeItem i) := by
  refine ⟨rfl, rfl, fun j hj => (List.mem_filter.mp hj).1, fun {extra} h => ?_⟩
  obtain ⟨_, hn, hdis⟩ := List.nodup_append.mp h.nodup
  have hik : i.key ∈ c.heap.map (·.key) := List.mem_map_of_mem hi
  have hie : i.key ∉ extra := fun he => hdis _ he _ hik rfl
  have hkeys := map_key_removeKey i.key c.heap hn
  refine ⟨?_, ?_, ?_, ?_⟩
  · simp only [Cache.removeItem]; rw [sumLen_removeKey i c.heap hn hi, h.size_eq]
  · simp only [Cache.removeItem]; rw [hkeys, ← List.erase_append_right _ hie]
    exact h.keys_perm.erase _
  · simp only [Cache.removeItem]; rw [hkeys, ← List.erase_append_right _ hie]
    exact h.nodup.erase _
  · right
    simp only [Cache.removeItem]
    rcases h.bound with he | hb
    · rw [he] at hi; cases hi
    · omega

theorem makeRoom_ok {extra : List κ} (len : Nat) :
    ∀ (fuel : Nat) (c : Cache κ), InvX extra c → (len : Int) ≤ c.maxSize → c.heap.length < fuel →
    ∃ c', makeRoom len fuel c = some c' ∧ Evicted c c' ∧ (len : Int) ≤ c'.maxSize - c'.size := by
  intro fuel
  induction fuel with
  | zero => intro c _ _ hf; omega
  | succ f ih =>
    intro c hinv hlen hf
    unfold makeRoom
    by_cases hroom : c.maxSize - c.size < (len : Int)
    · simp only [hroom, if_true]
      cases hm : minLast c.heap with
      | none =>
        have he := minLast_none hm
        have : c.size = 0 := by rw [hinv.size_eq, he]; rfl
        omega
      | some v =>
        have hv := minLast_mem hm
        have he := Evicted.removeItem (c := c) hv
        obtain ⟨c', h1, h2, h3⟩ := ih (c.removeItem v) (he.invX hinv) hlen
          (Nat.lt_of_lt_of_le (removeKey_length_lt hv) (Nat.le_of_lt_succ hf))
        exact ⟨c', h1, he.trans h2, h3⟩
    · simp only [hroom, if_false]
      exact ⟨c, rfl, Evicted.refl c, by omega⟩

theorem touch_map_key (k : κ) (now ttl : Nat) (h : List (Item κ)) :
    (touch k now ttl h).map (·.key) = h.map (·.key) := by
  simp only [touch, List.map_map]
  exact List.map_congr_left fun j _ => by simp only [Function.comp]; split <;> rfl

theorem touch_sumLen (k : κ) (now ttl : Nat) (h : List (Item κ)) : sumLen (touch k now ttl h) = sumLen h := by
  induction h with
  | nil => rfl
  | cons i r ih =>
    simp only [touch, List.map_cons, sumLen] at ih ⊢
    rw [ih]
    split <;> rfl

theorem touch_mem (k : κ) (now ttl : Nat) (h : List (Item κ)) :
    ∀ j ∈ touch k now ttl h, ∃ j0 ∈ h, j0.key = j.key ∧ j0.value = j.value := by
  intro j hj
  obtain ⟨j0, hj0, rfl⟩ := List.mem_map.mp hj
  exact ⟨j0, hj0, by split <;> rfl, by split <;> rfl⟩

theorem touch_eq_nil (k : κ) (now ttl : Nat) (h : List (Item κ)) : touch k now ttl h = [] ↔ h = [] := by
  simp [touch]

structure GetSpec (c : Cache κ) (k : κ) (r : LoadRes) (c' : Cache κ) (g : GetRes) : Prop where
  inv : Inv c'
  maxSize : c'.maxSize = c.maxSize
  ttl : c'.ttl = c.ttl
  no_panic : g ≠ .panic
  hit : ∀ v, g = .value v true → k ∈ c.keys ∧ ∃ j ∈ c.heap, j.key = k ∧ j.value = v
  miss : ∀ v, g = .value v false → k ∉ c.keys ∧ r = .ok v
  error : g = .error → k ∉ c.keys ∧ r = .err
  items : ∀ j ∈ c'.heap, (∃ j0 ∈ c.heap, j0.key = j.key ∧ j0.value = j.value) ∨
            (j.key = k ∧ r = .ok j.value ∧ k ∉ c.keys)

theorem get_spec (c : Cache κ) (hinv : Inv c) (k : κ) (r : LoadRes) :
    GetSpec c k r (get c k r).1 (get c k r).2 := by
  unfold get
  by_cases hk : k ∈ c.keys
  · -- hit
    simp only [hk, if_true]
    have hkh : k ∈ c.heap.map (·.key) := (hinv.keys_perm.mem_iff).mp hk
    obtain ⟨i, hf, hik, hi⟩ : ∃ i, c.heap.find? (fun i => decide (i.key = k)) = some i ∧ i.key = k ∧ i ∈ c.heap :=
      find?_of_mem_map Item.key hkh
    rw [hf]
    refine ⟨⟨?_, ?_, ?_, ?_⟩, rfl, rfl, nofun, ?_, nofun, nofun, ?_⟩
    · simp [touch_sumLen, hinv.size_eq]
    · simp only [touch_map_key]; exact hinv.keys_perm
    · simp only [touch_map_key]; exact hinv.nodup
    · rcases hinv.bound with he | hb
      · left; simp [touch_eq_nil, he]
      · right; exact hb
    · intro v hv
      cases hv
      exact ⟨hk, i, hi, hik, rfl⟩
    · intro j hj
      exact Or.inl (touch_mem _ _ _ _ j hj)
  · -- miss
    simp only [hk, if_false]
    cases r with
    | err =>
      simp only [List.erase_cons_head]
      exact ⟨⟨hinv.size_eq, hinv.keys_perm, hinv.nodup, hinv.bound⟩, rfl, rfl, nofun, nofun, nofun,
        fun _ => ⟨hk, rfl⟩, fun j hj => Or.inl ⟨j, hj, rfl, rfl⟩⟩
    | ok v =>
      by_cases hbig : (v.length : Int) > c.maxSize
      · simp only [hbig, if_true, List.erase_cons_head]
        exact ⟨⟨hinv.size_eq, hinv.keys_perm, hinv.nodup, hinv.bound⟩, rfl, rfl, nofun, nofun,
          fun _ hv' => ⟨hk, by cases hv'; rfl⟩, nofun, fun j hj => Or.inl ⟨j, hj, rfl, rfl⟩⟩
      · simp only [hbig, if_false]
        -- the state `makeRoom` runs in: the key is in the map, its item is not yet on the access list
        let c1 : Cache κ := { maxSize := c.maxSize, ttl := c.ttl, now := c.now + 1, keys := k :: c.keys,
                              heap := c.heap, size := c.size }
        have hkh : k ∉ c.heap.map (·.key) := fun h => hk ((hinv.keys_perm.mem_iff).mpr h)
        have hx : InvX [k] c1 := by
          refine ⟨hinv.size_eq, ?_, ?_, hinv.bound⟩
          · exact List.Perm.cons k hinv.keys_perm
          · exact List.nodup_cons.mpr ⟨hkh, hinv.nodup⟩
        obtain ⟨c', h1, he, h3⟩ :=
          makeRoom_ok (extra := [k]) v.length (c.heap.length + 1) c1 hx (by simp [c1]; omega) (by simp [c1])
        have h2 := he.invX hx
        simp only [c1] at h1
        rw [h1]
        refine ⟨⟨?_, ?_, ?_, ?_⟩, he.maxSize, he.ttl, nofun, nofun, ?_, nofun, ?_⟩
        · simp [sumLen_append, sumLen, h2.size_eq]
        · simp only [List.map_append, List.map_cons, List.map_nil]
          exact h2.keys_perm.trans List.perm_append_comm
        · simp only [List.map_append, List.map_cons, List.map_nil]
          exact (List.perm_append_comm.nodup_iff).mp h2.nodup
        · right; simp; omega
        · intro v' hv'; cases hv'; exact ⟨hk, rfl⟩
        · intro j hj
          simp only [List.mem_append, List.mem_singleton] at hj
          rcases hj with hj | hj
          · exact Or.inl ⟨j, he.sub j hj, rfl, rfl⟩
          · subst hj; exact Or.inr ⟨rfl, rfl, hk⟩

theorem fire_evicted (c : Cache κ) (k : κ) : Evicted c (fire c k) := by
  unfold fire
  cases hf : c.heap.find? (fun i => decide (i.key = k)) with
  | none => exact Evicted.refl c
  | some i => exact Evicted.removeItem (List.mem_of_find?_eq_some hf)

theorem fireAll_evicted (l : List (Item κ)) (c : Cache κ) : Evicted c (l.foldl (fun c i => fire c i.key) c) := by
  induction l generalizing c with
  | nil => exact Evicted.refl c
  | cons i r ih => exact (fire_evicted c i.key).trans (ih _)

theorem advance_evicted (c : Cache κ) (d : Nat) : Evicted c (advance c d) :=
  Evicted.trans (c' := { c with now := c.now + d })
    ⟨rfl, rfl, fun _ h => h, fun h => ⟨h.size_eq, h.keys_perm, h.nodup, h.bound⟩⟩ (fireAll_evicted _ _)

theorem clear_inv (c : Cache κ) : Inv (clear c) :=
  ⟨rfl, List.Perm.refl _, List.nodup_nil, Or.inl rfl⟩

theorem new_inv (maxSize : Int) (ttl : Nat) : Inv (new maxSize ttl : Cache κ) :=
  ⟨rfl, List.Perm.refl _, List.nodup_nil, Or.inl rfl⟩

theorem Evicted.all {Q : Item κ → Prop} {c c' : Cache κ} (he : Evicted c c') (h : ∀ i ∈ c.heap, Q i) :
    ∀ i ∈ c'.heap, Q i :=
  fun j hj => h j (he.sub j hj)

/-- `Get` is transparent for a property `P` of cached entries; `Prov` and `CachedPiece.Coherent` are such `P`s. -/
theorem GetSpec.all {P : κ → Bytes → Prop} {c c' : Cache κ} {k : κ} {r : LoadRes} {g : GetRes}
    (hs : GetSpec c k r c' g) (h : ∀ i ∈ c.heap, P i.key i.value) (hr : ∀ v, r = .ok v → k ∉ c.keys → P k v) :
    (∀ i ∈ c'.heap, P i.key i.value) ∧ ∀ v hit, g = .value v hit → P k v := by
  refine ⟨fun j hj => ?_, fun v hit hv => ?_⟩
  · rcases hs.items j hj with ⟨j0, hj0, e1, e2⟩ | ⟨e1, e2, e3⟩
    · exact e1 ▸ e2 ▸ h j0 hj0
    · exact e1 ▸ hr _ e2 e3
  · cases hit with
    | true => obtain ⟨_, j, hj, e1, e2⟩ := hs.hit v hv; exact e1 ▸ e2 ▸ h j hj
    | false => exact hr v (hs.miss v hv).2 (hs.miss v hv).1

/-- Every cached value was returned by a loader for its key. -/
def Prov (c : Cache κ) (log : List (κ × Bytes)) : Prop := ∀ i ∈ c.heap, (i.key, i.value) ∈ log

theorem step_spec (c : Cache κ) (hinv : Inv c) (log : List (κ × Bytes)) (hp : Prov c log) (o : Op κ) :
    Inv (step c o).1 ∧ (step c o).1.maxSize = c.maxSize ∧ Prov (step c o).1 (log ++ loadOf c o) := by
  have hp' : Prov c (log ++ loadOf c o) := fun j hj => List.mem_append_left _ (hp j hj)
  cases o with
  | get k r =>
    have hs := get_spec c hinv k r
    exact ⟨hs.inv, hs.maxSize,
      (hs.all (P := fun k v => (k, v) ∈ log ++ _) hp' fun v e hk => by simp [loadOf, e, hk]).1⟩
  | fire k => exact ⟨(fire_evicted c k).inv hinv, (fire_evicted c k).maxSize, (fire_evicted c k).all hp'⟩
  | advance d =>
    exact ⟨(advance_evicted c d).inv hinv, (advance_evicted c d).maxSize, (advance_evicted c d).all hp'⟩
  | clear => exact ⟨clear_inv c, rfl, nofun⟩

theorem runLog_spec (ops : List (Op κ)) : ∀ (c : Cache κ) (log : List (κ × Bytes)), Inv c → Prov c log →
    Inv (runLog c log ops).1 ∧ (runLog c log ops).1.maxSize = c.maxSize ∧ Prov (runLog c log ops).1 (runLog c log ops).2 := by
  induction ops with
  | nil => intro c log h hp; exact ⟨h, rfl, hp⟩
  | cons o r ih =>
    intro c log h hp
    obtain ⟨h1, h2, h3⟩ := step_spec c h log hp o
    obtain ⟨g1, g2, g3⟩ := ih _ _ h1 h3
    exact ⟨g1, g2.trans h2, g3⟩

end Rain.Cache
