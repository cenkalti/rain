import RainModel.Model.CachedPiece
import RainModel.Lemmas.Cache
import RainModel.Lemmas.Radix
/-!
Helper lemmas for M-CP: key injectivity, slice algebra, one `readBlock`, the `ReadAt` loop.
-/
namespace Rain.CachedPiece
open Rain.Cache

theorem be32_eq (n : Nat) : be32 n = Radix.digits 256 4 n := by simp [be32, Radix.digits]

theorem be32_inj (a b : Nat) (ha : a < 4294967296) (hb : b < 4294967296) (h : be32 a = be32 b) : a = b :=
  Radix.digits_inj ha hb (be32_eq a ▸ be32_eq b ▸ h)

theorem be32_length (a : Nat) : (be32 a).length = 4 := rfl

theorem mkKey_inj (p p' : Bytes) (i i' b b' : Nat) (hp : p.length = 20) (hp' : p'.length = 20)
    (hi : i < 4294967296) (hi' : i' < 4294967296) (hb : b < 4294967296) (hb' : b' < 4294967296)
    (h : mkKey p i b = mkKey p' i' b') : p = p' ∧ i = i' ∧ b = b' := by
  unfold mkKey at h
  have h1 := List.append_inj h (by simp [be32_length, hp, hp'])
  have h2 := List.append_inj h1.1 (by rw [hp, hp'])
  exact ⟨h2.1, be32_inj _ _ hi hi' h2.2, be32_inj _ _ hb hb' h1.2⟩

theorem slice_length (d : Bytes) (off n : Nat) : (slice d off n).length = min n (d.length - off) := by
  simp [slice]

theorem slice_sub (d : Bytes) (b len x w : Nat) :
    ((slice d b len).drop x).take w = slice d (b + x) (min w (len - x)) := by
  simp only [slice, List.drop_take, List.drop_drop, List.take_take]

theorem slice_append (d : Bytes) (off m n : Nat) :
    slice d off m ++ slice d (off + m) n = slice d off (m + n) := by
  simp only [slice]
  rw [List.take_add, List.drop_drop]

/-- One round of a chunked read of `[off, off + want)`: after the `m` bytes at `off`, what is still wanted is the rest. -/
theorem slice_chunk (d : Bytes) {off want m : Nat} (hmw : m ≤ want) (hr : off + want ≤ d.length) :
    (slice d off m).length = m ∧ off + m + (want - m) ≤ d.length ∧
      slice d off m ++ slice d (off + m) (want - m) = slice d off want :=
  ⟨by rw [slice_length]; omega, by rw [Nat.add_assoc, Nat.add_sub_of_le hmw]; exact hr,
    by rw [slice_append, Nat.add_sub_of_le hmw]⟩

/-- Reading at `off` out of the buffer that holds `[bb, be)` of `d`. -/
theorem slice_block (d : Bytes) {bb be off : Nat} (want : Nat) (h1 : bb ≤ off) (h2 : off < be) (h3 : be ≤ d.length) :
    ¬ off - bb ≥ (slice d bb (be - bb)).length ∧
      ((slice d bb (be - bb)).drop (off - bb)).take want = slice d off (min want (be - off)) := by
  rw [slice_length, slice_sub, Nat.add_sub_of_le h1, Nat.sub_sub, Nat.add_sub_of_le h1,
    Nat.min_eq_left (Nat.sub_le_sub_right h3 bb)]
  exact ⟨by omega, rfl⟩

/-- Block arithmetic: `off` lies in `[blkBegin, blkEnd)`. -/
theorem blk_bounds (L rs off : Nat) (hrs : 0 < rs) (hoff : off < L) :
    off / rs * rs ≤ off ∧ off < blkEndOf L rs (off / rs * rs) ∧ blkEndOf L rs (off / rs * rs) ≤ L := by
  have h1 : off / rs * rs ≤ off := Nat.div_mul_le_self off rs
  have h2 : off < off / rs * rs + rs := by
    have := Nat.lt_div_mul_add (a := off) hrs
    omega
  unfold blkEndOf
  split <;> omega

structure BlockSpec (w : World) (rs : Nat) (rd : Reader) (data : Bytes) (c : Cache Bytes) (want off : Nat)
    (c' : Cache Bytes) (r : BlkRes) : Prop where
  inv : Inv c'
  coh : Coherent w rs c'
  maxSize : c'.maxSize = c.maxSize
  res : (∃ m, 0 < m ∧ m ≤ want ∧ off + m ≤ data.length ∧ r = .ok (slice data off m)) ∨
        (r = .err ∧ ∃ o l, o + l ≤ data.length ∧ rd o l = .err)

theorem readBlock_spec (w : World) (rs : Nat) (hrs : 0 < rs) (pid : Bytes) (hpid : pid.length = 20)
    (idx : Nat) (hidx : idx < 4294967296) (hL : (w pid idx).length < 4294967296)
    (rd : Reader) (hrd : ExactReader (w pid idx) rd)
    (c : Cache Bytes) (hinv : Inv c) (hcoh : Coherent w rs c)
    (want off : Nat) (hwant : 0 < want) (hoff : off < (w pid idx).length) :
    let cp : CP := { peerID := pid, index := idx, length := (w pid idx).length, readSize := rs }
    BlockSpec w rs rd (w pid idx) c want off (readBlock cp rd c want off).1 (readBlock cp rd c want off).2 := by
  intro cp
  obtain ⟨hb1, hb2, hb3⟩ := blk_bounds (w pid idx).length rs off hrs hoff
  have hblk : off / rs < 4294967296 := by
    have : off / rs ≤ off := Nat.div_le_self off rs
    omega
  have hs := get_spec c hinv (mkKey pid idx (off / rs))
    (rd (off / rs * rs) (blkEndOf (w pid idx).length rs (off / rs * rs) - off / rs * rs))
  have hrs0 : ¬ rs = 0 := by omega
  have hoff0 : ¬ off ≥ (w pid idx).length := by omega
  simp only [readBlock, cp, hrs0, hoff0, if_false]
  generalize get c _ _ = g at hs ⊢
  obtain ⟨c', gr⟩ := g
  -- `Coherent` is "every entry satisfies `P`" for this `P`; a loaded block satisfies it as keys determine blocks
  obtain ⟨hcoh', hbuf⟩ := hs.all (P := fun k v => ∀ (p : Bytes) i b, p.length = 20 → i < 4294967296 →
      b < 4294967296 → k = mkKey p i b → v = blockSlice (w p i) rs b) hcoh fun v e _ p i b hp hi hb hkey => by
    obtain ⟨rfl, rfl, rfl⟩ := mkKey_inj _ _ _ _ _ _ hpid hp hidx hi hblk hb hkey
    exact hrd _ _ _ e
  cases gr with
  | panic => exact absurd rfl hs.no_panic
  | error => exact ⟨hs.inv, hcoh', hs.maxSize, Or.inr ⟨rfl, _, _, by omega, (hs.error rfl).2⟩⟩
  | value v hit =>
    obtain rfl : v = slice _ _ _ := hbuf v hit rfl _ _ _ hpid hidx hblk rfl
    obtain ⟨hlt, hm⟩ := slice_block (w pid idx) want hb1 hb2 hb3
    simp only [hlt, if_false]
    exact ⟨hs.inv, hcoh', hs.maxSize, Or.inl ⟨_, Nat.lt_min.mpr ⟨hwant, Nat.sub_pos_of_lt hb2⟩, Nat.min_le_left _ _,
      Nat.le_trans (Nat.add_le_add_left (Nat.min_le_right _ _) _) (by omega), congrArg _ hm⟩⟩

theorem readAtLoop_spec (w : World) (rs : Nat) (hrs : 0 < rs) (pid : Bytes) (hpid : pid.length = 20)
    (idx : Nat) (hidx : idx < 4294967296) (hL : (w pid idx).length < 4294967296)
    (rd : Reader) (hrd : ExactReader (w pid idx) rd) :
    let cp : CP := { peerID := pid, index := idx, length := (w pid idx).length, readSize := rs }
    ∀ (fuel : Nat) (c : Cache Bytes) (want off : Nat) (acc : Bytes), Inv c → Coherent w rs c →
      off + want ≤ (w pid idx).length → want < fuel →
      Inv (readAtLoop cp rd fuel c want off acc).1 ∧ Coherent w rs (readAtLoop cp rd fuel c want off acc).1 ∧
      (readAtLoop cp rd fuel c want off acc).1.maxSize = c.maxSize ∧
      ((readAtLoop cp rd fuel c want off acc).2 = .ok (acc ++ slice (w pid idx) off want) ∨
       (∃ bs, (readAtLoop cp rd fuel c want off acc).2 = .err bs ∧
          ∃ o l, o + l ≤ (w pid idx).length ∧ rd o l = .err)) := by
  intro cp fuel
  induction fuel with
  | zero => intro c want off acc _ _ _ hf; omega
  | succ f ih =>
    intro c want off acc hinv hcoh hrange hf
    unfold readAtLoop
    by_cases hw : want = 0
    · subst hw
      simp only [if_true]
      exact ⟨hinv, hcoh, trivial, Or.inl (by simp [slice])⟩
    · simp only [hw, if_false]
      have hb := readBlock_spec w rs hrs pid hpid idx hidx hL rd hrd c hinv hcoh want off (by omega) (by omega)
      simp only at hb
      generalize hg : readBlock cp rd c want off = g at hb
      obtain ⟨c', br⟩ := g
      rcases hb.res with ⟨m, hm0, hmw, hml, hr⟩ | ⟨hr, herr⟩
      · simp only at hr
        subst hr
        simp only
        obtain ⟨hlen, hrange', happ⟩ := slice_chunk (w pid idx) hmw hrange
        rw [hlen]
        obtain ⟨i1, i2, i3, i4⟩ := ih c' (want - m) (off + m) (acc ++ slice (w pid idx) off m) hb.inv hb.coh
          hrange' (by omega)
        exact ⟨i1, i2, i3.trans hb.maxSize, i4.imp_left fun h => by rw [h, List.append_assoc, happ]⟩
      · simp only at hr
        subst hr
        exact ⟨hb.inv, hb.coh, hb.maxSize, Or.inr ⟨acc, rfl, herr⟩⟩

theorem dataReader_exact (data : Bytes) : ExactReader data (dataReader data) := by
  intro off len v h
  unfold dataReader at h
  split at h
  · cases h; rfl
  · cases h

theorem dataReader_total (data : Bytes) (o l : Nat) (h : o + l ≤ data.length) : dataReader data o l ≠ .err := by
  simp [dataReader, h]

theorem coherent_new (w : World) (rs : Nat) (maxSize : Int) (ttl : Nat) : Coherent w rs (new maxSize ttl) := by
  intro j hj; cases hj

theorem wrun_cons (w : World) (rs : Nat) (c : Cache Bytes) (o : WOp) (r : List WOp) :
    wrun w rs c (o :: r) = (wstep w rs c o).2.toList ++ wrun w rs (wstep w rs c o).1 r := by
  rcases h : wstep w rs c o with ⟨c', _ | x⟩ <;> simp [wrun, h]

theorem wexpected_cons (w : World) (o : WOp) (r : List WOp) :
    wexpected w (o :: r) = wexpected w [o] ++ wexpected w r := by
  cases o <;> rfl

theorem wstep_spec (w : World) (rs : Nat) (hrs : 0 < rs) (c : Cache Bytes) (hinv : Inv c) (hcoh : Coherent w rs c)
    (o : WOp) (hv : o.Valid w) :
    Inv (wstep w rs c o).1 ∧ Coherent w rs (wstep w rs c o).1 ∧ (wstep w rs c o).2.toList = wexpected w [o] := by
  cases o with
  | read pid idx off n =>
    obtain ⟨h1, h2, h3, h4⟩ := hv
    obtain ⟨i1, i2, _, i4⟩ := readAtLoop_spec w rs hrs pid h1 idx h2 h3 (dataReader (w pid idx))
      (dataReader_exact _) (n + 1) c n off [] hinv hcoh h4 (by omega)
    refine ⟨i1, i2, ?_⟩
    rcases i4 with h | ⟨bs, _, o, l, hol, herr⟩
    · simp [wstep, readAt, wexpected, h]
    · exact absurd herr (dataReader_total _ o l hol)
  | fire k => exact ⟨(fire_evicted c k).inv hinv, (fire_evicted c k).all hcoh, rfl⟩
  | advance d => exact ⟨(advance_evicted c d).inv hinv, (advance_evicted c d).all hcoh, rfl⟩
  | clear => exact ⟨clear_inv c, (fun _ hj => by cases hj), rfl⟩

theorem wrun_spec (w : World) (rs : Nat) (hrs : 0 < rs) (ops : List WOp) :
    ∀ (c : Cache Bytes), Inv c → Coherent w rs c → (∀ o ∈ ops, o.Valid w) → wrun w rs c ops = wexpected w ops := by
  induction ops with
  | nil => intro c _ _ _; rfl
  | cons o r ih =>
    intro c hinv hcoh hv
    obtain ⟨h1, h2, h3⟩ := wstep_spec w rs hrs c hinv hcoh o (hv o List.mem_cons_self)
    rw [wrun_cons, wexpected_cons, h3, ih _ h1 h2 fun o' ho' => hv o' (List.mem_cons_of_mem _ ho')]

end Rain.CachedPiece
