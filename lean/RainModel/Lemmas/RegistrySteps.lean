import RainModel.Lemmas.Registry
/-!
Preservation of `Inv` by the changes of state the steps of the registry machine are made of, and what the
composite operations compute: `openOn` and `reopen` in closed form, the database `compact` writes.
-/
namespace Rain.Registry
open List

theorem describes_iff {r t : Fields} :
    describes r t = true ↔ ({ r with cnt := t.cnt, started := t.started } = t ∧ (t.started = true → r.started = true)) := by
  unfold describes
  simp only [Bool.and_eq_true, decide_eq_true_eq, Bool.or_eq_true, Bool.not_eq_eq_eq_not, Bool.not_true]
  constructor
  · rintro ⟨h1, h2⟩; refine ⟨h1, fun ht => ?_⟩
    cases h2 with
    | inl h => simp [ht] at h
    | inr h => exact h
  · rintro ⟨h1, h2⟩; refine ⟨h1, ?_⟩
    cases hs : t.started with
    | false => exact Or.inl rfl
    | true => exact Or.inr (h2 hs)

/-! ### Changes to a registered torrent and its record -/

theorem inv_modify {s : State} (h : Inv s) (id : String) (gd gr : Fields → Fields)
    (hpend : ∀ q ∈ s.pending, q.id = id → ∀ r, gd r = r)
    (hgd : ∀ r, (gd r).port = r.port)
    (hgr : ∀ f, (gr f).port = f.port ∧ (gr f).infoHash = f.infoHash)
    (hdesc : ∀ r f, describes r f = true → describes (gd r) (gr f) = true) :
    Inv { s with db := dbModify s.db id gd, reg := regModify s.reg id gr } := by
  refine ⟨?_, ?_, ?_, ?_, ?_, ?_⟩
  · have := h.ports
    rwa [← regModify_map s.reg id gr (·.f.port) (fun t => (hgr t.f).1)] at this
  · have := h.ids
    rwa [State.regIds, ← regModify_map s.reg id gr (·.id) (fun _ => rfl)] at this
  · have := h.dbsig
    rwa [← dbModify_map s.db id gd (fun e => (e.1, e.2.port)) (fun k r => congrArg (Prod.mk k) (hgd r)),
      ← regModify_map s.reg id gr (fun t => (t.id, t.f.port)) (fun t => congrArg (Prod.mk t.id) (hgr t.f).1)] at this
  · have := h.idx
    rwa [← regModify_map s.reg id gr (fun t => (t.f.infoHash, t.id)) (fun t => congrArg (·, t.id) (hgr t.f).2)] at this
  · intro t' ht'
    obtain ⟨t0, h0, rfl⟩ := mem_regModify ht'
    obtain ⟨r, hr, hd⟩ := h.synced t0 h0
    have hm := mem_dbModify (id := id) (g := gd) hr
    by_cases hk : t0.id = id
    · simp only [hk, if_true] at hm ⊢
      exact ⟨gd r, hm, hdesc r t0.f hd⟩
    · simp only [hk, if_false] at hm ⊢
      exact ⟨r, hm, hd⟩
  · intro q hq hw
    have hm := mem_dbModify (id := id) (g := gd) (h.pendrec q hq hw)
    by_cases he : q.id = id
    · rwa [if_pos he, hpend q hq he] at hm
    · rwa [if_neg he] at hm

/-- A change `g` that does not read the counters or the started flag, made to the record and to the torrent
alike (`g` commutes with setting those two, by unfolding). -/
theorem describes_congr {r f : Fields} (g : Fields → Fields) (hd : describes r f = true)
    (hg : { g r with cnt := (g f).cnt, started := (g f).started } =
      g { r with cnt := f.cnt, started := f.started })
    (hs : (g f).started = true → (g r).started = true) : describes (g r) (g f) = true :=
  describes_iff.2 ⟨hg.trans (congrArg g (describes_iff.1 hd).1), hs⟩

theorem describes_started {r f : Fields} (b : Bool) (hd : describes r f = true) :
    describes { r with started := b } { f with started := b } = true :=
  describes_congr (fun x => { x with started := b }) hd rfl id

theorem describes_addTracker {r f : Fields} (uri : String) (hd : describes r f = true) :
    describes { r with trackers := r.trackers ++ [[uri]] } { f with trackers := f.trackers ++ [[uri]] } = true :=
  describes_congr (fun x => { x with trackers := x.trackers ++ [[uri]] }) hd rfl (describes_iff.1 hd).2

theorem describes_cnt {r f : Fields} (c : Counters) (hd : describes r f = true) :
    describes r { f with cnt := c } = true :=
  describes_iff.2 ⟨congrArg (fun x => { x with cnt := c }) (describes_iff.1 hd).1, (describes_iff.1 hd).2⟩

theorem inv_bump {s : State} (h : Inv s) (id : String) (d : Counters) : Inv (bump s id d) := by
  have := inv_modify h id (fun r => r) (fun r =>
    { r with cnt := ⟨r.cnt.dl + d.dl, r.cnt.ul + d.ul, r.cnt.wasted + d.wasted, r.cnt.seeded + d.seeded⟩ })
    (fun _ _ _ _ => rfl) (fun _ => rfl) (fun _ => ⟨rfl, rfl⟩) (fun _ _ hd => describes_cnt _ hd)
  have hdb : dbModify s.db id (fun r => r) = s.db := by simp [dbModify]
  rwa [hdb] at this

theorem updateStats_map {β : Type} (s : State) (pr : String × Fields → β)
    (h : ∀ k r c, pr (k, { r with cnt := c }) = pr (k, r)) : (updateStats s).db.map pr = s.db.map pr := by
  unfold updateStats
  rw [List.map_map]
  apply List.map_congr_left
  intro e _
  dsimp only [Function.comp]
  split
  · exact h _ _ _
  · rfl

theorem mem_updateStats_db {s : State} (h : Inv s) {t : Torrent} (ht : t ∈ s.reg) {r : Fields} (hr : (t.id, r) ∈ s.db) :
    (t.id, { r with cnt := t.f.cnt }) ∈ (updateStats s).db := by
  unfold updateStats
  refine List.mem_map.2 ⟨(t.id, r), hr, ?_⟩
  simp only [regGet_of_mem h.regIds_nodup ht]

theorem inv_updateStats {s : State} (h : Inv s) : Inv (updateStats s) := by
  refine ⟨h.ports, h.ids, ?_, h.idx, ?_, ?_⟩
  · rw [updateStats_map s _ (fun _ _ _ => rfl)]
    exact h.dbsig
  · intro t ht
    obtain ⟨r, hr, hd⟩ := h.synced t ht
    exact ⟨_, mem_updateStats_db h ht hr, describes_iff.2 (describes_iff.1 hd)⟩
  · intro q hq hw
    refine List.mem_map.2 ⟨_, h.pendrec q hq hw, ?_⟩
    have : q.id ∉ s.reg.map (·.id) := fun hc => h.disjoint hc (mem_pendIds hq)
    simp only [regGet_eq_none this]

/-- `RemoveTorrent` of a registered torrent. -/
theorem inv_remove {s : State} (h : Inv s) {t : Torrent} (ht : t ∈ s.reg) :
    Inv { s with reg := s.reg.filter (fun x => x.id != t.id), idx := s.idx.erase (t.f.infoHash, t.id),
                 db := s.db.filter (fun e => e.1 != t.id), free := t.f.port :: s.free } := by
  have hperm : s.reg.Perm (t :: s.reg.filter (fun x => x.id != t.id)) :=
    perm_cons_filter_ne (fun x : Torrent => x.id) s.reg t h.regIds_nodup ht
  have htreg : t.id ∈ s.regIds := List.mem_map_of_mem (f := (·.id)) ht
  have hpend : ∀ q ∈ s.pending, (q.id != t.id) = true := fun q hq => by
    simpa using fun e : q.id = t.id => h.disjoint (e ▸ htreg) (mem_pendIds hq)
  refine ⟨?_, ?_, ?_, ?_, ?_, ?_⟩
  · have hp := (hperm.map (·.f.port)).symm
    refine List.Perm.trans ?_ h.ports
    exact ((List.perm_middle.symm).trans (List.Perm.append_left s.free hp)).append_right _
  · exact (List.Sublist.append ((List.filter_sublist).map _) (List.Sublist.refl _)).nodup h.ids
  · -- both sides of `h.dbsig` without the pairs of id `t.id`
    have h2 := h.dbsig.filter (fun p => p.1 != t.id)
    rw [List.filter_append, List.filter_map, List.filter_map, List.filter_map] at h2
    have h4 : (written s.pending).filter ((fun p : String × Nat => p.1 != t.id) ∘ fun q => (q.id, q.port)) =
        written s.pending :=
      List.filter_eq_self.2 fun q hq => hpend q ((written_sublist _).subset hq)
    rw [h4] at h2
    exact h2
  · simpa only [List.map_cons, List.erase_cons_head] using (h.idx.trans (hperm.map _)).erase (t.f.infoHash, t.id)
  · intro t' ht'
    have ht'' := List.mem_filter.1 ht'
    obtain ⟨r, hr, hd⟩ := h.synced t' ht''.1
    exact ⟨r, List.mem_filter.2 ⟨hr, by simpa using ht''.2⟩, hd⟩
  · intro q hq hw
    exact List.mem_filter.2 ⟨h.pendrec q hq hw, hpend q hq⟩

/-! ### The steps of an add -/

/-- What `addBegin` does, case by case: nothing; the port is taken and released again; a new add under
an id that is neither registered nor in flight takes the port. -/
theorem addBegin_cases (s : State) (m : Meta) (o : Opts) (p : Nat) (gen : String) (sf : Bool) :
    (∃ err, addBegin s m o p gen sf = (s, .error err)) ∨
    (p ∈ s.free ∧ ∃ err, addBegin s m o p gen sf = ({ s with free := p :: s.free.erase p }, .error err)) ∨
    (p ∈ s.free ∧ ∃ id, id ∉ s.regIds ∧ id ∉ s.pendIds ∧ addBegin s m o p gen sf =
      ({ s with free := s.free.erase p, pending := ⟨id, p, m, o, .reserved⟩ :: s.pending },
        .ok ⟨id, p, m, o, .reserved⟩)) := by
  unfold addBegin addBeginWith
  by_cases h0 : s.free = []
  · rw [if_pos h0]; exact Or.inl ⟨_, rfl⟩
  rw [if_neg h0]
  by_cases hp : p ∉ s.free
  · rw [if_pos hp]; exact Or.inl ⟨_, rfl⟩
  rw [if_neg hp]
  have hp : p ∈ s.free := Classical.not_not.1 hp
  dsimp only
  cases o.id with
  | some gid =>
    dsimp only
    by_cases hdup : gid ∈ State.regIds { s with free := s.free.erase p } ∨
        (true = true ∧ gid ∈ State.pendIds { s with free := s.free.erase p })
    · rw [if_pos hdup]; exact Or.inr (Or.inl ⟨hp, _, rfl⟩)
    rw [if_neg hdup]
    simp only [not_or, not_and, true_implies] at hdup
    cases sf with
    | true => exact Or.inr (Or.inl ⟨hp, _, rfl⟩)
    | false => exact Or.inr (Or.inr ⟨hp, gid, hdup.1, hdup.2, rfl⟩)
  | none =>
    dsimp only
    by_cases hfresh : gen ∈ State.regIds { s with free := s.free.erase p } ∨
        gen ∈ State.pendIds { s with free := s.free.erase p } ∨ gen ∈ State.dbIds { s with free := s.free.erase p } ∨
        gen ∈ State.deadIds { s with free := s.free.erase p }
    · rw [if_pos hfresh]; exact Or.inl ⟨_, rfl⟩
    rw [if_neg hfresh]
    simp only [not_or] at hfresh
    cases sf with
    | true => exact Or.inr (Or.inl ⟨hp, _, rfl⟩)
    | false => exact Or.inr (Or.inr ⟨hp, gen, hfresh.1, hfresh.2.1, rfl⟩)

theorem inv_take_release {s : State} (h : Inv s) {p : Nat} (hp : p ∈ s.free) :
    Inv { s with free := p :: s.free.erase p } :=
  ⟨(((List.perm_cons_erase hp).symm.append_right _).append_right _).trans h.ports,
    h.ids, h.dbsig, h.idx, h.synced, h.pendrec⟩

theorem written_cons_not {q : Pending} {l : List Pending} (hq : q.stage ≠ .written) : written (q :: l) = written l := by
  unfold written
  rw [List.filter_cons]
  have : (q.stage == Stage.written) = false := by simpa using hq
  simp [this]

theorem written_cons_yes {q : Pending} {l : List Pending} (hq : q.stage = .written) : written (q :: l) = q :: written l := by
  unfold written
  rw [List.filter_cons]
  simp [hq]

theorem inv_reserve {s : State} (h : Inv s) {p : Nat} (hp : p ∈ s.free) (id : String) (m : Meta) (o : Opts)
    (h1 : id ∉ s.regIds) (h2 : id ∉ s.pendIds) :
    Inv { s with free := s.free.erase p, pending := ⟨id, p, m, o, .reserved⟩ :: s.pending } := by
  refine ⟨?_, ?_, ?_, h.idx, h.synced, ?_⟩
  · refine (List.perm_middle.trans ?_).trans h.ports
    exact ((List.perm_cons_erase hp).symm.append_right _).append_right _
  · show (s.regIds ++ (id :: s.pendIds)).Nodup
    refine (List.perm_middle.nodup_iff).2 ?_
    rw [List.nodup_cons]
    exact ⟨by simp [h1, h2], h.ids⟩
  · show (s.db.map fun e => (e.1, e.2.port)).Perm (_ ++ (written (_ :: s.pending)).map _)
    rw [written_cons_not (by simp)]
    exact h.dbsig
  · intro q hq hw
    cases hq with
    | head => simp at hw
    | tail _ hq => exact h.pendrec q hq hw

theorem Inv.perm_pending {s : State} (h : Inv s) {P : List Pending} (hp : s.pending.Perm P) :
    Inv { s with pending := P } :=
  ⟨(List.Perm.append_left _ (hp.map _).symm).trans h.ports,
    (List.Perm.append_left _ (hp.map _)).nodup_iff.1 h.ids,
    h.dbsig.trans (List.Perm.append_left _ ((hp.filter _).map _)),
    h.idx, h.synced, fun q hq => h.pendrec q (hp.mem_iff.2 hq)⟩

/-- Every step of an add acts on one add in flight: the proofs below first bring it to the front. -/
theorem Inv.front {s : State} (h : Inv s) {q : Pending} (hq : q ∈ s.pending) :
    Inv { s with pending := q :: s.pending.erase q } :=
  h.perm_pending (List.perm_cons_erase hq)

theorem inv_restage {s : State} (h : Inv s) {q : Pending} (hq : q ∈ s.pending) (st : Stage)
    (h1 : q.stage ≠ .written) (h2 : st ≠ .written) :
    Inv { s with pending := { q with stage := st } :: s.pending.erase q } := by
  have h := h.front hq
  refine ⟨h.ports, h.ids, ?_, h.idx, h.synced, ?_⟩
  · have := h.dbsig
    simp only [written_cons_not h1] at this
    show (s.db.map _).Perm (_ ++ (written ({ q with stage := st } :: s.pending.erase q)).map _)
    rw [written_cons_not (q := { q with stage := st }) h2]
    exact this
  · intro q2 hq2 hw
    cases hq2 with
    | head => exact absurd hw h2
    | tail _ hq2 => exact h.pendrec q2 (List.mem_cons_of_mem _ hq2) hw

theorem inv_abort {s : State} (h : Inv s) {q : Pending} (hq : q ∈ s.pending) (h1 : q.stage ≠ .written) :
    Inv { s with pending := s.pending.erase q, free := q.port :: s.free } := by
  have h := h.front hq
  refine ⟨List.perm_middle.symm.trans h.ports, ?_, ?_, h.idx, h.synced, ?_⟩
  · exact (List.Sublist.append (List.Sublist.refl _) (List.sublist_cons_self _ _)).nodup h.ids
  · have := h.dbsig
    simp only [written_cons_not h1] at this
    exact this
  · intro q2 hq2 hw
    exact h.pendrec q2 (List.mem_cons_of_mem _ hq2) hw

/-- `resumer.Write` of an add in flight succeeds (`d`: what becomes of the records that did not load). -/
theorem inv_write {s : State} (h : Inv s) {q : Pending} (hq : q ∈ s.pending) (hnw : q.stage ≠ .written)
    (d : List (String × Fields)) :
    Inv { s with pending := { q with stage := .written } :: s.pending.erase q,
                 db := dbPut s.db q.id (freshFields q.m q.o q.port), dead := d } := by
  rw [dbPut_of_notMem _ _ _ (pend_id_not_db h hq hnw)]
  have h := h.front hq
  refine ⟨h.ports, h.ids, ?_, h.idx, ?_, ?_⟩
  · have := h.dbsig
    simp only [written_cons_not hnw] at this
    show (((q.id, freshFields q.m q.o q.port) :: s.db).map fun e => (e.1, e.2.port)).Perm
      (_ ++ (written ({ q with stage := .written } :: s.pending.erase q)).map _)
    rw [written_cons_yes rfl]
    exact (this.cons _).trans List.perm_middle.symm
  · intro t ht
    obtain ⟨r, hr, hd⟩ := h.synced t ht
    exact ⟨r, List.mem_cons_of_mem _ hr, hd⟩
  · intro q2 hq2 hw
    cases hq2 with
    | head => exact List.mem_cons_self
    | tail _ hq2 => exact List.mem_cons_of_mem _ (h.pendrec q2 (List.mem_cons_of_mem _ hq2) hw)

theorem describes_self_fresh (m : Meta) (o : Opts) (p : Nat) :
    describes (freshFields m o p) (freshFields m o p) = true := by
  rw [describes_iff]
  exact ⟨rfl, fun hc => by simp [freshFields] at hc⟩

/-- `insertTorrent` of an add that has written (`i`: what becomes of the invalid list). -/
theorem inv_insert {s : State} (h : Inv s) {q : Pending} (hq : q ∈ s.pending) (hw : q.stage = .written)
    (i : List String) :
    Inv { s with pending := s.pending.erase q, reg := regPut s.reg ⟨q.id, freshFields q.m q.o q.port⟩,
                 idx := s.idx ++ [(q.m.infoHash, q.id)], invalid := i } := by
  rw [regPut_of_notMem _ _ (fun hc => h.disjoint hc (mem_pendIds hq))]
  have h := h.front hq
  refine ⟨?_, (List.perm_middle.nodup_iff).1 h.ids, ?_, ?_, ?_, ?_⟩
  · refine List.Perm.trans ?_ h.ports
    simp only [List.map_cons, List.append_assoc, List.cons_append]
    exact List.Perm.append_left _ List.perm_middle.symm
  · have := h.dbsig
    simp only [written_cons_yes hw] at this
    exact this.trans List.perm_middle
  · exact (List.perm_append_singleton _ _).trans (h.idx.cons _)
  · intro t ht
    cases ht with
    | head => exact ⟨_, h.pendrec q List.mem_cons_self hw, describes_self_fresh _ _ _⟩
    | tail _ ht => exact h.synced t ht
  · intro q2 hq2 hw2
    exact h.pendrec q2 (List.mem_cons_of_mem _ hq2) hw2

/-! ### Opening a session on a database -/

/-- The live torrent `loadExistingTorrent` makes of a record. -/
def loaded (resume : Bool) (e : String × Fields) : Torrent :=
  ⟨e.1, { e.2 with started := resume && e.2.started }⟩

theorem describes_load (resume : Bool) (r : Fields) :
    describes r { r with started := resume && r.started } = true := by
  rw [describes_iff]
  refine ⟨rfl, ?_⟩
  intro hc
  simp only [Bool.and_eq_true] at hc
  exact hc.2

/-- The state after `loadExistingTorrents` has walked over the records `rest`, none registered yet. -/
theorem foldl_loadOne (resume : Bool) : ∀ (rest : List (String × Fields)) (s : State),
    (s.regIds ++ rest.map (·.1)).Nodup →
    rest.foldl (loadOne resume) s =
      { s with free := rest.foldl (fun f e => f.erase e.2.port) s.free,
               reg := (rest.map (loaded resume)).reverse ++ s.reg,
               idx := s.idx ++ rest.map fun e => (e.2.infoHash, e.1) }
  | [], s, _ => by simp
  | e :: rest, s, h => by
    rw [List.map_cons] at h
    have h2 := (List.perm_middle.nodup_iff).1 h
    have hs : loadOne resume s e =
        { s with free := s.free.erase e.2.port, reg := loaded resume e :: s.reg, idx := s.idx ++ [(e.2.infoHash, e.1)] } := by
      unfold loadOne
      dsimp only
      rw [regPut_of_notMem _ _ (fun hc => (List.nodup_cons.1 h2).1 (List.mem_append_left _ hc))]
      rfl
    rw [List.foldl_cons, foldl_loadOne resume rest (loadOne resume s e) (by rw [hs]; exact h2), hs]
    simp

theorem foldl_load_pending (resume : Bool) : ∀ (rest : List (String × Fields)) (s : State),
    (rest.foldl (loadOne resume) s).pending = s.pending
  | [], _ => rfl
  | e :: rest, s => foldl_load_pending resume rest (loadOne resume s e)

theorem openOn_pending (lo hi : Nat) (resume : Bool) (db : List (String × Fields)) :
    (openOn lo hi resume db).pending = [] :=
  foldl_load_pending resume db { init lo hi with db := db }

theorem openOn_eq (lo hi : Nat) (resume : Bool) (db : List (String × Fields)) (hk : (db.map (·.1)).Nodup) :
    openOn lo hi resume db =
      { init lo hi with db := db, free := db.foldl (fun f e => f.erase e.2.port) (List.range' lo (hi - lo)),
                        reg := (db.map (loaded resume)).reverse, idx := db.map fun e => (e.2.infoHash, e.1) } := by
  unfold openOn
  rw [foldl_loadOne resume db _ (by simpa [init, State.regIds] using hk)]
  simp [init]

theorem foldl_erase_perm {α : Type} (g : α → Nat) : ∀ (es : List α) (l : List Nat), (es.map g).Nodup →
    (∀ e ∈ es, g e ∈ l) → (es.foldl (fun f e => f.erase (g e)) l ++ es.map g).Perm l
  | [], l, _, _ => by simp
  | e :: es, l, hn, hm => by
    rw [List.map_cons, List.nodup_cons] at hn
    have ih := foldl_erase_perm g es (l.erase (g e)) hn.2 fun e' he' =>
      (List.mem_erase_of_ne (fun hc : g e' = g e => hn.1 (hc ▸ List.mem_map_of_mem (f := g) he'))).2
        (hm e' (List.mem_cons_of_mem _ he'))
    exact (List.perm_middle.trans (ih.cons _)).trans (List.perm_cons_erase (hm e List.mem_cons_self)).symm

theorem mem_foldl_erase {α : Type} (g : α → Nat) {p : Nat} : ∀ (es : List α) (l : List Nat), p ∈ l → p ∉ es.map g →
    p ∈ es.foldl (fun f e => f.erase (g e)) l
  | [], _, h, _ => h
  | e :: es, _, h, hn =>
    mem_foldl_erase g es _ ((List.mem_erase_of_ne (fun hc : p = g e => hn (hc ▸ List.mem_cons_self))).2 h)
      (fun hc => hn (List.mem_cons_of_mem _ hc))

theorem loaded_reverse_perm {β : Type} (resume : Bool) (db : List (String × Fields)) (pr : Torrent → β) :
    ((db.map (loaded resume)).reverse.map pr).Perm (db.map fun e => pr (loaded resume e)) := by
  rw [List.map_reverse, List.map_map]
  exact List.reverse_perm _

theorem openOn_inv (lo hi : Nat) (resume : Bool) (db : List (String × Fields))
    (hk : (db.map (·.1)).Nodup) (hp : (db.map (·.2.port)).Nodup)
    (hr : ∀ e ∈ db, e.2.port ∈ List.range' lo (hi - lo)) : Inv (openOn lo hi resume db) := by
  rw [openOn_eq lo hi resume db hk]
  refine ⟨?_, ?_, ?_, ?_, ?_, ?_⟩
  · show (_ ++ (db.map (loaded resume)).reverse.map (fun t : Torrent => t.f.port) ++ []).Perm (List.range' lo (hi - lo))
    rw [List.append_nil]
    exact (List.Perm.append_left _ (loaded_reverse_perm resume db _)).trans (foldl_erase_perm (·.2.port) db _ hp hr)
  · show ((db.map (loaded resume)).reverse.map (fun t : Torrent => t.id) ++ []).Nodup
    rw [List.append_nil]
    exact (loaded_reverse_perm resume db _).nodup_iff.2 hk
  · show (db.map fun e => (e.1, e.2.port)).Perm ((db.map (loaded resume)).reverse.map (fun t => (t.id, t.f.port)) ++ [])
    rw [List.append_nil]
    exact (loaded_reverse_perm resume db fun t => (t.id, t.f.port)).symm
  · exact (loaded_reverse_perm resume db fun t => (t.f.infoHash, t.id)).symm
  · intro t ht
    obtain ⟨e, he, rfl⟩ := List.mem_map.1 (List.mem_reverse.1 ht)
    exact ⟨e.2, he, describes_load resume e.2⟩
  · intro q hq
    cases hq

theorem regGet_openOn {lo hi : Nat} {resume : Bool} {db : List (String × Fields)} (hk : (db.map (·.1)).Nodup)
    {e : String × Fields} (he : e ∈ db) : regGet (openOn lo hi resume db).reg e.1 = some (loaded resume e) := by
  rw [openOn_eq lo hi resume db hk]
  refine regGet_of_mem (t := loaded resume e) ?_ (List.mem_reverse.2 (List.mem_map_of_mem (f := loaded resume) he))
  exact (loaded_reverse_perm resume db _).nodup_iff.2 hk

theorem inv_with_dead {s : State} (h : Inv s) (d : List (String × Fields)) (i : List String) :
    Inv { s with dead := d, invalid := i } :=
  ⟨h.ports, h.ids, h.dbsig, h.idx, h.synced, h.pendrec⟩

theorem filter_keys_nil {l : List (String × Fields)} {ks : List String} (h : ∀ e ∈ l, e.1 ∈ ks) :
    l.filter (fun e => !ks.contains e.1) = [] :=
  List.filter_eq_nil_iff.2 fun e he => by simp [h e he]

theorem filter_good {db dead : List (String × Fields)} {bad : List String} (hb : ∀ e ∈ dead, e.1 ∈ bad) :
    (db ++ dead).filter (fun e => !bad.contains e.1) = db.filter (fun e => !bad.contains e.1) := by
  rw [List.filter_append, filter_keys_nil hb, List.append_nil]

theorem reopen_eq {s : State} (hp : s.pending = []) (resume : Bool) (bad : List String)
    (hb : ∀ e ∈ s.dead, e.1 ∈ bad) :
    reopen s resume bad =
      { openOn s.lo s.hi resume ((updateStats s).db.filter (fun e => !bad.contains e.1)) with
        dead := ((updateStats s).db ++ s.dead).filter (fun e => bad.contains e.1),
        invalid := (((updateStats s).db ++ s.dead).filter (fun e => bad.contains e.1)).map (·.1) } := by
  unfold reopen
  rw [if_neg (by simp [hp])]
  dsimp only
  rw [filter_good hb]

/-! ### Compaction -/

/-- The database `CompactDatabase` writes when every registered torrent has a record. -/
def compactDb (s : State) : List (String × Fields) :=
  (s.reg.filter (·.f.hasInfo)).map fun t => (t.id, compactRec t ((dbGet s.db t.id).getD t.f))

theorem compact_ok {s : State} (h : Inv s) : compact s = some (compactDb s) := by
  unfold compact
  dsimp only
  rw [if_pos]
  · rfl
  rw [List.all_eq_true]
  intro t ht
  obtain ⟨r, hr, _⟩ := h.synced t (List.mem_filter.1 ht).1
  rw [dbGet_of_mem h.dbIds_nodup hr]; rfl

theorem compactDb_keys (s : State) : (compactDb s).map (·.1) = (s.reg.filter (·.f.hasInfo)).map (·.id) := by
  unfold compactDb
  rw [List.map_map]; rfl

theorem compactDb_nodup {s : State} (h : Inv s) : ((compactDb s).map (·.1)).Nodup := by
  rw [compactDb_keys]
  exact ((List.filter_sublist).map _).nodup h.regIds_nodup

theorem mem_compactDb {s : State} (h : Inv s) {t : Torrent} (ht : t ∈ s.reg.filter (·.f.hasInfo)) {r : Fields}
    (hr : (t.id, r) ∈ s.db) : (t.id, compactRec t r) ∈ compactDb s := by
  refine List.mem_map.2 ⟨t, ht, ?_⟩
  rw [dbGet_of_mem h.dbIds_nodup hr]; rfl

end Rain.Registry
