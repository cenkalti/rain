import RainModel.Lemmas.RegistrySteps
/-!
What `Inv` and `DInv` say in terms of the executable predicates on observations: port conservation, unique
ids, registry = database, restart equivalence, compaction.
-/
namespace Rain.Registry
open List

theorem portConservation_of_inv {s : State} (h : Inv s) (hp : s.pending = []) : portConservation (observe s) = true := by
  unfold portConservation observe
  rw [List.isPerm_iff]
  have := h.ports
  rwa [hp, List.map_nil, List.append_nil] at this

theorem lostPorts_nil_of_conservation {o : Obs} (h : portConservation o = true) : lostPorts o = [] := by
  unfold portConservation at h
  rw [List.isPerm_iff] at h
  unfold lostPorts
  apply List.filter_eq_nil_iff.2
  intro p hp
  have := (h.mem_iff).2 hp
  rcases List.mem_append.1 this with h1 | h1
  · simp [h1]
  · have h2 : (o.live.map (·.f.port)).contains p = true := List.contains_iff_mem.2 h1
    show ¬ (!o.free.contains p && !(o.live.map (·.f.port)).contains p) = true
    rw [h2]; simp

theorem updateStats_no_panic {s : State} (h : Inv s) : updateStatsPanics s = false := by
  unfold updateStatsPanics
  rw [List.any_eq_false]
  intro t ht
  obtain ⟨r, hr, _⟩ := h.synced t ht
  have : t.id ∈ s.dbIds := List.mem_map.2 ⟨(t.id, r), hr, rfl⟩
  simpa using this

theorem idsUnique_of_inv {s : State} (h : Inv s) : idsUnique (observe s) = true := by
  unfold idsUnique observe
  simp only [Bool.and_eq_true, decide_eq_true_eq, List.isPerm_iff]
  exact ⟨h.regIds_nodup, h.idx⟩

theorem dbGet_append_left {db dead : List (String × Fields)} {k : String} {r : Fields} (h : dbGet db k = some r) :
    dbGet (db ++ dead) k = some r := by
  unfold dbGet at h ⊢
  cases hf : db.find? (fun e => e.1 == k) with
  | none => simp [hf] at h
  | some e => rw [List.find?_append, hf]; simpa [hf] using h

theorem registryEqDb_of_inv {s : State} (h : Inv s) (hd : DInv s) (hp : s.pending = []) :
    registryEqDb (observe s) = true := by
  unfold registryEqDb observe
  simp only [Bool.and_eq_true, List.isPerm_iff, List.all_eq_true]
  refine ⟨?_, ?_⟩
  · have hfil : s.invalid.filter (fun i => !(s.reg.map (·.id)).contains i) = s.invalid := by
      apply List.filter_eq_self.2
      intro i hi
      have := hd.fresh i hi
      simpa [State.regIds] using this
    rw [hfil, List.map_append]
    exact List.Perm.append (h.dbIds_quiet hp) (hd.invalid_perm hp).symm
  · intro t ht
    obtain ⟨r, hr, hd⟩ := h.synced t ht
    rw [dbGet_append_left (dbGet_of_mem h.dbIds_nodup hr)]
    exact hd

theorem field_eq_of_describes {r t : Fields} (hd : describes r t = true) (x : Bool) :
    { ({ r with cnt := t.cnt } : Fields) with started := x } = { t with started := x } :=
  congrArg (fun y : Fields => { y with started := x }) (describes_iff.1 hd).1

theorem dbGet_isSome_of_mem {l : List (String × Fields)} {k : String} {r : Fields} (h : (k, r) ∈ l) :
    (dbGet l k).isSome = true := by
  unfold dbGet
  rw [Option.isSome_map, List.find?_isSome]
  exact ⟨(k, r), h, by simp⟩

theorem Inv.id_of_port {s : State} (h : Inv s) (hp : s.pending = []) {e : String × Fields} (he : e ∈ s.db)
    {t : Torrent} (ht : t ∈ s.reg) (hpt : e.2.port = t.f.port) : e.1 = t.id := by
  obtain ⟨t2, ht2, he2⟩ := List.mem_map.1
    (((h.dbsig_quiet hp).mem_iff).1 (List.mem_map_of_mem (f := fun e => (e.1, e.2.port)) he))
  simp only [Prod.mk.injEq] at he2
  rw [← he2.1, eq_of_nodup_map (fun x : Torrent => x.f.port) h.regPorts_nodup ht2 ht (he2.2.trans hpt)]

theorem restartEquiv_of_inv {s : State} (h : Inv s) (hp : s.pending = []) (resume : Bool) (bad : List String)
    (hb : ∀ e ∈ s.dead, e.1 ∈ bad) :
    restartEquiv resume bad (observe s) (observe (reopen s resume bad)) = true := by
  have h2 := inv_updateStats h
  have hsub : ((updateStats s).db.filter (fun e => !bad.contains e.1)).Sublist (updateStats s).db := List.filter_sublist
  have hgn : (((updateStats s).db.filter (fun e => !bad.contains e.1)).map (·.1)).Nodup :=
    (hsub.map _).nodup h2.dbIds_nodup
  rw [reopen_eq hp resume bad hb]
  unfold restartEquiv observe
  simp only [Bool.and_eq_true, List.isPerm_iff, List.all_eq_true]
  refine ⟨?_, fun t ht => ?_⟩
  · rw [openOn_eq _ _ _ _ hgn]
    refine (loaded_reverse_perm resume _ (·.id)).trans ?_
    have e1 : ((updateStats s).db.filter (fun e => !bad.contains e.1)).map (fun e => (loaded resume e).id) =
        ((updateStats s).dbIds).filter (fun i => !bad.contains i) := by
      rw [State.dbIds, List.filter_map]; rfl
    have e2 : (s.reg.filter (fun t => !bad.contains t.id)).map (·.id) = (s.regIds).filter (fun i => !bad.contains i) := by
      rw [State.regIds, List.filter_map]; rfl
    rw [e1, e2]
    exact (h2.dbIds_quiet hp).filter _
  · obtain ⟨r, hr, hd⟩ := h.synced t ht
    have hrec := mem_updateStats_db h ht hr
    by_cases hbad : bad.contains t.id = true
    · rw [if_pos hbad]
      have hfailed : (t.id, { r with cnt := t.f.cnt }) ∈ ((updateStats s).db ++ s.dead).filter (fun e => bad.contains e.1) :=
        List.mem_filter.2 ⟨List.mem_append_left _ hrec, hbad⟩
      have hgood : ∀ e ∈ (updateStats s).db.filter (fun e => !bad.contains e.1), e.1 ≠ t.id := by
        intro e he hc
        have := (List.mem_filter.1 he).2
        rw [hc, hbad] at this
        cases this
      simp only [Bool.and_eq_true, List.contains_iff_mem, Option.isNone_iff_eq_none]
      rw [openOn_eq _ _ _ _ hgn]
      refine ⟨⟨⟨regGet_eq_none fun hc => ?_, List.mem_map_of_mem (f := (·.1)) hfailed⟩,
        dbGet_isSome_of_mem (List.mem_append_right _ hfailed)⟩, ?_⟩
      · obtain ⟨t', ht', he'⟩ := List.mem_map.1 hc
        obtain ⟨e, he, rfl⟩ := List.mem_map.1 (List.mem_reverse.1 ht')
        exact hgood e he he'
      · -- the port of `t` is in the range and is the port of no record that loads
        refine mem_foldl_erase (fun e : String × Fields => e.2.port) _ _ (h.regPort_mem_range ht) fun hc => ?_
        obtain ⟨e, he, hpe⟩ := List.mem_map.1 hc
        exact hgood e he (h2.id_of_port hp (hsub.subset he) ht hpe)
    · rw [if_neg hbad]
      have he : (t.id, { r with cnt := t.f.cnt }) ∈ (updateStats s).db.filter (fun e => !bad.contains e.1) :=
        List.mem_filter.2 ⟨hrec, by simpa using hbad⟩
      rw [regGet_openOn hgn he, dbGet_append_left (dbGet_of_mem h.dbIds_nodup hr)]
      simp only [decide_eq_true_eq]
      exact field_eq_of_describes hd _

theorem compactRec_eq {r t : Fields} (hd : describes r t = true) (id : String) :
    compactRec ⟨id, t⟩ r = { r with cnt := t.cnt } := by
  have := (describes_iff.1 hd).1
  unfold compactRec
  cases r; cases t; simp_all

theorem compactEquiv_of_inv {s : State} (h : Inv s) : compactEquiv (observe s) (compactDb s) = true := by
  unfold compactEquiv observe
  simp only [Bool.and_eq_true, List.isPerm_iff, List.all_eq_true]
  refine ⟨by rw [compactDb_keys], fun t ht => ?_⟩
  obtain ⟨r, hr, hd⟩ := h.synced t (List.mem_filter.1 ht).1
  rw [dbGet_of_mem (compactDb_nodup h) (mem_compactDb h ht hr), dbGet_append_left (dbGet_of_mem h.dbIds_nodup hr)]
  simp only [decide_eq_true_eq]
  exact compactRec_eq hd t.id

/-- After `compact-database` (compact, swap the file, open): every torrent that has metadata is back
with the same fields; torrents without metadata are gone. -/
theorem compactSwap_equiv {s : State} (h : Inv s) (hp : s.pending = []) (resume : Bool) :
    restartEquiv resume [] { observe s with live := s.reg.filter (·.f.hasInfo), db := compactDb s }
      (observe (compactSwap s resume)) = true := by
  have hsw : compactSwap s resume = openOn s.lo s.hi resume (compactDb s) := by
    unfold compactSwap; rw [if_neg (by simp [hp]), compact_ok h]
  have hn := compactDb_nodup h
  rw [hsw]
  unfold restartEquiv observe
  simp only [Bool.and_eq_true, List.isPerm_iff, List.all_eq_true]
  refine ⟨?_, fun t ht => ?_⟩
  · rw [openOn_eq _ _ _ _ hn]
    refine (loaded_reverse_perm resume _ (·.id)).trans ?_
    have hnil : (s.reg.filter (·.f.hasInfo)).filter (fun t => !([] : List String).contains t.id) = s.reg.filter (·.f.hasInfo) :=
      List.filter_eq_self.2 (fun _ _ => by simp)
    rw [hnil, ← compactDb_keys]
    exact List.Perm.refl _
  · obtain ⟨r, hr, hd⟩ := h.synced t (List.mem_filter.1 ht).1
    have hmem := mem_compactDb h ht hr
    rw [if_neg (by simp)]
    rw [regGet_openOn hn hmem, dbGet_of_mem hn hmem]
    simp only [decide_eq_true_eq]
    rw [compactRec_eq hd t.id]
    exact field_eq_of_describes hd _

end Rain.Registry
