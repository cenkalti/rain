import RainModel.Lemmas.LoopWInvStep
/-!
C08/C04 `never_panics`: the invariant `NP` (= not panicked ∧ `Full`), its preservation by every `step` (any op, any
parked message, any parameters) and by the driver's step `dstep` when the implementation's choices are sane (`Ev.sane`,
`LoopWInvStep`), and `NP` along whole histories — of `dstep` (events + the implementation's choices, `drun`) and of
bare `step`s (`srun`: the picker never starts anything, no hypothesis at all).
-/
namespace Rain.Loop

/-- The inductive invariant of `never_panics`: no panic so far, and `Full` (= `Life ∧ CompInv ∧ WInv`:
lifecycle, completion flags, write/download/queue discipline). -/
structure NP (s : St) : Prop where
  np : s.panicked = none
  full : Full s

theorem step_np (s : St) (p : Parked) (kn : Nat → Bool) (op : Op) (h : NP s) : NP (step s p kn op).1.st :=
  ⟨(step_full s p kn op h.full).2 h.np, (step_full s p kn op h.full).1⟩

theorem dstep_np (sp : St × Parked) (e : Ev) (h : NP sp.1) (hs : e.sane sp) : NP (dstep sp e).1 :=
  ⟨(dstep_full sp e h.full hs).2 h.np, (dstep_full sp e h.full hs).1⟩

/-- Every choice of the implementation along the run was sane (`Ev.sane`). -/
def drunSane : St × Parked → List Ev → Prop
  | _, [] => True
  | sp, e :: evs => e.sane sp ∧ drunSane (dstep sp e) evs

deriving instance DecidableEq for Dl

instance (s : St) (impl : List ImplDl) : Decidable (DlsSane s impl) := by unfold DlsSane; infer_instance
instance (s : St) (implI : List Nat) : Decidable (IdlsSane s implI) := by unfold IdlsSane; infer_instance
instance (sp : St × Parked) (e : Ev) : Decidable (e.sane sp) := by unfold Ev.sane; infer_instance

instance drunSane.dec : (evs : List Ev) → (sp : St × Parked) → Decidable (drunSane sp evs)
  | [], _ => isTrue True.intro
  | e :: evs, sp =>
    @instDecidableAnd _ _ (inferInstanceAs (Decidable (e.sane sp))) (drunSane.dec evs (dstep sp e))

theorem drun_full_of_sane (evs : List Ev) (sp : St × Parked) (h : Full sp.1) (hs : drunSane sp evs) :
    Full (drun sp evs).1 ∧ (sp.1.panicked = none → (drun sp evs).1.panicked = none) := by
  induction evs generalizing sp with
  | nil => exact ⟨h, fun hp => hp⟩
  | cons e evs ih =>
    obtain ⟨h1, p1⟩ := dstep_full sp e h hs.1
    obtain ⟨h2, p2⟩ := ih (dstep sp e) h1 hs.2
    exact ⟨h2, fun hp => p2 (p1 hp)⟩

theorem drun_np (evs : List Ev) (sp : St × Parked) (h : NP sp.1) (hs : drunSane sp evs) : NP (drun sp evs).1 :=
  ⟨(drun_full_of_sane evs sp h.full hs).2 h.np, (drun_full_of_sane evs sp h.full hs).1⟩

theorem drunSane_of_admissible (evs : List Ev) (sp : St × Parked) (h : Full sp.1) (ha : drunAdmissible sp evs)
    (hi : drunAdmissibleI sp evs) : drunSane sp evs := by
  induction evs generalizing sp with
  | nil => trivial
  | cons e evs ih =>
    have hs := e.sane_of_admissible sp h ha.1 hi.1
    exact ⟨hs, ih _ (dstep_full sp e h hs).1 ha.2 hi.2⟩

theorem drun_full (evs : List Ev) (sp : St × Parked) (h : Full sp.1) (ha : drunAdmissible sp evs)
    (hi : drunAdmissibleI sp evs) :
    Full (drun sp evs).1 ∧ (sp.1.panicked = none → (drun sp evs).1.panicked = none) :=
  drun_full_of_sane evs sp h (drunSane_of_admissible evs sp h ha hi)

/-- A history of bare steps: every event is handled, the implementation starts no download (the model's
downloads only ever shrink).  `known` may change from event to event. -/
def srun (sp : St × Parked) (ops : List (Op × (Nat → Bool))) : St × Parked :=
  ops.foldl (fun sp o => ((step sp.1 sp.2 o.2 o.1).1.st, (step sp.1 sp.2 o.2 o.1).2)) sp

theorem srun_np (ops : List (Op × (Nat → Bool))) (sp : St × Parked) (h : NP sp.1) : NP (srun sp ops).1 :=
  foldl_inv (fun sp => NP sp.1) _ (fun sp o => step_np sp.1 sp.2 o.2 o.1) ops sp h

/-- `hw`: no write job from the future is in flight (none at all in every state the driver starts from). -/
theorem InitLike.np {s : St} (h : InitLike s) (hp : s.panicked = none) (hw : ∀ w, s.writing = some w → w.gen ≤ s.gen) :
    NP s := ⟨hp, h.full hw⟩

end Rain.Loop
