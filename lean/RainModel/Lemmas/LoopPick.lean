import RainModel.Lemmas.LoopPeers
/-!
C10, model-level half: the picker is re-run (`mayStart`) for every idle peer after the events that free
a piece or a peer.
-/
namespace Rain.Loop

/-- The picker has been run, in this op, for every connected peer that has no download. -/
def Repicked (s : St) : Prop :=
  s.status = .downloading → s.loaded = true → ∀ p ∈ s.peers, s.findDl p.k = none → p.k ∈ s.mayStart

theorem foldl_visits {α σ} (J : σ → Prop) (Q : α → σ → Prop) (f : σ → α → σ) (l : List α)
    (hJ : ∀ s a, J s → J (f s a)) (hmono : ∀ s a b, J s → Q b s → Q b (f s a))
    (hQ : ∀ s, ∀ a ∈ l, J s → Q a (f s a)) (s : σ) (hs : J s) :
    J (l.foldl f s) ∧ (∀ b, Q b s → Q b (l.foldl f s)) ∧ ∀ a ∈ l, Q a (l.foldl f s) := by
  induction l generalizing s with
  | nil => exact ⟨hs, fun _ h => h, fun _ h => nomatch h⟩
  | cons a l ih =>
    obtain ⟨j, m, q⟩ := ih (fun s b hb => hQ s b (List.mem_cons_of_mem _ hb)) (f s a) (hJ s a hs)
    refine ⟨j, fun b hb => m b (hmono s a b hs hb), fun b hb => ?_⟩
    rcases List.mem_cons.1 hb with rfl | hb
    · exact m b (hQ s b (List.mem_cons_self ..) hs)
    · exact q b hb

theorem startDlFor_mayStart_mono (s : St) (k k' : Nat) (h : k' ∈ s.mayStart) : k' ∈ (s.startDlFor k).mayStart := by
  unfold St.startDlFor
  split <;> simp [h]

theorem startDlFor_mem (s : St) (k : Nat) (hs : s.status = .downloading) (hp : (s.findPeer k).isSome) :
    k ∈ (s.startDlFor k).mayStart := by
  unfold St.startDlFor
  simp [hs, hp]

theorem startDls_spec (s : St) :
    (∀ k' ∈ s.mayStart, k' ∈ s.startDls.mayStart) ∧ Repicked s.startDls := by
  unfold Repicked St.startDls
  split
  · next hst0 =>
    have hst : s.status = .downloading := by
      simp only [Bool.and_eq_true, decide_eq_true_eq] at hst0; exact hst0.1
    have mono : ∀ (t : St) (p : Peer) (k' : Nat), k' ∈ t.mayStart →
        k' ∈ (if (t.findDl p.k).isNone then t.startDlFor p.k else t).mayStart := fun t p k' h => by
      split
      · exact startDlFor_mayStart_mono t p.k k' h
      · exact h
    -- the fold only writes `mayStart`, so status, peers and downloads are those of `s` throughout
    obtain ⟨⟨w, m⟩, -, q⟩ := foldl_visits
      (fun t => Writes [.mayStart] s t ∧ ∀ k' ∈ s.mayStart, k' ∈ t.mayStart)
      (fun (p : Peer) t => s.findDl p.k = none → p.k ∈ t.mayStart)
      (fun t p => if (t.findDl p.k).isNone then t.startDlFor p.k else t) s.peers
      (fun t p ⟨w, m⟩ => ⟨by
          split
          · exact fun _ hw => ((startDlFor_writes t p.k) hw).trans (w hw)
          · exact w,
        fun k' hk' => mono t p k' (m k' hk')⟩)
      (fun t p q _ hq hn => mono t p q.k (hq hn))
      (fun t p hp ⟨w, _⟩ hn => by
        rw [w.findDl, hn, Option.isNone_none, if_pos rfl]
        exact startDlFor_mem t p.k (w.status.trans hst) (by
          rw [w.findPeer, St.findPeer, List.find?_isSome]; exact ⟨p, hp, by simp⟩))
      s ⟨fun _ _ => rfl, fun _ h => h⟩
    exact ⟨m, fun _ _ p hp hn => q p (w.peers ▸ hp) (w.findDl p.k ▸ hn)⟩
  · next hst => exact ⟨fun _ h => h, fun h hl => absurd (by simp [h, hl]) hst⟩

theorem Repicked.mayStartI {s : St} (h : Repicked s) (b : Bool) : Repicked { s with mayStartI := b } := by
  unfold Repicked at *
  exact h

/-- **closePeer re-picks** (fix of finding C10-F1). -/
theorem closePeer_repicks (s : St) (k : Nat) (hk : (s.findPeer k).isSome) : Repicked (s.closePeer k) := by
  unfold St.closePeer
  cases h : s.findPeer k
  · rw [h] at hk; cases hk
  · dsimp only
    split
    · exact (startDls_spec _).2.mayStartI true
    · exact (startDls_spec _).2

/-- **A choke re-picks**: the choked download's piece may be taken by someone else. -/
theorem choke_repicks (m : M) (k : Nat) (d : Dl) (hd : m.1.findDl k = some d) (haf : d.af = false) :
    Repicked (handlePeerMessage m k .choke).1 := by
  unfold handlePeerMessage
  simp only [hd, haf, Bool.false_eq_true, ↓reduceIte, onSt_fst]
  exact (startDls_spec _).2

theorem snub_repicks (m : M) (k : Nat) (d : Dl) (p : Peer) (hd : m.1.findDl k = some d)
    (hp : m.1.findPeer k = some p) (hc : p.peerChoking = false) :
    Repicked (handlePeerSnubbed m k).1 := by
  unfold handlePeerSnubbed
  simp only [hd, hp, hc, Bool.false_eq_true, ↓reduceIte, onSt_fst]
  exact (startDls_spec _).2

theorem failed_hash_repicks (m : M) (w : WriteJob) (hg : w.good = false) :
    Repicked (writerRun m w).1 := by
  rw [writerRun_bad m w hg]
  exact (startDls_spec _).2

theorem closeDl_findDl_self (s : St) (k : Nat) : (s.closeDl k).findDl k = none := by
  unfold St.closeDl
  split
  · simp [St.findDl]
  · next h => simpa using h

theorem closeDl_findDl_none (s : St) (k k' : Nat) (h : s.findDl k' = none) : (s.closeDl k).findDl k' = none := by
  unfold St.closeDl
  split
  · simp only [St.findDl, List.find?_eq_none] at h ⊢
    exact fun x hx => h x (List.mem_filter.1 hx).1
  · exact h

end Rain.Loop
