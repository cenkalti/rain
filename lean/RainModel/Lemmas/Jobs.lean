import RainModel.Model.Geometry
import RainModel.Lemmas.Geometry
/-! Helper lemmas for `jobs_cover` (C02): `urldownloader.createJobs`. -/
namespace Rain.Geometry

/-- The loop body of `createJobs` without the `i == 0 && j == 0` special case. -/
def jobStep (a : List Job × Job) (s : Sec) : List Job × Job :=
  if s.name = a.2.name ∧ s.pad = a.2.pad then (a.1, { a.2 with len := a.2.len + s.len })
  else (flush a.1 a.2, Job.ofSec s)

def jobFold (secs : List Sec) (a : List Job × Job) : List Job × Job := secs.foldl jobStep a

theorem jobFold_cons (s : Sec) (r : List Sec) (a : List Job × Job) : jobFold (s :: r) a = jobFold r (jobStep a s) := rfl

theorem jobFold_append (x y : List Sec) (a : List Job × Job) : jobFold (x ++ y) a = jobFold y (jobFold x a) := by
  simp [jobFold, List.foldl_append]

theorem jobSecs_eq_fold (i : Nat) : ∀ (secs : List Sec) (j : Nat) (a : List Job × Job), ¬ (i = 0 ∧ j = 0) →
    jobSecs i j secs a = jobFold secs a
  | [], _, _, _ => rfl
  | s :: r, j, (jobs, job), h => by
    unfold jobSecs
    rw [if_neg h, jobFold_cons]
    have h' : ¬ (i = 0 ∧ j + 1 = 0) := by omega
    by_cases hm : s.name = job.name ∧ s.pad = job.pad
    · rw [if_pos hm, jobSecs_eq_fold i r (j + 1) _ h']; simp [jobStep, hm]
    · rw [if_neg hm, jobSecs_eq_fold i r (j + 1) _ h']; simp [jobStep, hm]

/-- At `(0, 0)` the special case is the plain fold from the zero job, because no file name is empty. -/
theorem jobSecs_zero_eq_fold (secs : List Sec) (hn : ∀ s ∈ secs, s.name ≠ 0) :
    jobSecs 0 0 secs ([], zeroJob) = jobFold secs ([], zeroJob) := by
  cases secs with
  | nil => rfl
  | cons s r =>
    unfold jobSecs
    rw [if_pos ⟨rfl, rfl⟩, jobFold_cons, jobSecs_eq_fold 0 r 1 _ (by omega)]
    have : ¬ (s.name = zeroJob.name ∧ s.pad = zeroJob.pad) := by
      intro h; exact hn s (by simp) h.1
    have hs : jobStep ([], zeroJob) s = ([], Job.ofSec s) := by
      unfold jobStep
      rw [if_neg this]; simp [flush, zeroJob]
    rw [hs]

theorem jobPieces_eq_fold (ps : List Piece) (hn : ∀ s ∈ allSecs ps, s.name ≠ 0) : ∀ (k b : Nat) (a : List Job × Job),
    b + k ≤ ps.length → (b = 0 → a = ([], zeroJob)) →
    jobPieces ps b k a = some (jobFold (allSecs ((ps.drop b).take k)) a)
  | 0, b, a, _, _ => by simp [jobPieces, allSecs, jobFold]
  | k + 1, b, a, hle, ha => by
    have hlt : b < ps.length := by omega
    have hget : ps[b]? = some ps[b] := List.getElem?_eq_getElem hlt
    unfold jobPieces
    simp only [hget]
    have hsecs : jobSecs b 0 ps[b].secs a = jobFold ps[b].secs a := by
      by_cases hb : b = 0
      · rw [ha hb]; subst hb
        apply jobSecs_zero_eq_fold
        intro s hs
        exact hn s (mem_allSecs.2 ⟨ps[0], List.getElem_mem _, hs⟩)
      · exact jobSecs_eq_fold b _ 0 a (by omega)
    rw [hsecs, jobPieces_eq_fold ps hn k (b + 1) _ (by omega) (by omega), List.drop_eq_getElem_cons hlt, List.take_succ_cons,
      allSecs_cons, jobFold_append]

/-- `createJobs`' result for an accumulator. -/
def out (a : List Job × Job) : List Job := (flush a.1 a.2).reverse

theorem jobToks_len_zero (j : Job) (h : j.len = 0) : jobToks j = [] := by
  unfold jobToks; split <;> simp [h]

theorem out_toks (jobs : List Job) (job : Job) :
    (out (jobs, job)).flatMap jobToks = jobs.reverse.flatMap jobToks ++ jobToks job := by
  unfold out flush
  by_cases h : job.len > 0
  · simp [h]
  · have h0 : job.len = 0 := by omega
    simp [h, jobToks_len_zero job h0]

theorem flush_pos {jobs : List Job} (job : Job) (h : ∀ j ∈ jobs, 0 < j.len) : ∀ j ∈ flush jobs job, 0 < j.len := by
  unfold flush
  split
  · exact List.forall_mem_cons.2 ⟨‹_›, h⟩
  · exact h

theorem out_pos (jobs : List Job) (job : Job) (h : ∀ j ∈ jobs, 0 < j.len) : ∀ j ∈ out (jobs, job), 0 < j.len :=
  fun j hj => flush_pos job h j (List.mem_reverse.1 hj)

theorem jobToks_ofSec (s : Sec) : jobToks (Job.ofSec s) = secToks s := rfl

theorem jobToks_merge_pad (job : Job) (s : Sec) (hj : job.pad = true) (hs : s.pad = true) :
    jobToks { job with len := job.len + s.len } = jobToks job ++ secToks s := by
  simp [jobToks, secToks, hj, hs, List.replicate_append_replicate]

theorem jobToks_merge_data (job : Job) (s : Sec) (hj : job.pad = false) (hs : s.pad = false)
    (hname : s.name = job.name) (hoff : s.off = job.begin + job.len) :
    jobToks { job with len := job.len + s.len } = jobToks job ++ secToks s := by
  simp only [jobToks, secToks, hj, hs, Bool.false_eq_true, if_false]
  rw [List.range_add, List.map_append, List.map_map]
  congr 1
  apply List.map_congr_left
  intro k _
  simp [hname, hoff, Nat.add_assoc]

theorem names_distinct {files : List FileEnt} (h : namesOK files = true) {i j : Nat} {f g : FileEnt}
    (hi : files[i]? = some f) (hj : files[j]? = some g) (hij : i < j) (hf : f.pad = false) (hg : g.pad = false) :
    f.name ≠ g.name := by
  unfold namesOK at h
  rw [Bool.and_eq_true, decide_eq_true_eq] at h
  obtain ⟨hil, rfl⟩ := List.getElem?_eq_some_iff.1 hi
  obtain ⟨hjl, rfl⟩ := List.getElem?_eq_some_iff.1 hj
  simpa [hf, hg] using List.pairwise_iff_getElem.mp h.2 i j hil hjl hij

theorem names_ne_zero {files : List FileEnt} (h : namesOK files = true) {s : Sec} (hm : secMetaOK files s = true) :
    s.name ≠ 0 := by
  unfold namesOK at h
  rw [Bool.and_eq_true, List.all_eq_true] at h
  obtain ⟨f, hf, _, hn, _⟩ := secMetaOK_iff.1 hm
  rw [hn]
  simpa using h.1 f (List.mem_of_getElem? hf)

/-- An open data job other than the zero job ends exactly at the walk position `p`, inside a non-padding file of
its name. -/
def Tracks (files : List FileEnt) (job : Job) (p : Nat × Nat) : Prop :=
  job.pad = false → job.name ≠ 0 →
    p.2 = job.begin + job.len ∧ ∃ f, files[p.1]? = some f ∧ f.name = job.name ∧ f.pad = false

theorem jobStep_toks {files : List FileEnt} (hnames : namesOK files = true) (jobs : List Job) (job : Job) (s : Sec)
    (p : Nat × Nat) (hreach : Reach p (s.file, s.off)) (hm : secMetaOK files s = true)
    (htr : Tracks files job p) (hpos : ∀ j ∈ jobs, 0 < j.len) :
    Tracks files (jobStep (jobs, job) s).2 (s.file, s.off + s.len) ∧
    (∀ j ∈ (jobStep (jobs, job) s).1, 0 < j.len) ∧
    (out (jobStep (jobs, job) s)).flatMap jobToks = (out (jobs, job)).flatMap jobToks ++ secToks s := by
  obtain ⟨fs, hfs, hspad, hsname, _⟩ := secMetaOK_iff.1 hm
  have hsn0 := names_ne_zero hnames hm
  -- where the section ends it is inside its own file
  have hnew : s.pad = false →
      s.off + s.len = s.off + s.len ∧ ∃ f, files[s.file]? = some f ∧ f.name = s.name ∧ f.pad = false :=
    fun hp => ⟨rfl, fs, hfs, hsname.symm, hspad ▸ hp⟩
  unfold jobStep
  by_cases hmerge : s.name = job.name ∧ s.pad = job.pad
  · simp only [hmerge, and_self, if_true]
    -- a data job that takes the section in ends where the section starts: the same name means the same file
    have hcont : job.pad = false → s.off = job.begin + job.len := by
      intro hp'
      obtain ⟨hend, f, hf, hfn, hfp⟩ := htr hp' (hmerge.1 ▸ hsn0)
      rcases hreach with heq | ⟨hlt, _⟩
      · exact (congrArg Prod.snd heq).trans hend
      · exact absurd (by rw [hfn, ← hsname, hmerge.1]) (names_distinct hnames hf hfs hlt hfp (hspad ▸ hmerge.2 ▸ hp'))
    refine ⟨fun hp' _ => ?_, hpos, ?_⟩
    · obtain ⟨_, h⟩ := hnew (hmerge.2 ▸ hp')
      exact ⟨by have := hcont hp'; simp only; omega, hmerge.1 ▸ h⟩
    · rw [out_toks, out_toks, List.append_assoc]
      congr 1
      by_cases hp : job.pad = true
      · exact jobToks_merge_pad job s hp (by rw [hmerge.2, hp])
      · have hp' : job.pad = false := by simpa using hp
        exact jobToks_merge_data job s hp' (by rw [hmerge.2, hp']) hmerge.1 (hcont hp')
  · rw [if_neg hmerge]
    refine ⟨fun hp' _ => hnew hp', flush_pos job hpos, ?_⟩
    rw [out_toks]
    simp only [jobToks_ofSec]
    congr 1

theorem jobFold_toks {files : List FileEnt} (hnames : namesOK files = true) : ∀ (secs : List Sec) (jobs : List Job)
    (job : Job) (p q : Nat × Nat), walkTo p secs q → (∀ s ∈ secs, secMetaOK files s = true) →
    Tracks files job p → (∀ j ∈ jobs, 0 < j.len) →
    (out (jobFold secs (jobs, job))).flatMap jobToks = (out (jobs, job)).flatMap jobToks ++ secs.flatMap secToks ∧
    ∀ j ∈ out (jobFold secs (jobs, job)), 0 < j.len
  | [], jobs, job, _, _, _, _, _, hpos => ⟨by simp [jobFold], out_pos jobs job hpos⟩
  | s :: r, jobs, job, p, q, hwalk, hmeta, htr, hpos => by
    obtain ⟨htr', hpos', htoks⟩ := jobStep_toks hnames jobs job s p hwalk.1 (hmeta s (by simp)) htr hpos
    obtain ⟨h1, h2⟩ := jobFold_toks hnames r (jobStep (jobs, job) s).1 (jobStep (jobs, job) s).2 _ q hwalk.2
      (fun t ht => hmeta t (by simp [ht])) htr' hpos'
    rw [jobFold_cons]
    refine ⟨?_, h2⟩
    rw [h1, htoks, List.flatMap_cons, List.append_assoc]

theorem allSecs_append (a b : List Piece) : allSecs (a ++ b) = allSecs a ++ allSecs b := by simp [allSecs]

/-- `createJobs` on pieces whose sections walk the files (as `newPieces` produces them). -/
theorem createJobs_cover {files : List FileEnt} (hnames : namesOK files = true) (ps : List Piece) (p0 q0 : Nat × Nat)
    (hwalk : walkTo p0 (allSecs ps) q0) (hmeta : ∀ s ∈ allSecs ps, secMetaOK files s = true)
    (b e : Nat) (hbe : b ≤ e) (he : e ≤ ps.length) :
    ∃ jobs, createJobs ps b e = some jobs ∧ JobsCover (secsOfRange ps b e) jobs = true := by
  unfold createJobs
  by_cases hbe' : b = e
  · subst hbe'
    exact ⟨[], by simp, by simp [JobsCover, secsOfRange, allSecs]⟩
  · rw [if_neg hbe']
    have hn : ∀ s ∈ allSecs ps, s.name ≠ 0 := fun s hs => names_ne_zero hnames (hmeta s hs)
    rw [jobPieces_eq_fold ps hn (e - b) b ([], zeroJob) (by omega) (fun _ => rfl)]
    simp only
    rw [show allSecs (List.take (e - b) (List.drop b ps)) = secsOfRange ps b e from rfl]
    -- the sections of [b, e) are a middle part of the walk
    have hsplit : ps = ps.take b ++ ((ps.drop b).take (e - b) ++ (ps.drop b).drop (e - b)) := by
      rw [List.take_append_drop, List.take_append_drop]
    have hall : allSecs ps = allSecs (ps.take b) ++ (secsOfRange ps b e ++ allSecs ((ps.drop b).drop (e - b))) := by
      conv => lhs; rw [hsplit]
      rw [allSecs_append, allSecs_append]; rfl
    rw [hall] at hwalk
    obtain ⟨m, _, hw2⟩ := (walkTo_append ..).1 hwalk
    obtain ⟨m', hw3, _⟩ := (walkTo_append ..).1 hw2
    have hmeta' : ∀ s ∈ secsOfRange ps b e, secMetaOK files s = true := by
      intro s hs
      apply hmeta s
      rw [hall]; simp [hs]
    obtain ⟨h1, h2⟩ := jobFold_toks hnames (secsOfRange ps b e) [] zeroJob m m' hw3 hmeta'
      (fun _ h => absurd rfl h) (by simp)
    refine ⟨_, rfl, ?_⟩
    unfold JobsCover
    rw [Bool.and_eq_true, beq_iff_eq, List.all_eq_true]
    refine ⟨?_, ?_⟩
    · have := h1
      simp only [out] at this
      rw [this]
      simp [flush, zeroJob]
    · intro j hj
      have := h2 j (by simpa [out] using hj)
      simpa using this

end Rain.Geometry
