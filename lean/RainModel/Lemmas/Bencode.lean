import RainModel.Model.Bencode
import RainModel.Lemmas.Radix
namespace Rain.Bencode

theorem splitAtByte_len {c : Nat} {bs a r : Bytes} (h : splitAtByte c bs = some (a, r)) :
    a.length + r.length + 1 = bs.length := by
  induction bs generalizing a r with
  | nil => simp [splitAtByte] at h
  | cons x xs ih =>
    unfold splitAtByte at h
    split at h
    · cases h; simp
    · split at h
      · cases h
      · rename_i a' b' h'
        cases h
        have := ih h'
        simp; omega

theorem take?_len' {n : Nat} {bs a r : Bytes} (h : take? n bs = some (a, r)) :
    a.length = n ∧ r.length + n = bs.length := by
  unfold take? at h
  split at h
  · cases h
    simp [List.length_take, List.length_drop]; omega
  · cases h

theorem scanStr_len {bs s r : Bytes} (h : scanStr bs = some (s, r)) :
    s.length + r.length < bs.length := by
  unfold scanStr at h
  split at h
  · cases h
  · rename_i ds r0 h0
    split at h
    · cases h
    · have := splitAtByte_len h0
      have := take?_len' h
      omega

/-- The token at the head of `bs` and the bytes after it: what one trip of `validateBencode`'s loop
reads, apart from the depth counter. -/
def nextTok : Bytes → Option (Tok × Bytes)
  | [] => none
  | c :: r =>
    if c = 101 then some (.fin, r)
    else if c = 108 then some (.lst, r)
    else if c = 100 then some (.dct, r)
    else if c = 105 then (splitAtByte 101 r).map fun p => (.int p.1, p.2)
    else if isDigit c then (scanStr (c :: r)).map fun p => (.str p.1, p.2)
    else none

/-- The depth counter after a token read inside `d` open containers; `none` where the guard refuses
(an `e` outside any container, nesting beyond `maxDepth`). The value ends where this is `0`. -/
def enter (d : Nat) : Tok → Option Nat
  | .fin => if d = 0 then none else some (d - 1)
  | .lst | .dct => if d + 1 > maxDepth then none else some (d + 1)
  | .int _ | .str _ => some d

theorem tokenizeAux_succ (f : Nat) (bs : Bytes) (d : Nat) (acc : List Tok) :
    tokenizeAux (f + 1) bs d acc =
      match nextTok bs with
      | none => none
      | some (t, r) =>
        match enter d t with
        | none => none
        | some d' => if d' = 0 then some ((t :: acc).reverse, r) else tokenizeAux f r d' (t :: acc) := by
  fun_cases nextTok bs
  · rfl
  · simp only [tokenizeAux, enter, if_true]
    split
    · rfl
    · have : (d - 1 = 0) = (d = 1) := by simp; omega
      simp only [this]
  · simp only [tokenizeAux, enter, Nat.reduceEqDiff, if_true, if_false]; split <;> simp
  · simp only [tokenizeAux, enter, Nat.reduceEqDiff, if_true, if_false]; split <;> simp
  · simp only [tokenizeAux, Nat.reduceEqDiff, if_true, if_false]
    cases splitAtByte 101 _ <;> simp [enter]
  · simp only [tokenizeAux, *, if_true, if_false]; cases scanStr _ <;> simp [enter]
  · simp [tokenizeAux, *]

/-- `Walk bs d ts rest`: starting inside `d` open containers the guard reads the tokens `ts` off
`bs`, the last of them ends the value it started in, and `rest` is left. -/
inductive Walk : Bytes → Nat → List Tok → Bytes → Prop
  | last {bs d t r} : nextTok bs = some (t, r) → enter d t = some 0 → Walk bs d [t] r
  | more {bs d t r d' ts rest} : nextTok bs = some (t, r) → enter d t = some d' → d' ≠ 0 →
      Walk r d' ts rest → Walk bs d (t :: ts) rest

theorem tokenizeAux_walk : ∀ (f : Nat) (bs : Bytes) (d : Nat) (acc toks : List Tok) (rest : Bytes),
    tokenizeAux f bs d acc = some (toks, rest) → ∃ ts, toks = acc.reverse ++ ts ∧ Walk bs d ts rest := by
  intro f
  induction f with
  | zero => intro bs d acc toks rest h; simp [tokenizeAux] at h
  | succ f ih =>
    intro bs d acc toks rest h
    rw [tokenizeAux_succ] at h
    split at h
    · cases h
    · rename_i t r hn
      split at h
      · cases h
      · rename_i d' he
        split at h
        · rename_i hd
          cases h
          exact ⟨[t], by simp, .last hn (hd ▸ he)⟩
        · rename_i hd
          obtain ⟨ts, rfl, hw⟩ := ih _ _ _ _ _ h
          exact ⟨t :: ts, by simp, .more hn he hd hw⟩

theorem strLens_cons (t : Tok) (ts : List Tok) : strLens (t :: ts) = strLens [t] ++ strLens ts := by
  cases t <;> rfl

theorem nextTok_len {bs r : Bytes} {t : Tok} (h : nextTok bs = some (t, r)) :
    r.length < bs.length ∧ ∀ n ∈ strLens [t], n + r.length < bs.length := by
  fun_cases nextTok bs
  · cases h
  · cases h; simp [strLens]
  · cases h; simp [strLens]
  · cases h; simp [strLens]
  · obtain ⟨p, hp, h⟩ := Option.map_eq_some_iff.mp h
    cases h
    have := splitAtByte_len hp
    simp [strLens]; omega
  · simp only [nextTok, *, if_false, if_true, Option.map_eq_some_iff] at h
    obtain ⟨p, hp, h⟩ := h
    cases h
    have := scanStr_len hp
    simp [strLens] at this ⊢; omega
  · simp [nextTok, *] at h

theorem Walk.bound {bs : Bytes} {d : Nat} {ts : List Tok} {rest : Bytes} (h : Walk bs d ts rest) :
    (∀ n ∈ strLens ts, n ≤ bs.length) ∧ rest.length ≤ bs.length := by
  induction h with
  | last hn _ =>
    have := nextTok_len hn
    exact ⟨fun n hn' => by have := this.2 n hn'; omega, by omega⟩
  | more hn _ _ _ ih =>
    have := nextTok_len hn
    refine ⟨fun n hn' => ?_, by omega⟩
    rw [strLens_cons, List.mem_append] at hn'
    rcases hn' with hn' | hn'
    · have := this.2 n hn'; omega
    · have := ih.1 n hn'; omega

theorem tokenize_bound {bs : Bytes} {toks : List Tok} {rest : Bytes} (h : tokenize bs = some (toks, rest)) :
    (∀ n ∈ strLens toks, n ≤ bs.length) ∧ rest.length ≤ bs.length := by
  obtain ⟨ts, rfl, hw⟩ := tokenizeAux_walk _ bs 0 [] toks rest h
  exact hw.bound

theorem parseExt_strLens {eid : Nat} {payload : Bytes} {res : Option ExtPayload} {ls : List Nat}
    (h : parseExt eid payload = (res, ls)) : ∀ n ∈ ls, n ≤ payload.length := by
  unfold parseExt at h
  split at h
  · cases h; simp
  · split at h
    · cases h; simp
    · cases h; exact (tokenize_bound ‹_›).1

def nestMax : List Tok → Nat → Nat
  | [], _ => 0
  | .lst :: r, d => Nat.max (d + 1) (nestMax r (d + 1))
  | .dct :: r, d => Nat.max (d + 1) (nestMax r (d + 1))
  | .fin :: r, d => nestMax r (d - 1)
  | .int _ :: r, d => nestMax r d
  | .str _ :: r, d => nestMax r d

theorem nestMax_cons {d d' : Nat} {t : Tok} {ts : List Tok} (he : enter d t = some d')
    (h : nestMax ts d' ≤ maxDepth) : nestMax (t :: ts) d ≤ maxDepth := by
  cases t <;> simp only [enter] at he
  case int | str => cases he; exact h
  case fin => split at he <;> cases he; exact h
  case lst | dct => split at he <;> cases he; exact Nat.max_le.2 ⟨by omega, h⟩

theorem Walk.depth {bs : Bytes} {d : Nat} {ts : List Tok} {rest : Bytes} (h : Walk bs d ts rest) :
    nestMax ts d ≤ maxDepth := by
  induction h with
  | last _ he => exact nestMax_cons he (Nat.zero_le _)
  | more _ he _ _ ih => exact nestMax_cons he ih

theorem tokenize_depth {bs : Bytes} {toks : List Tok} {rest : Bytes} (h : tokenize bs = some (toks, rest)) :
    nestMax toks 0 ≤ maxDepth := by
  obtain ⟨ts, rfl, hw⟩ := tokenizeAux_walk _ bs 0 [] toks rest h
  exact hw.depth

theorem decRev_eq : ∀ f n, decRev f n = (Radix.digitsRev 10 f n).map (48 + ·)
  | 0, _ => rfl
  | f + 1, n => by rw [decRev, Radix.digitsRev, decRev_eq f]; split <;> rfl

theorem natDec_eq (n : Nat) : natDec n = Radix.natDec n := by
  rw [natDec, decRev_eq, Radix.natDec, List.map_reverse]

theorem natDec_digits (n : Nat) : ∀ b ∈ natDec n, 48 ≤ b ∧ b ≤ 57 :=
  natDec_eq n ▸ Radix.natDec_digit n

theorem natDec_head (n : Nat) : ∃ c r, natDec n = c :: r ∧ 48 ≤ c ∧ c ≤ 57 :=
  natDec_eq n ▸ Radix.natDec_head n

theorem parseNatDec_natDec (n : Nat) : parseNatDec (natDec n) = some n := by
  have h : digitsVal (natDec n) 0 = some n :=
    natDec_eq n ▸ Radix.read_natDec (fun _ => rfl) (fun d cs a _ => by simp [digitsVal, isDigit]; omega) n
  obtain ⟨c, r, e, _⟩ := natDec_head n
  rw [e] at h ⊢
  exact h

theorem splitAtByte_append (c : Nat) (a r : Bytes) (h : c ∉ a) :
    splitAtByte c (a ++ c :: r) = some (a, r) := by
  induction a with
  | nil => simp [splitAtByte]
  | cons x xs ih =>
    have hx : x ≠ c := by intro e; apply h; simp [e]
    have hxs : c ∉ xs := by intro e; apply h; simp [e]
    simp [splitAtByte, hx, ih hxs]

theorem scanStr_encStr (s rest : Bytes) : scanStr (encStr s ++ rest) = some (s, rest) := by
  unfold scanStr encStr
  have h58 : 58 ∉ natDec s.length := by
    intro h; have := natDec_digits _ _ h; omega
  rw [List.append_assoc, List.cons_append, splitAtByte_append 58 _ _ h58]
  simp [parseNatDec_natDec, take?]

theorem strconvUint64_natDec (n : Nat) (h : n < 18446744073709551616) : strconvUint64 (natDec n) = some n := by
  simp [strconvUint64, parseNatDec_natDec, h]

theorem strconvInt64_intDec (z : Int) (h1 : -9223372036854775808 ≤ z) (h2 : z < 9223372036854775808) :
    strconvInt64 (intDec z) = some z := by
  unfold intDec
  split
  · have : z.natAbs ≤ 9223372036854775808 := by omega
    simp [strconvInt64, parseNatDec_natDec, this]
    omega
  · obtain ⟨d, ds, hnd, hdd⟩ := natDec_head z.toNat
    have h45 : d ≠ 45 := by omega
    have h43 : d ≠ 43 := by omega
    have : z.toNat < 9223372036854775808 := by omega
    have hp := parseNatDec_natDec z.toNat
    rw [hnd] at hp ⊢
    simp [strconvInt64, h45, h43, hp, this]
    omega

theorem natDec_no_e (n : Nat) : 101 ∉ natDec n := by
  intro h; have := natDec_digits _ _ h; omega

theorem intDec_no_e (z : Int) : 101 ∉ intDec z := by
  unfold intDec
  split
  · simpa using natDec_no_e _
  · exact natDec_no_e _

/-! ### the guard inverts rendering -/

def renderTok : Tok → Bytes
  | .int ds => 105 :: (ds ++ [101])
  | .str s => encStr s
  | .lst => [108]
  | .dct => [100]
  | .fin => [101]

def render (ts : List Tok) : Bytes := ts.flatMap renderTok

/-! Rendering goes through the ways the token lists of the records are put together: `::`, `++`, and a part that
is left out under a condition (`omitempty`). -/

theorem render_cons (t : Tok) (ts : List Tok) : render (t :: ts) = renderTok t ++ render ts := rfl

theorem render_append (a b : List Tok) : render (a ++ b) = render a ++ render b := by
  simp [render]

theorem render_opt (c : Prop) [Decidable c] (ts : List Tok) :
    render (if c then [] else ts) = if c then [] else render ts := by
  split <;> rfl

/-- Tokens whose rendering the guard reads back as the same token: an integer's text has no `e`. -/
def clean : Tok → Bool
  | .int ds => !ds.contains 101
  | _ => true

/-- Token lists the tokenizer walks through from depth `d` and stops exactly at their end. -/
def wn : Nat → List Tok → Bool
  | _, [] => false
  | d, t :: r => clean t &&
    match enter d t with
    | none => false
    | some d' => if d' = 0 then r.isEmpty else wn d' r

theorem encStr_head (s : Bytes) : ∃ c r, encStr s = c :: r ∧ isDigit c = true := by
  obtain ⟨c, r, h, hc⟩ := natDec_head s.length
  refine ⟨c, r ++ 58 :: s, by simp [encStr, h], ?_⟩
  simp [isDigit]; omega

theorem nextTok_renderTok (t : Tok) (rest : Bytes) (h : clean t = true) :
    nextTok (renderTok t ++ rest) = some (t, rest) := by
  cases t with
  | fin | lst | dct => rfl
  | int ds =>
    have : 101 ∉ ds := by simpa [clean] using h
    simp [renderTok, nextTok, splitAtByte_append 101 ds rest this]
  | str s =>
    obtain ⟨c, cr, hc, hdig⟩ := encStr_head s
    have hsc := scanStr_encStr s rest
    simp only [renderTok, hc, List.cons_append] at hsc ⊢
    have : c ≠ 101 ∧ c ≠ 108 ∧ c ≠ 100 ∧ c ≠ 105 := by simp [isDigit] at hdig; omega
    simp [nextTok, this, hdig, hsc]

theorem tokenizeAux_render (rest : Bytes) : ∀ (ts : List Tok) (d f : Nat) (acc : List Tok),
    wn d ts = true → ts.length ≤ f → tokenizeAux f (render ts ++ rest) d acc = some (acc.reverse ++ ts, rest)
  | [], _, _, _, h, _ => by cases h
  | _ :: _, _, 0, _, _, hf => by cases hf
  | t :: r, d, f + 1, acc, h, hf => by
    simp only [wn, Bool.and_eq_true] at h
    rw [tokenizeAux_succ, render_cons, List.append_assoc, nextTok_renderTok t _ h.1]
    cases he : enter d t with
    | none => simp [he] at h
    | some d' =>
      simp only [he] at h ⊢
      split
      · rename_i hd
        have : r = [] := by simpa [hd] using h.2
        subst this; simp [render]
      · rename_i hd
        rw [tokenizeAux_render rest r d' f (t :: acc) (by simpa [hd] using h.2) (Nat.le_of_succ_le_succ hf)]
        simp

theorem renderTok_len (t : Tok) : 1 ≤ (renderTok t).length := by
  cases t <;> simp [renderTok, encStr] <;> omega

theorem render_len (ts : List Tok) : ts.length ≤ (render ts).length := by
  induction ts with
  | nil => simp [render]
  | cons t r ih =>
    have := renderTok_len t
    simp only [render, List.flatMap_cons, List.length_append, List.length_cons] at *
    omega

theorem tokenize_render (ts : List Tok) (rest : Bytes) (h : wn 0 ts = true) :
    tokenize (render ts ++ rest) = some (ts, rest) := by
  have hl := render_len ts
  exact tokenizeAux_render rest ts 0 _ [] h (by simp; omega)

def mapToks (m : List (Bytes × Nat)) : List Tok := m.flatMap fun kv => [Tok.str kv.1, Tok.int (natDec kv.2)]

theorem mapSet_new (acc : List (Bytes × Nat)) (k : Bytes) (v : Nat) (h : ∀ p ∈ acc, p.1 ≠ k) :
    mapSet acc k v = acc ++ [(k, v)] := by
  induction acc with
  | nil => rfl
  | cons p r ih =>
    obtain ⟨k', v'⟩ := p
    have h1 : k' ≠ k := h (k', v') (by simp)
    have h2 : ∀ p ∈ r, p.1 ≠ k := fun p hp => h p (by simp [hp])
    simp [mapSet, h1, ih h2]

theorem parseMapU8_mapToks (r : List Tok) : ∀ (m acc : List (Bytes × Nat)) (f : Nat),
    ((acc ++ m).map (·.1)).Nodup → (∀ q ∈ m, q.2 < 256) → m.length < f →
    parseMapU8 f (mapToks m ++ Tok.fin :: r) acc = some (acc ++ m, r)
  | _, _, 0, _, _, hf => by omega
  | [], acc, f + 1, _, _, _ => by simp [mapToks, parseMapU8]
  | (k, v) :: m, acc, f + 1, hnd, hv, hf => by
    have hv1 : v < 256 := hv (k, v) List.mem_cons_self
    have ih := parseMapU8_mapToks r m (acc ++ [(k, v)]) f (by rwa [← List.append_cons])
      (fun q hq => hv q (List.mem_cons_of_mem _ hq)) (Nat.lt_of_succ_lt_succ hf)
    rw [List.map_append, List.nodup_append] at hnd
    have hnew : ∀ p ∈ acc, p.1 ≠ k := fun p hp => hnd.2.2 _ (List.mem_map_of_mem hp) _ List.mem_cons_self
    simp only [mapToks, List.flatMap_cons, List.cons_append, List.nil_append, parseMapU8,
      strconvUint64_natDec v (by omega), Nat.mod_eq_of_lt hv1, mapSet_new acc k v hnew] at ih ⊢
    rw [ih, List.append_assoc]; rfl

theorem render_mapToks (m : List (Bytes × Nat)) : render (mapToks m) = encMap m := by
  induction m with
  | nil => rfl
  | cons q m ih =>
    simp only [mapToks, encMap, render, List.flatMap_cons] at *
    simp [ih, renderTok, encNat]

/-- Scalars (strings, integers without an `e`) inside a container do not change the nesting. -/
def scalar : Tok → Bool
  | .str _ => true
  | .int ds => !ds.contains 101
  | _ => false

theorem wn_scalars (xs r : List Tok) (d : Nat) (hd : d ≠ 0) (h : xs.all scalar = true) :
    wn d (xs ++ r) = wn d r := by
  induction xs with
  | nil => rfl
  | cons t xs ih =>
    rw [List.all_cons, Bool.and_eq_true] at h
    obtain ⟨ht, hxs⟩ := h
    cases t <;> simp [scalar] at ht <;> simp [wn, enter, clean, hd, ih hxs, ht]

theorem mapToks_scalar (m : List (Bytes × Nat)) : (mapToks m).all scalar = true := by
  simp [mapToks, List.all_flatMap, scalar, natDec_no_e]

/-- Tokens of the handshake dictionary, in the encoder's key order. -/
def hsTail (h : Handshake) : List Tok :=
  (if h.metadataSize = 0 then [] else [Tok.str kMetadataSize, Tok.int (intDec h.metadataSize)])
  ++ [Tok.str kReqq, Tok.int (intDec h.reqq), Tok.str kV, Tok.str h.v]
  ++ (if h.yourip = [] then [] else [Tok.str kYourip, Tok.str h.yourip])

def hsToks (h : Handshake) : List Tok :=
  Tok.dct :: Tok.str kM :: Tok.dct :: (mapToks h.m ++ Tok.fin :: (hsTail h ++ [Tok.fin]))

theorem encHandshake_render (h : Handshake) : encHandshake h = render (hsToks h) := by
  simp [encHandshake, hsToks, hsTail, render_cons, render_append, render_opt, render_mapToks, renderTok, encInt,
    show render [] = [] from rfl]

theorem hsTail_scalar (h : Handshake) : (hsTail h).all scalar = true := by
  have h1 := intDec_no_e h.metadataSize
  have h2 := intDec_no_e h.reqq
  unfold hsTail
  split <;> split <;> simp [scalar, h1, h2]

theorem hsToks_wn (h : Handshake) : wn 0 (hsToks h) = true := by
  simp [hsToks, wn, enter, clean, maxDepth, wn_scalars _ _ 2 (by decide) (mapToks_scalar h.m),
    wn_scalars _ _ 1 (by decide) (hsTail_scalar h)]

/-- Well-formed handshake record: distinct map keys, `uint8` values, non-negative sizes in `int`. -/
def WFHandshake (h : Handshake) : Prop :=
  (h.m.map (·.1)).Nodup ∧ (∀ q ∈ h.m, q.2 < 256) ∧
  0 ≤ h.metadataSize ∧ h.metadataSize < 9223372036854775808 ∧ 0 ≤ h.reqq ∧ h.reqq < 9223372036854775808

theorem parseHs_hsToks (h : Handshake) (hw : WFHandshake h) (f : Nat) (hf : h.m.length + 8 ≤ f) :
    parseHsFields f (Tok.str kM :: Tok.dct :: (mapToks h.m ++ Tok.fin :: (hsTail h ++ [Tok.fin]))) {} =
      some ({ m := h.m, v := h.v, yourip := h.yourip, metadataSize := h.metadataSize, reqq := h.reqq }, []) := by
  obtain ⟨hnd, hv, hms0, hms1, hrq0, hrq1⟩ := hw
  obtain ⟨f1, rfl⟩ : ∃ f1, f = f1 + 1 := ⟨f - 1, by omega⟩
  have hmap := parseMapU8_mapToks (hsTail h ++ [Tok.fin]) h.m [] f1 hnd hv (by omega)
  simp only [parseHsFields, if_true]
  simp only [hmap, List.nil_append]
  have hI1 := strconvInt64_intDec h.metadataSize (by omega) hms1
  have hI2 := strconvInt64_intDec h.reqq (by omega) hrq1
  obtain ⟨f2, rfl⟩ : ∃ f2, f1 = f2 + 5 := ⟨f1 - 5, by omega⟩
  unfold hsTail
  by_cases h1 : h.metadataSize = 0 <;> by_cases h2 : h.yourip = [] <;>
    simp [h1, h2, parseHsFields, kM, kV, kYourip, kMetadataSize, kReqq, hI1, hI2] <;>
    simp_all

theorem mapToks_length (m : List (Bytes × Nat)) : (mapToks m).length = 2 * m.length := by
  simp [mapToks, List.length_flatMap, List.map_const', Nat.mul_comm]

theorem hsTail_length (h : Handshake) : 4 ≤ (hsTail h).length := by
  unfold hsTail; simp; omega

theorem parseExt_handshake (h : Handshake) (hw : WFHandshake h) :
    (parseExt 0 (encHandshake h)).1 = some (.handshake h) := by
  have htok : tokenize (encHandshake h) = some (hsToks h, []) := by
    have := tokenize_render (hsToks h) [] (hsToks_wn h)
    rwa [List.append_nil, ← encHandshake_render] at this
  unfold parseExt
  simp only [show ¬ (0 > 2) by decide, if_false, htok]
  unfold hsToks
  have hl := mapToks_length h.m
  have ht := hsTail_length h
  dsimp only
  rw [parseHs_hsToks h hw _ (by simp [hl]; omega)]
  obtain ⟨_, _, hms0, _, hrq0, _⟩ := hw
  have h1 : ¬ h.metadataSize < 0 := by omega
  have h2 : ¬ h.reqq < 0 := by omega
  simp [h1, h2]

def mdToks (m : Metadata) : List Tok :=
  Tok.dct :: Tok.str kMsgType :: Tok.int (intDec m.msgType) :: Tok.str kPiece :: Tok.int (natDec m.piece) ::
    ((if m.totalSize = 0 then [] else [Tok.str kTotalSize, Tok.int (intDec m.totalSize)]) ++ [Tok.fin])

def WFMetadata (m : Metadata) : Prop :=
  -9223372036854775808 ≤ m.msgType ∧ m.msgType < 9223372036854775808 ∧ m.piece < 4294967296 ∧
  -9223372036854775808 ≤ m.totalSize ∧ m.totalSize < 9223372036854775808

theorem encMetadata_render (m : Metadata) : encMetadata m = render (mdToks m) ++ m.data := by
  simp [encMetadata, mdToks, render_cons, render_append, render_opt, renderTok, encInt, encNat,
    show render [] = [] from rfl]

theorem mdToks_wn (m : Metadata) : wn 0 (mdToks m) = true := by
  unfold mdToks
  have h1 := intDec_no_e m.msgType
  have h2 := natDec_no_e m.piece
  have h3 := intDec_no_e m.totalSize
  by_cases h0 : m.totalSize = 0 <;> simp [h0, wn, enter, clean, maxDepth, h1, h2, h3]

theorem parseExt_metadata (m : Metadata) (hw : WFMetadata m) :
    (parseExt 1 (encMetadata m)).1 = some (.metadata m) := by
  have htok : tokenize (encMetadata m) = some (mdToks m, m.data) := by
    rw [encMetadata_render]; exact tokenize_render (mdToks m) m.data (mdToks_wn m)
  -- with the record opened, the decoded record and `m` are compared field by field
  obtain ⟨mt, pc, ts, data⟩ := m
  obtain ⟨ht0, ht1, hp, hs0, hs1⟩ : _ ∧ _ ∧ pc < 4294967296 ∧ _ ∧ _ := hw
  have hI1 := strconvInt64_intDec mt ht0 ht1
  have hI2 := strconvInt64_intDec ts hs0 hs1
  have hU := strconvUint64_natDec pc (by omega)
  have hmod : pc % 4294967296 = pc := by omega
  unfold parseExt
  simp only [show ¬ (1 > 2) by decide, if_false, htok]
  unfold mdToks
  by_cases h0 : ts = 0 <;> simp [h0, parseMdFields, kMsgType, kPiece, kTotalSize, hI1, hI2, hU, hmod]

def pexToks (p : Pex) : List Tok :=
  [Tok.dct, Tok.str kAdded, Tok.str p.added, Tok.str kDropped, Tok.str p.dropped, Tok.fin]

theorem encPex_render (p : Pex) : encPex p = render (pexToks p) := by
  simp [encPex, pexToks, render, renderTok]

theorem parseExt_pex (p : Pex) : (parseExt 2 (encPex p)).1 = some (.pex p) := by
  have htok : tokenize (encPex p) = some (pexToks p, []) := by
    rw [encPex_render, ← List.append_nil (render _)]
    exact tokenize_render (pexToks p) [] (by simp [pexToks, wn, enter, clean, maxDepth])
  unfold parseExt
  simp only [show ¬ (2 > 2) by decide, if_false, htok]
  simp [pexToks, parsePexFields, kAdded, kDropped]


/-- Well-formed extension payload: what the writer can be asked to send and the reader returns unchanged. -/
def WFPayload : ExtPayload → Prop
  | .handshake h => WFHandshake h
  | .metadata m => WFMetadata m
  | .pex _ => True

theorem parseExt_encPayload (p : ExtPayload) (hw : WFPayload p) :
    (parseExt (kindId p) (encPayload p)).1 = some p := by
  cases p with
  | handshake h => exact parseExt_handshake h hw
  | metadata m => exact parseExt_metadata m hw
  | pex q => exact parseExt_pex q

end Rain.Bencode
