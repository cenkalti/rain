import RainModel.Lemmas.LoopVerifyFlag
import RainModel.Lemmas.LoopWInvStep
/-!
The "does not hang" half of C08 / C04 at the level of the worker completions: `runWorkers` models the chain
allocator → verifier → stop announcer → (restart for a pending verify) → … that follows an event.  A chain
that never ends is a livelock of the real loop (each link is a goroutine reporting back to the loop).

* `workersQuiet s` (`LoopDispatch`): no worker completion is pending that no gate holds (the fixed points of `runWorkers`).
* `runWorkers_quiet`: from every state of the invariants the chain ends, within `wrank ≤ 11` links.

`St.stop` withdraws a pending verification request when the stop is caused by an error (fix C04-F8): otherwise the
chain restart → failing `Open` → `stop(err)` → stop announcer → restart would not end.
-/
namespace Rain.Loop

/-- The lifecycle part of the rank: how many of "stop announcer reports / allocator / verifier" can still
follow. -/
def phase (s : St) : Nat :=
  if s.stopAnn && !s.stopHang then (if s.doVerify && s.info then 4 else 1)
  else if s.allocator then 3
  else if s.verifier then 2
  else 0

/-- The piece writer's part: storage calls still to be made (7: their completion may be held, and the delivery
of the result may stop the torrent and so start a whole stop → verify chain), or a result held / to be
delivered (6). -/
def jobRank (s : St) : Nat :=
  match s.writing with
  | some w => if w.written then 6 else 7
  | none => 0

/-- An upper bound on the number of worker completions that can still follow. -/
def wrank (s : St) : Nat := jobRank s + phase s

theorem phase_le (s : St) : phase s ≤ 4 := by
  unfold phase
  repeat' split
  all_goals omega

theorem jobRank_le (s : St) : jobRank s ≤ 7 := by
  unfold jobRank
  repeat' split
  all_goals omega

theorem wrank_le (s : St) : wrank s ≤ 11 := by
  have := phase_le s
  have := jobRank_le s
  unfold wrank
  omega

theorem jobRank_congr {s s' : St} (h : s'.writing = s.writing) : jobRank s' = jobRank s := by
  unfold jobRank; rw [h]

theorem stop_allocator_false (s : St) (e : Bool) (h : s.allocator = false) : (s.stop e).allocator = false :=
  stop_cases (P := fun x => x.allocator = false) s e h fun _ => (stopRun_fields s e).allocator

theorem stop_verifier_false (s : St) (e : Bool) (h : s.verifier = false) : (s.stop e).verifier = false :=
  stop_cases (P := fun x => x.verifier = false) s e h fun _ => (stopRun_fields s e).verifier

theorem phase_handleStopped (m : M) (hs : m.1.stopAnn = true) (hh : m.1.stopHang = false)
    (ha : m.1.allocator = false) (hv : m.1.verifier = false) (hl : m.1.loaded = false) :
    phase (handleStopped m).1 < phase m.1 := by
  cases hd : m.1.doVerify <;> cases hi : m.1.info <;>
    simp [phase, handleStopped, startCore, hs, hh, ha, hv, hl, hd, hi]

theorem hadCheck_allocator_false (m : M) (h : m.1.allocator = false) : (hadCheck m).1.allocator = false :=
  have hc := (checkCompletion_writes m.1).allocator.trans h
  hadCheck_cases (P := fun x => x.1.allocator = false) m (fun _ => stop_allocator_false _ _ hc)
    ((hadReady_writes _).allocator.trans hc)

theorem hadCheck_verifier_false (m : M) (h : m.1.verifier = false) : (hadCheck m).1.verifier = false :=
  have hc := (checkCompletion_writes m.1).verifier.trans h
  hadCheck_cases (P := fun x => x.1.verifier = false) m (fun _ => stop_verifier_false _ _ hc)
    ((hadReady_writes _).verifier.trans hc)

theorem hadCheck_writing (m : M) (hq : QueueOK m.1) : (hadCheck m).1.writing = m.1.writing :=
  have hc := (checkCompletion_writes m.1).writing
  hadCheck_cases (P := fun x => x.1.writing = m.1.writing) m (fun _ => (stop_writes _ false).writing.trans hc)
    ((hadReady_wframe (m.1.checkCompletion.1, m.2) hq.checkCompletion).writing.trans hc)

theorem hadFresh_allocator_false (m : M) (h : m.1.allocator = false) : (hadFresh m).1.allocator = false :=
  have hi := (hadFreshInstall_writes m).allocator.trans h
  hadFresh_cases (P := fun x => x.1.allocator = false) m (fun _ => stop_allocator_false _ _ hi) fun _ =>
    hadCheck_allocator_false _ hi

theorem hadFresh_writing (m : M) (hq : QueueOK m.1) : (hadFresh m).1.writing = m.1.writing :=
  have F := hadFreshInstall_writes m
  hadFresh_cases (P := fun x => x.1.writing = m.1.writing) m (fun _ => (stop_writes _ false).writing.trans F.writing)
    fun _ =>
    (hadCheck_writing _ (hq.of_peers F.peers)).trans F.writing

theorem handleAllocationDone_post (m : M) (ex mi : Bool) (hq : QueueOK m.1) (hs : m.1.stopAnn = false)
    (hbf : m.1.doVerify = true → m.1.bf = none) :
    (handleAllocationDone m ex mi).1.allocator = false ∧
    ((handleAllocationDone m ex mi).1.stopAnn = true → (handleAllocationDone m ex mi).1.doVerify = false) ∧
    (handleAllocationDone m ex mi).1.writing = m.1.writing := by
  have hq0 := hadInstall_queueOK m mi hq
  have W0 := (hadInstall_writes m).trans (hadForget_writes _ mi)
  have ha0 : (hadForget (hadInstall m) mi).1.allocator = false := (hadForget_writes (hadInstall m) mi).allocator
  have hs0 := W0.stopAnn.trans hs
  have hw0 := W0.writing
  have hd0 := W0.doVerify
  refine handleAllocationDone_cases
    (P := fun x => x.1.allocator = false ∧ (x.1.stopAnn = true → x.1.doVerify = false) ∧ x.1.writing = m.1.writing)
    m ex mi (fun b hb _ => ?_)
    (fun _ _ => ⟨hadFresh_allocator_false _ ha0, fun _ => hadFresh_doVerify_false _, (hadFresh_writing _ hq0).trans hw0⟩)
    fun _ _ => ⟨ha0, fun h => Bool.noConfusion (hs0.symm.trans h), hw0⟩
  -- a bitfield has survived: no verification was requested
  have hdv : m.1.doVerify = false := Bool.eq_false_iff.2 fun hd =>
    nomatch (hadForget_bf_none (hadInstall m) mi (hbf hd)).symm.trans hb
  have T := markPaddingPieces_writes { (hadForget (hadInstall m) mi).1 with done := b }
  exact ⟨hadCheck_allocator_false _ (T.allocator.trans ha0),
    fun _ => hadCheck_doVerify_false _ (T.doVerify.trans (hd0.trans hdv)),
    (hadCheck_writing _ (hq0.of_peers T.peers)).trans (T.writing.trans hw0)⟩

theorem allocatorRun_post (m : M) (hq : QueueOK m.1) (hr : Running m.1)
    (hbf : m.1.doVerify = true → m.1.bf = none) :
    (allocatorRun m).1.allocator = false ∧
    ((allocatorRun m).1.stopAnn = true → (allocatorRun m).1.doVerify = false) ∧
    (allocatorRun m).1.writing = m.1.writing := by
  refine allocatorRun_cases (P := fun x => x.1.allocator = false ∧ (x.1.stopAnn = true → x.1.doVerify = false) ∧
    x.1.writing = m.1.writing) m (fun _ => ?_) fun _ => ?_
  · have A := (allocFailOpen_writes m).trans (hadForget_writes _ (allocFailMissing m.1))
    exact ⟨stop_allocator_false _ _ (hadForget_writes (allocFailOpen m) _).allocator,
      fun _ => (congrArg St.doVerify ((hr.congr A.errC A.stopAnn).stop_eq true)).trans
        ((stopRun_fields _ true).doVerify.trans (Bool.and_false _)), (stop_writes _ true).writing.trans A.writing⟩
  · have O := allocOkOpen_writes m
    obtain ⟨a, b, c⟩ := handleAllocationDone_post (allocOkOpen m)
      ((allocData m.1).any fun i => m.1.fileExists.getD i false)
      ((allocData m.1).any fun i => !(m.1.fileExists.getD i false))
      (hq.of_peers O.peers) (O.stopAnn.trans hr.2) (by rw [O.doVerify, O.bf]; exact hbf)
    exact ⟨a, b, c.trans O.writing⟩

theorem handleVerificationDone_post (m : M) (hq : QueueOK m.1) (ha : m.1.allocator = false) :
    (handleVerificationDone m).1.allocator = false ∧ (handleVerificationDone m).1.verifier = false ∧
    (handleVerificationDone m).1.doVerify = false ∧ (handleVerificationDone m).1.writing = m.1.writing := by
  have I := hvdInstall_writes m
  have H := hvdHaves_writes (hvdInstall m)
  have hv0 : (hvdInstall m).1.verifier = false :=
    (hvdInstall_writes_pre m).verifier.trans (by simp only [hvdPre, onSt_fst, (writeBitfield_writes _).verifier])
  have hq1 : QueueOK (hvdHaves (hvdInstall m)).1 := (hq.of_peers I.peers).frame (hvdHaves_wframe _)
  refine handleVerificationDone_cases (P := fun x => x.1.allocator = false ∧ x.1.verifier = false ∧
      x.1.doVerify = false ∧ x.1.writing = m.1.writing) m
    (fun _ => ⟨stop_allocator_false _ _ (I.allocator.trans ha), stop_verifier_false _ _ hv0,
      stop_doVerify_false _ _ rfl, (stop_writes _ false).writing.trans I.writing⟩) fun hd => ?_
  exact ⟨hadCheck_allocator_false _ (H.allocator.trans (I.allocator.trans ha)),
    hadCheck_verifier_false _ (H.verifier.trans hv0), hadCheck_doVerify_false _ (H.doVerify.trans hd),
    (hadCheck_writing _ hq1).trans (H.writing.trans I.writing)⟩

theorem handlePieceWriteDone_writing_none (m : M) (w : WriteJob) (e : Bool) :
    (handlePieceWriteDone m w e).1.writing = none :=
  -- `pwdReset` clears the job, and nothing after it writes `writing`
  handlePieceWriteDone_cases (P := fun x => x.1.writing = none) m w e (fun _ => (pwdBan_writes ..).writing)
    (fun _ _ => rfl) (fun _ _ _ _ => (stop_writes ..).writing) (fun _ _ _ _ _ => (crash_writes ..).writing)
    fun _ _ _ _ _ _ => (pwdOk_writes ..).writing

theorem writerRun_writing (m : M) (w : WriteJob) :
    (writerRun m w).1.writing = none ∨ (writerRun m w).1.writing = some { w with written := true } :=
  writerRun_job (P := fun x => x.1.writing = none ∨ x.1.writing = some { w with written := true }) m w
    (fun _ _ _ _ _ => Or.inl (handlePieceWriteDone_writing_none _ _ _)) fun _ _ => Or.inr rfl

theorem writerRun_jobRank (m : M) (w : WriteJob) : jobRank (writerRun m w).1 ≤ 6 := by
  unfold jobRank
  rcases writerRun_writing m w with h | h <;> rw [h] <;> simp

theorem writerRun_phase_of_held (m : M) (w : WriteJob) (h : ¬ (writerRun m w).1.writing = none) :
    phase (writerRun m w).1 = phase m.1 :=
  writerRun_job (P := fun x => ¬x.1.writing = none → phase x.1 = phase m.1) m w
    (fun _ _ _ _ _ h => absurd (handlePieceWriteDone_writing_none _ _ _) h) (fun _ _ _ => rfl) h

/-- What the quiescence proof carries: the invariant `Full` of the no-panic theorems and the verify-flag invariant. -/
structure QInv (s : St) : Prop where
  full : Full s
  dv : DV s

theorem phase_le_two_of (s : St) (ha : s.allocator = false) (hsd : s.stopAnn = true → s.doVerify = false) :
    phase s ≤ 2 := by
  unfold phase
  cases hs : s.stopAnn
  · simp only [Bool.false_and, Bool.false_eq_true, ↓reduceIte, ha]; split <;> omega
  · simp only [hsd hs, Bool.false_and, Bool.false_eq_true, ↓reduceIte, ha]
    repeat' split
    all_goals omega

theorem phase_le_one_of (s : St) (ha : s.allocator = false) (hv : s.verifier = false) (hd : s.doVerify = false) :
    phase s ≤ 1 := by
  unfold phase
  simp only [ha, hv, hd, Bool.false_and, Bool.false_eq_true, ↓reduceIte]
  repeat' split
  all_goals omega

theorem Link.qinv {m m' : M} (l : Link m m') (h : QInv m.1) : QInv m'.1 ∧ wrank m'.1 < wrank m.1 := by
  unfold wrank
  refine ⟨⟨(l.full h.full).1, l.dv h.dv⟩, ?_⟩
  cases l with
  | stopped hs hh =>
    obtain ⟨i1, i2, i3, _⟩ := h.full.life.idle (Or.inr hs)
    have := phase_handleStopped m hs hh i1 i2 i3
    have hj : jobRank (handleStopped m).1 = jobRank m.1 := jobRank_congr (by simp)
    omega
  | alloc ha =>
    have hrun := h.full.life.running_of_alloc ha
    have hbf : m.1.doVerify = true → m.1.bf = none := by
      intro hd
      rcases (h.dv hd).2 with h1 | h1
      · rw [hrun.2] at h1; cases h1
      · exact h1.1
    obtain ⟨a, b, c⟩ := allocatorRun_post m h.full.w.q hrun hbf
    have h2 := phase_le_two_of _ a b
    have h3 : phase m.1 = 3 := by unfold phase; simp [hrun.2, ha]
    have hj : jobRank (allocatorRun m).1 = jobRank m.1 := jobRank_congr c
    omega
  | verify hv =>
    have hrun := h.full.life.running_of_ver hv
    have hal : m.1.allocator = false := by
      cases hal : m.1.allocator
      · rfl
      · have h1 := h.full.w.al hal
        rw [h.full.life.ver hv] at h1; cases h1
    obtain ⟨a, b, c, d⟩ := handleVerificationDone_post m h.full.w.q hal
    have h2 := phase_le_one_of _ a b c
    have h3 : phase m.1 = 2 := by unfold phase; simp [hrun.2, hal, hv]
    have hj : jobRank (handleVerificationDone m).1 = jobRank m.1 := jobRank_congr d
    omega
  | deliver w hw hwr =>
    have hjm : jobRank m.1 = 6 := by unfold jobRank; rw [hw]; simp [hwr]
    have h1 : jobRank (handlePieceWriteDone m w false).1 = 0 := by
      unfold jobRank; rw [handlePieceWriteDone_writing_none]
    have h2 := phase_le (handlePieceWriteDone m w false).1
    omega
  | write w hw hwr =>
    -- the lifecycle part may rise (the result may stop the torrent), never above 4; the job's part drops
    have hw7 : jobRank m.1 = 7 := by unfold jobRank; rw [hw]; simp [hwr]
    have h1 := writerRun_jobRank m w
    have h2 := phase_le (writerRun m w).1
    by_cases hheld : (writerRun m w).1.writing = none
    · have h0 : jobRank (writerRun m w).1 = 0 := by unfold jobRank; rw [hheld]
      omega
    · -- held: nothing but `sto`, `bad`, `writing` changed, the phase is the same
      have hph : phase (writerRun m w).1 = phase m.1 := writerRun_phase_of_held m w hheld
      omega

/-- **The chain of worker completions ends**: with fuel ≥ `wrank` (≤ 11) `runWorkers` reaches a state in
which no un-gated completion is pending — from every state of the invariants, whatever the gates, failing
storage included. -/
theorem runWorkers_quiet (n : Nat) (m : M) (h : QInv m.1) (hr : wrank m.1 ≤ n) :
    workersQuiet (runWorkers n m).1 = true ∧ QInv (runWorkers n m).1 := by
  induction n generalizing m with
  | zero => exact ⟨(runWorkers_link m).resolve_right fun ⟨_, l, _⟩ => by have := (l.qinv h).2; omega, h⟩
  | succ n ih =>
    rcases runWorkers_link m with hq | ⟨m', l, he⟩
    · rw [runWorkers_of_quiet _ m hq]; exact ⟨hq, h⟩
    · rw [he]
      exact ih m' (l.qinv h).1 (by have := (l.qinv h).2; omega)

end Rain.Loop
