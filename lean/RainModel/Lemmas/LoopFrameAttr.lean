import Lean
/-- Rewrite rules `w₀ ⊆ w → (f s).mask w = s.mask w` of the handlers of M-LOOP. -/
register_simp_attr frame
