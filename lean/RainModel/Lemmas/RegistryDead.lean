import RainModel.Lemmas.RegistrySteps
/-!
Records that are read but do not load: preservation of `DInv` (and with it of `Inv`) along every
`tame` history — every step of an add incl. its failures, interleavings, removes, restarts in which
records fail to load, `CleanDatabase`, compaction.
-/
namespace Rain.Registry
open List

def Good (s : State) : Prop := Inv s ∧ DInv s

theorem dinv_same {s s' : State} (h : DInv s) (hdi : s'.deadIds = s.deadIds) (hi : s'.invalid = s.invalid)
    (hr : ∀ id ∈ s'.regIds, id ∈ s.regIds)
    (hp1 : ∀ q ∈ s.pending, q.stage = .written → q ∈ s'.pending)
    (hp2 : ∀ q ∈ s'.pending, q.stage = .written → q ∈ s.pending) : DInv s' := by
  refine ⟨?_, ?_, ?_, ?_, ?_, ?_⟩
  · rw [hdi]; exact h.deadNodup
  · rw [hi]; exact h.invNodup
  · rw [hdi, hi]; exact h.deadInv
  · rw [hdi, hi]
    intro id hid
    rcases h.invSrc id hid with h1 | ⟨q, hq, he, hw⟩
    · exact Or.inl h1
    · exact Or.inr ⟨q, hp1 q hq hw, he, hw⟩
  · rw [hi]; exact fun id hid hc => h.fresh id hid (hr id hc)
  · rw [hdi]; exact fun q hq hw => h.wdead q (hp2 q hq hw) hw

theorem dinv_frame {s s' : State} (h : DInv s) (hd : s'.deadIds = s.deadIds) (hi : s'.invalid = s.invalid)
    (hr : ∀ id ∈ s'.regIds, id ∈ s.regIds) (hp : s'.pending = s.pending) : DInv s' :=
  dinv_same h hd hi hr (fun _ hq _ => by rw [hp]; exact hq) (fun _ hq _ => by rw [hp] at hq; exact hq)

theorem dinv_modify {s : State} (h : DInv s) (db : List (String × Fields)) (id : String) (g : Fields → Fields) :
    DInv { s with db := db, reg := regModify s.reg id g } :=
  dinv_frame h rfl rfl (fun i hi => by rwa [State.regIds, regModify_map _ _ _ _ (fun _ => rfl)] at hi) rfl

theorem dinv_updateStats {s : State} (h : DInv s) : DInv (updateStats s) :=
  dinv_frame h rfl rfl (fun _ hi => hi) rfl

/-- A new add in flight (whatever its id: an explicit id may be one that is listed as invalid). -/
theorem dinv_reserve {s : State} (h : DInv s) (f : List Nat) (q : Pending) (hq : q.stage ≠ .written) :
    DInv { s with free := f, pending := q :: s.pending } := by
  refine dinv_same h rfl rfl (fun _ hi => hi) (fun _ hq2 _ => List.mem_cons_of_mem _ hq2) (fun q2 hq2 hw => ?_)
  rcases List.mem_cons.1 hq2 with rfl | h2
  · exact absurd hw hq
  · exact h2

theorem mem_erase_written {l : List Pending} {q q2 : Pending} (h2 : q2 ∈ l) (hw : q2.stage = .written)
    (hq : q.stage ≠ .written) : q2 ∈ l.erase q :=
  (List.mem_erase_of_ne (fun e => hq (by rw [← e]; exact hw))).2 h2

/-- An add that has not written moves to another not-yet-written stage, or gives up. -/
theorem dinv_restage {s : State} (h : DInv s) (q : Pending) (hq : q.stage ≠ .written) (l : List Pending)
    (hl : ∀ x ∈ l, x.stage ≠ .written) (f : List Nat) :
    DInv { s with pending := l ++ s.pending.erase q, free := f } := by
  refine dinv_same h rfl rfl (fun _ hi => hi) (fun q2 h2 hw => ?_) (fun q2 h2 hw => ?_)
  · exact List.mem_append_right _ (mem_erase_written h2 hw hq)
  · rcases List.mem_append.1 h2 with h3 | h3
    · exact absurd hw (hl q2 h3)
    · exact List.mem_of_mem_erase h3

/-- `resumer.Write` of an add in flight succeeds: the record of its id that did not load, if any, is replaced. -/
theorem dinv_write {s : State} (h : DInv s) (q : Pending) (hnw : q.stage ≠ .written) (db : List (String × Fields)) :
    DInv { s with pending := { q with stage := .written } :: s.pending.erase q, db := db,
                  dead := s.dead.filter (fun e => e.1 != q.id) } := by
  have hsub : (s.dead.filter (fun e => e.1 != q.id)).Sublist s.dead := List.filter_sublist
  have hmem : ∀ id, id ∈ (s.dead.filter (fun e => e.1 != q.id)).map (·.1) ↔ id ∈ s.deadIds ∧ id ≠ q.id := by
    intro id
    rw [map_filter_key (·.1) s.dead q.id, List.mem_filter]
    simp [State.deadIds]
  refine ⟨(hsub.map _).nodup h.deadNodup, h.invNodup, ?_, ?_, h.fresh, ?_⟩
  · intro id hid
    exact h.deadInv id ((hmem id).1 hid).1
  · intro id hid
    by_cases he : id = q.id
    · exact Or.inr ⟨{ q with stage := .written }, List.mem_cons_self, he.symm, rfl⟩
    · rcases h.invSrc id hid with h1 | ⟨q2, hq2, he2, hw2⟩
      · exact Or.inl ((hmem id).2 ⟨h1, he⟩)
      · exact Or.inr ⟨q2, List.mem_cons_of_mem _ (mem_erase_written hq2 hw2 hnw), he2, hw2⟩
  · intro q2 hq2 hw2 hc2
    have hc2 := (hmem q2.id).1 hc2
    rcases List.mem_cons.1 hq2 with rfl | h3
    · exact hc2.2 rfl
    · exact h.wdead q2 (List.mem_of_mem_erase h3) hw2 hc2.1

/-- `insertTorrent` of an add that has written: its id comes off the invalid list. -/
theorem dinv_insert {s : State} (h : DInv s) {q : Pending} (hq : q ∈ s.pending) (hw : q.stage = .written)
    (f : Fields) (idx : List (String × String)) :
    DInv { s with pending := s.pending.erase q, reg := regPut s.reg ⟨q.id, f⟩, idx := idx,
                  invalid := s.invalid.erase q.id } := by
  have hqd : q.id ∉ s.deadIds := h.wdead q hq hw
  have hmem : ∀ id, id ∈ s.invalid.erase q.id ↔ id ∈ s.invalid ∧ id ≠ q.id := by
    intro id
    rw [h.invNodup.mem_erase_iff]
    exact And.comm
  refine ⟨h.deadNodup, h.invNodup.sublist List.erase_sublist, ?_, ?_, ?_, ?_⟩
  · intro id hid
    exact (hmem id).2 ⟨h.deadInv id hid, fun e => hqd (e ▸ hid)⟩
  · intro id hid
    obtain ⟨hid, hne⟩ := (hmem id).1 hid
    rcases h.invSrc id hid with h1 | ⟨q2, hq2, he2, hw2⟩
    · exact Or.inl h1
    · refine Or.inr ⟨q2, (List.mem_erase_of_ne ?_).2 hq2, he2, hw2⟩
      intro e; subst e; exact hne he2.symm
  · intro id hid hc2
    obtain ⟨hid, hne⟩ := (hmem id).1 hid
    rcases List.mem_cons.1 (show id ∈ q.id :: (s.reg.filter (fun x => x.id != q.id)).map (·.id) from hc2) with rfl | h3
    · exact hne rfl
    · exact h.fresh id hid (((List.filter_sublist).map _).subset h3)
  · intro q2 hq2 hw2
    exact h.wdead q2 (List.mem_of_mem_erase hq2) hw2

theorem dinv_of_nil {s : State} (h1 : s.dead = []) (h2 : s.invalid = []) : DInv s := by
  have h3 : s.deadIds = [] := by rw [State.deadIds, h1]; rfl
  refine ⟨?_, ?_, ?_, ?_, ?_, ?_⟩
  · rw [h3]; exact List.nodup_nil
  · rw [h2]; exact List.nodup_nil
  · intro id hid; rw [h3] at hid; cases hid
  · intro id hid; rw [h2] at hid; cases hid
  · intro id hid; rw [h2] at hid; cases hid
  · intro q _ _ hc; rw [h3] at hc; cases hc

theorem updateStats_dbIds (s : State) : (updateStats s).dbIds = s.dbIds :=
  updateStats_map s (·.1) (fun _ _ _ => rfl)

/-- A new session on a bucket with one record per id, of which the records `d` do not load (their ports are not
taken): what both a restart and the swap after a compaction produce. -/
theorem good_open (lo hi : Nat) (resume : Bool) (db d : List (String × Fields)) (hk : ((db ++ d).map (·.1)).Nodup)
    (hp : (db.map (·.2.port)).Nodup) (hr : ∀ e ∈ db, e.2.port ∈ List.range' lo (hi - lo)) :
    Good { openOn lo hi resume db with dead := d, invalid := d.map (·.1) } := by
  rw [List.map_append, List.nodup_append] at hk
  refine ⟨inv_with_dead (openOn_inv lo hi resume db hk.1 hp hr) _ _, ?_⟩
  rw [openOn_eq lo hi resume db hk.1]
  refine ⟨hk.2.1, hk.2.1, fun _ hid => hid, fun _ hid => Or.inl hid, ?_, fun q hq => nomatch hq⟩
  -- a record that fails is not one of those that load
  intro id hid hc
  obtain ⟨t, ht, rfl⟩ := List.mem_map.1 hc
  obtain ⟨e, he, rfl⟩ := List.mem_map.1 (List.mem_reverse.1 ht)
  exact hk.2.2 _ (List.mem_map_of_mem (f := (·.1)) he) _ hid rfl

theorem init_good (lo hi : Nat) : Good (init lo hi) :=
  good_open lo hi false [] [] List.nodup_nil List.nodup_nil fun _ h => nomatch h

/-- A restart in which the records `bad` fail to load (and every record that failed before fails again). -/
theorem good_reopen {s : State} (h : Good s) (resume : Bool) (bad : List String)
    (hb : ∀ e ∈ s.dead, e.1 ∈ bad) : Good (reopen s resume bad) := by
  unfold reopen
  split
  · exact h
  rename_i hp
  have h2 := inv_updateStats h.1
  have hports := h2.dbPorts_quiet (Classical.not_not.1 hp)
  dsimp only
  apply good_open
  · -- the records that load and the records that fail are the bucket, which has one record per id
    exact ((List.perm_append_comm.trans (List.filter_append_perm _ _)).map _).nodup_iff.2
      (bucket_nodup h2 (dinv_updateStats h.2))
  all_goals rw [filter_good hb]
  · exact ((List.filter_sublist).map _).nodup ((hports.nodup_iff).2 h2.regPorts_nodup)
  · intro e he
    obtain ⟨t, ht, hte⟩ := List.mem_map.1
      ((hports.mem_iff).1 (List.mem_map_of_mem (f := (·.2.port)) (List.mem_filter.1 he).1))
    exact hte ▸ h2.regPort_mem_range ht

/-- `rain compact-database`: a new session on the compacted database, in which every record loads. -/
theorem good_compactSwap {s : State} (h : Good s) (resume : Bool) : Good (compactSwap s resume) := by
  unfold compactSwap
  split
  · exact h
  rw [compact_ok h.1]
  dsimp only
  have hk := compactDb_nodup h.1
  have hg := good_open s.lo s.hi resume (compactDb s) [] (by rwa [List.append_nil])
    (by
      have : (compactDb s).map (·.2.port) = (s.reg.filter (·.f.hasInfo)).map (·.f.port) := by
        unfold compactDb
        rw [List.map_map]; rfl
      rw [this]
      exact ((List.filter_sublist).map _).nodup h.1.regPorts_nodup)
    (by
      intro e he
      obtain ⟨t, ht, rfl⟩ := List.mem_map.1 he
      exact h.1.regPort_mem_range (List.mem_filter.1 ht).1)
  rw [openOn_eq _ _ _ _ hk] at hg ⊢
  exact hg

theorem good_remove {s : State} (h : Good s) (id : String) : Good (remove s id) := by
  unfold remove
  split
  · exact h
  · rename_i t hget
    obtain ⟨ht, rfl⟩ := regGet_some hget
    exact ⟨inv_remove h.1 ht, dinv_frame h.2 rfl rfl (fun i hi => ((List.filter_sublist).map _).subset hi) rfl⟩

theorem invalid_not_db {s : State} (h : Inv s) (hd : DInv s) (ht : ∀ q ∈ s.pending, q.id ∉ s.invalid) :
    ∀ id ∈ s.invalid, id ∉ s.dbIds := by
  intro id hid hc
  rcases h.dbId_src hc with h1 | ⟨q, hq, rfl, _⟩
  · exact hd.fresh id hid h1
  · exact ht q hq hid

theorem invalid_dead {s : State} (hd : DInv s) (ht : ∀ q ∈ s.pending, q.id ∉ s.invalid) :
    ∀ id ∈ s.invalid, id ∈ s.deadIds := by
  intro id hid
  rcases hd.invSrc id hid with h1 | ⟨q, hq, rfl, _⟩
  · exact h1
  · exact absurd hid (ht q hq)

theorem clean_db {s : State} (hf : ∀ id ∈ s.invalid, id ∉ s.dbIds) :
    s.db.filter (fun e => !s.invalid.contains e.1) = s.db := by
  apply List.filter_eq_self.2
  intro e he
  have : e.1 ∉ s.invalid := fun hc => hf e.1 hc (List.mem_map_of_mem (f := (·.1)) he)
  simpa using this

/-- `CleanDatabase`, with no add under an invalid id in flight, succeeds, deletes exactly the records that did not
load and empties the invalid list. -/
theorem clean_eq {s : State} (h : Inv s) (hd : DInv s) (ht : ∀ q ∈ s.pending, q.id ∉ s.invalid) :
    clean s = ({ s with dead := [], invalid := [] }, true) := by
  have hall : s.invalid.all (fun id => s.dbIds.contains id || s.deadIds.contains id) = true := by
    rw [List.all_eq_true]
    intro id hid
    have : id ∈ s.deadIds := invalid_dead hd ht id hid
    simp [this]
  unfold clean
  rw [if_pos hall, clean_db (invalid_not_db h hd ht),
    filter_keys_nil fun e he => hd.deadInv e.1 (List.mem_map_of_mem (f := (·.1)) he)]

theorem good_clean {s : State} (h : Good s) (ht : ∀ q ∈ s.pending, q.id ∉ s.invalid) : Good (clean s).1 := by
  rw [clean_eq h.1 h.2 ht]
  exact ⟨inv_with_dead h.1 _ _, dinv_of_nil rfl rfl⟩

theorem clean_spec {s : State} (h : Inv s) (hd : DInv s) (ht : ∀ q ∈ s.pending, q.id ∉ s.invalid) :
    (clean s).2 = true ∧ (clean s).1.dead = [] ∧ (clean s).1.invalid = [] ∧ (clean s).1.db = s.db ∧
    (clean s).1.free = s.free ∧ (clean s).1.reg = s.reg ∧ (clean s).1.idx = s.idx ∧ (clean s).1.pending = s.pending := by
  rw [clean_eq h hd ht]
  exact ⟨rfl, rfl, rfl, rfl, rfl, rfl, rfl, rfl⟩

theorem tame_clean {s : State} (ht : tame s .clean = true) : ∀ q ∈ s.pending, q.id ∉ s.invalid := by
  intro q hq
  have := List.all_eq_true.1 ht q hq
  simpa using this

theorem tame_reopen {s : State} {resume : Bool} {bad : List String} (ht : tame s (.reopen resume bad) = true) :
    ∀ e ∈ s.dead, e.1 ∈ bad := by
  intro e he
  have := List.all_eq_true.1 ht e he
  simpa using this

/-- `Start`, `Stop` and `AddTracker`: one change `g` made to the record and to the live torrent. -/
theorem good_modify {s : State} (h : Good s) (id : String) (g : Fields → Fields)
    (hg : ∀ f, (g f).port = f.port ∧ (g f).infoHash = f.infoHash)
    (hdesc : ∀ r f, describes r f = true → describes (g r) (g f) = true) :
    Good (if id ∈ s.regIds then { s with db := dbModify s.db id g, reg := regModify s.reg id g } else s) := by
  split
  · rename_i hid
    exact ⟨inv_modify h.1 id g g (fun q hq e => absurd (e ▸ mem_pendIds hq) (h.1.disjoint hid)) (fun r => (hg r).1) hg hdesc,
      dinv_modify h.2 _ id g⟩
  · exact h

theorem good_addBegin {s : State} (h : Good s) (m : Meta) (o : Opts) (p : Nat) (gen : String) (sf : Bool) :
    Good (addBegin s m o p gen sf).1 := by
  rcases addBegin_cases s m o p gen sf with ⟨_, e⟩ | ⟨hp, _, e⟩ | ⟨hp, id, h1, h2, e⟩ <;> rw [e]
  · exact h
  · exact ⟨inv_take_release h.1 hp, dinv_frame h.2 rfl rfl (fun _ hi => hi) rfl⟩
  · exact ⟨inv_reserve h.1 hp id m o h1 h2, dinv_reserve h.2 _ _ (by simp)⟩

/-- `addBuild`, `addWrite` and `addInsert` do nothing unless `q` is in flight and at stage `st`. -/
theorem good_of_pending_at {s : State} {q : Pending} {st : Stage} {x y : State × Except AddErr Pending}
    (hx : Good x.1) (hy : q ∈ s.pending → q.stage = st → Good y.1) :
    Good (if q ∉ s.pending ∨ q.stage ≠ st then x else y).1 := by
  split
  · exact hx
  · rename_i hc
    simp only [not_or, Classical.not_not] at hc
    exact hy hc.1 hc.2

theorem good_addBuild {s : State} (h : Good s) (q : Pending) (ok : Bool) : Good (addBuild s q ok).1 := by
  unfold addBuild
  refine good_of_pending_at h fun hq hst => ?_
  have hnw : q.stage ≠ .written := by rw [hst]; simp
  cases ok with
  | true => exact ⟨inv_restage h.1 hq .built hnw (by simp), dinv_restage h.2 q hnw [{ q with stage := .built }] (by simp) s.free⟩
  | false => exact ⟨inv_abort h.1 hq hnw, dinv_restage h.2 q hnw [] (by simp) (q.port :: s.free)⟩

theorem good_addWrite {s : State} (h : Good s) (q : Pending) (ok : Bool) : Good (addWrite s q ok).1 := by
  unfold addWrite
  refine good_of_pending_at h fun hq hst => ?_
  have hnw : q.stage ≠ .written := by rw [hst]; simp
  cases ok with
  | true => exact ⟨inv_write h.1 hq hnw _, dinv_write h.2 q hnw _⟩
  | false => exact ⟨inv_abort h.1 hq hnw, dinv_restage h.2 q hnw [] (by simp) (q.port :: s.free)⟩

theorem good_addInsert {s : State} (h : Good s) (q : Pending) : Good (addInsert s q).1 := by
  unfold addInsert
  exact good_of_pending_at h fun hq hw =>
    ⟨inv_insert h.1 hq hw _, dinv_insert h.2 hq hw _ _⟩

theorem good_start {s : State} (h : Good s) (id : String) : Good (start s id) :=
  good_modify h id _ (fun _ => ⟨rfl, rfl⟩) (fun _ _ => describes_started true)

theorem good_addSeq {s : State} (h : Good s) (m : Meta) (o : Opts) (p : Nat) (gen : String) (e : Env) :
    Good (addSeq s m o p gen e).1 := by
  unfold addSeq
  have h1 := good_addBegin h m o p gen e.stoFail
  split
  next e1 => rw [e1] at h1; exact h1
  next s1 q1 e1 =>
    rw [e1] at h1
    have h2 := good_addBuild h1 q1 (!e.buildFail)
    split
    next e2 => rw [e2] at h2; exact h2
    next s2 q2 e2 =>
      rw [e2] at h2
      have h3 := good_addWrite h2 q2 (!e.writeFail)
      split
      next e3 => rw [e3] at h3; exact h3
      next s3 q3 e3 =>
        rw [e3] at h3
        have h4 := good_addInsert h3 q3
        split
        next e4 => rw [e4] at h4; exact h4
        next s4 q4 e4 =>
          rw [e4] at h4
          dsimp only
          split
          · exact h4
          · exact good_start h4 _

theorem good_step {s : State} (h : Good s) {op : Op} (ht : tame s op = true) : Good (step s op) := by
  cases op with
  | add m o p gen e => exact good_addSeq h m o p gen e
  | abegin m o p gen sf => exact good_addBegin h m o p gen sf
  | abuild q ok => exact good_addBuild h q ok
  | awrite q ok => exact good_addWrite h q ok
  | ainsert q => exact good_addInsert h q
  | remove id => exact good_remove h id
  | start id => exact good_start h id
  | stop id => exact good_modify h id _ (fun _ => ⟨rfl, rfl⟩) (fun _ _ => describes_started false)
  | addTracker id uri => exact good_modify h id _ (fun _ => ⟨rfl, rfl⟩) (fun _ _ => describes_addTracker uri)
  | bump id d => exact ⟨inv_bump h.1 id d, dinv_modify h.2 _ id _⟩
  | updateStats => exact ⟨inv_updateStats h.1, dinv_updateStats h.2⟩
  | reopen r bad => exact good_reopen h r bad (tame_reopen ht)
  | compactSwap r => exact good_compactSwap h r
  | clean => exact good_clean h (tame_clean ht)
  | tamper id ih =>
    exact ⟨inv_with_dead h.1 _ _, dinv_frame h.2 (dbModify_map s.dead id (fun r => { r with infoHash := ih }) (·.1) fun _ _ => rfl) rfl
      (fun _ hi => hi) rfl⟩

theorem good_run : ∀ (ops : List Op) {s : State}, Good s → tameRun s ops = true → Good (run s ops)
  | [], _, h, _ => h
  | op :: ops, s, h, ht => by
    simp only [tameRun, Bool.and_eq_true] at ht
    exact good_run ops (good_step h ht.1) ht.2

theorem tameRun_snoc : ∀ {a : List Op} {op : Op} {s : State}, tameRun s (a ++ [op]) = true →
    tameRun s a = true ∧ tame (run s a) op = true
  | [], _, _, h => ⟨rfl, by simpa [tameRun, run] using h⟩
  | x :: a, _, _, h => by
    simp only [List.cons_append, tameRun, Bool.and_eq_true] at h
    obtain ⟨h1, h2⟩ := tameRun_snoc h.2
    exact ⟨by simp [tameRun, h.1, h1], h2⟩

/-- With no record that failed to load and no invalid id every operation is tame: `tame` restricts only what
follows a restart in which records fail. -/
theorem tame_of_no_dead {s : State} {op : Op} (hd : s.dead = []) (hi : s.invalid = []) : tame s op = true := by
  cases op <;> simp [tame, hd, hi]

end Rain.Registry
