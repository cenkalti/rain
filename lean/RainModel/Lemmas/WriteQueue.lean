import RainModel.Model.WriteQueue
/-!
Helper lemmas for M-WQ: the queue invariant under every event, and the trace facts behind
"cancelled / choked-away requests are never sent" and "a request is answered with data at most once".
-/
set_option linter.unusedSimpArgs false
namespace Rain.WriteQueue

theorem countPieces_append (q : List Msg) (m : Msg) :
    countPieces (q ++ [m]) = countPieces q + (if m.isPiece then 1 else 0) := by
  unfold countPieces
  rw [List.filter_append, List.length_append]
  cases h : m.isPiece <;> simp [h]

theorem countPieces_filter_not (q : List Msg) : countPieces (q.filter (fun m => !m.isPiece)) = 0 := by
  unfold countPieces
  rw [List.filter_filter]
  simp

theorem countPieces_erase (q : List Msg) (r : Req) (h : Msg.piece r ∈ q) :
    countPieces (q.erase (.piece r)) = countPieces q - 1 ∧ 0 < countPieces q := by
  unfold countPieces
  have hm : Msg.piece r ∈ q.filter Msg.isPiece := List.mem_filter.mpr ⟨h, rfl⟩
  rw [← List.erase_filter, List.length_erase_of_mem hm]
  exact ⟨rfl, List.length_pos_of_mem hm⟩

theorem countPieces_cons (m : Msg) (q : List Msg) :
    countPieces (m :: q) = (if m.isPiece then 1 else 0) + countPieces q := by
  unfold countPieces
  cases h : m.isPiece <;> simp [h] <;> omega

theorem new_inv (maxQ : Int) (fast : Bool) : Inv (new maxQ fast) :=
  ⟨rfl, by simp [new]; omega⟩

@[simp] theorem isPiece_piece (r : Req) : (Msg.piece r).isPiece = true := rfl
@[simp] theorem isPiece_reject (r : Req) : (Msg.reject r).isPiece = false := rfl
@[simp] theorem isPiece_choke : Msg.choke.isPiece = false := rfl
@[simp] theorem isPiece_other (i : Nat) (p : Rain.Cache.Bytes) : (Msg.other i p).isPiece = false := rfl

theorem enqueue_cases (s : WQ) (m : Msg) :
    enqueue s m = s ∨
    (∃ x, (x = m ∨ ∃ r, m = .piece r ∧ x = .reject r) ∧ (x.isPiece = true → s.queued < s.maxQueued) ∧
      enqueue s m = { s with queue := s.queue ++ [x], queued := s.queued + (if x.isPiece then 1 else 0) }) ∨
    (m = .choke ∧ enqueue s m = { dropPieces s with queue := (dropPieces s).queue ++ [.choke] }) := by
  cases m with
  | choke => exact .inr (.inr ⟨rfl, rfl⟩)
  | piece r =>
    simp only [enqueue]
    by_cases hfull : s.queued ≥ s.maxQueued
    · rw [if_pos hfull]
      by_cases hf : s.fast = true
      · rw [if_pos hf]; exact .inr (.inl ⟨.reject r, .inr ⟨r, rfl, rfl⟩, nofun, by simp⟩)
      · rw [if_neg hf]; exact .inl rfl
    · rw [if_neg hfull]; exact .inr (.inl ⟨.piece r, .inl rfl, fun _ => by omega, rfl⟩)
  | reject r => exact .inr (.inl ⟨_, .inl rfl, nofun, by simp [enqueue]⟩)
  | other id p => exact .inr (.inl ⟨_, .inl rfl, nofun, by simp [enqueue]⟩)

theorem handoff_cases (s : WQ) (d : DataRes) :
    handoff s d = (s, none) ∨
    ∃ m rest, s.queue = m :: rest ∧
      handoff s d =
        ({ s with queue := rest, queued := if m.isPiece then s.queued - 1 else s.queued,
                  served := (writeMsg s.served m d).1,
                  dead := match (writeMsg s.served m d).2 with | .frame _ => false | _ => true },
         some (m, (writeMsg s.served m d).2)) := by
  unfold handoff
  by_cases hd : s.dead = true
  · rw [if_pos hd]; exact .inl rfl
  · rw [if_neg hd]
    cases s.queue with
    | nil => exact .inl rfl
    | cons m rest => exact .inr ⟨m, rest, rfl, rfl⟩

theorem step_frame (s : WQ) (o : Op) :
    (step s o).1.maxQueued = s.maxQueued ∧ ((step s o).2 = none → (step s o).1.served = s.served) := by
  cases o with
  | enqueue m =>
    rcases enqueue_cases s m with e | ⟨_, _, _, e⟩ | ⟨_, e⟩ <;> rw [step, e] <;> exact ⟨rfl, fun _ => rfl⟩
  | cancel r => rw [step, cancel]; split <;> exact ⟨rfl, fun _ => rfl⟩
  | handoff d =>
    rcases handoff_cases s d with e | ⟨_, _, _, e⟩ <;> rw [step, e]
    · exact ⟨rfl, fun _ => rfl⟩
    · exact ⟨rfl, nofun⟩

theorem enqueue_inv (s : WQ) (h : Inv s) (m : Msg) : Inv (enqueue s m) := by
  have hc := h.count; have hb := h.bound
  rcases enqueue_cases s m with e | ⟨x, _, hroom, e⟩ | ⟨_, e⟩ <;> rw [e]
  · exact h
  · constructor <;> simp only [countPieces_append]
    · rw [hc]; split <;> simp
    · split
      · have := hroom ‹_›; omega
      · omega
  · constructor
    · simp only [dropPieces, countPieces_append, countPieces_filter_not, isPiece_choke]
      rw [hc]; simp
    · simp only [dropPieces]; omega

theorem cancel_inv (s : WQ) (h : Inv s) (r : Req) : Inv (cancel s r) := by
  unfold cancel
  by_cases hm : Msg.piece r ∈ s.queue
  · simp only [hm, if_true]
    obtain ⟨h1, h2⟩ := countPieces_erase s.queue r hm
    refine ⟨?_, ?_⟩
    · simp only; rw [h1, h.count]; omega
    · have := h.bound; simp only; omega
  · simp only [hm, if_false]; exact h

theorem handoff_inv (s : WQ) (h : Inv s) (d : DataRes) : Inv (handoff s d).1 := by
  rcases handoff_cases s d with e | ⟨m, rest, hq, e⟩ <;> rw [e]
  · exact h
  · have hc := h.count; have hb := h.bound
    rw [hq, countPieces_cons] at hc
    cases hp : m.isPiece <;> simp only [hp, if_true, Bool.false_eq_true, if_false] at hc <;>
      constructor <;> simp only [if_true, Bool.false_eq_true, if_false] <;> omega

theorem step_inv (s : WQ) (h : Inv s) (o : Op) : Inv (step s o).1 := by
  cases o with
  | enqueue m => exact enqueue_inv s h m
  | cancel r => exact cancel_inv s h r
  | handoff d => exact handoff_inv s h d

theorem run_inv (ops : List Op) : ∀ (s : WQ), Inv s → Inv (run s ops) ∧ (run s ops).maxQueued = s.maxQueued := by
  induction ops with
  | nil => intro s h; exact ⟨h, rfl⟩
  | cons o r ih =>
    intro s h
    obtain ⟨g1, g2⟩ := ih _ (step_inv s h o)
    exact ⟨g1, g2.trans (step_frame s o).1⟩

/-! ### messages that can no longer be sent -/

theorem step_taken {s : WQ} {o : Op} {x : Msg × Sent} (h : (step s o).2 = some x) : x.1 ∈ s.queue := by
  cases o with
  | handoff d =>
    rcases handoff_cases s d with e | ⟨m, rest, hq, e⟩ <;> rw [step, e] at h <;> cases h
    exact hq ▸ List.mem_cons_self
  | _ => cases h

theorem step_mem {s : WQ} {o : Op} {x : Msg} (hx : x ∈ (step s o).1.queue) :
    x ∈ s.queue ∨ ∃ m, o = .enqueue m ∧ (x = m ∨ ∃ r, m = .piece r ∧ x = .reject r) := by
  cases o with
  | enqueue m =>
    rw [step] at hx
    rcases enqueue_cases s m with e | ⟨y, hy, _, e⟩ | ⟨rfl, e⟩ <;> rw [e] at hx
    · exact .inl hx
    · exact (List.mem_append.mp hx).imp_right fun h => ⟨m, rfl, (List.mem_singleton.mp h : x = y) ▸ hy⟩
    · simp only [dropPieces, List.mem_append, List.mem_singleton, List.mem_filter] at hx
      exact hx.imp And.left fun h => ⟨_, rfl, .inl h⟩
  | cancel r =>
    rw [step, cancel] at hx
    split at hx
    · exact .inl (List.mem_of_mem_erase hx)
    · exact .inl hx
  | handoff d =>
    rcases handoff_cases s d with e | ⟨m, rest, hq, e⟩ <;> rw [step, e] at hx
    · exact .inl hx
    · exact .inl (hq ▸ List.mem_cons_of_mem _ hx)

theorem handed_cons (s : WQ) (o : Op) (r : List Op) :
    handed s (o :: r) = (step s o).2.toList ++ handed (step s o).1 r := by
  rcases h : step s o with ⟨s', _ | x⟩ <;> simp [handed, h]

theorem handed_no_piece (r : Req) (ops : List Op) : ∀ (s : WQ), Msg.piece r ∉ s.queue →
    (∀ o ∈ ops, o ≠ .enqueue (.piece r)) → ∀ x ∈ handed s ops, x.1 ≠ .piece r := by
  induction ops with
  | nil => intro s _ _ x hx; cases hx
  | cons o rest ih =>
    intro s hs hops x hx
    rw [handed_cons, List.mem_append] at hx
    rcases hx with hx | hx
    · exact fun e => hs (e ▸ step_taken (Option.mem_toList.mp hx))
    · refine ih _ (fun hin => ?_) (fun o' ho' => hops o' (List.mem_cons_of_mem _ ho')) x hx
      rcases step_mem hin with h | ⟨m, rfl, h | ⟨_, _, h⟩⟩
      · exact hs h
      · exact hops _ List.mem_cons_self (by rw [h])
      · cases h

theorem cancel_removes (s : WQ) (r : Req) (h : List.count (Msg.piece r) s.queue ≤ 1) :
    Msg.piece r ∉ (cancel s r).queue := by
  unfold cancel
  by_cases hm : Msg.piece r ∈ s.queue
  · simp only [hm, if_true]
    apply List.count_eq_zero.mp
    rw [List.count_erase_self]; omega
  · simp [hm]

theorem choke_removes (s : WQ) (r : Req) : Msg.piece r ∉ (enqueue s .choke).queue := by
  simp [enqueue, dropPieces]

/-! ### a request is answered with data at most once -/

theorem be32_length (n : Nat) : (be32 n).length = 4 := rfl

theorem isDataFrame_frame (id : Nat) (p : Rain.Cache.Bytes) : isDataFrame (frame id p) = (id == 7) := by
  simp [isDataFrame, frame, be32]

theorem dataSent_cons (x : Msg × Sent) (h : List (Msg × Sent)) :
    dataSent (x :: h) = match dataOf x with | some r => r :: dataSent h | none => dataSent h := by
  simp only [dataSent, List.filterMap_cons]
  cases dataOf x <;> rfl

theorem frame_piece (r : Req) (bytes : Rain.Cache.Bytes) :
    frame 7 (be32 r.idx ++ be32 r.b ++ bytes) = pieceFrame r bytes := by
  simp only [frame, pieceFrame, List.length_append, be32_length, List.append_assoc]
  rw [show 1 + (4 + (4 + bytes.length)) = 9 + bytes.length by omega]

theorem writeMsg_piece (served : List Req) (r : Req) (d : DataRes) :
    (r ∈ served ∧ writeMsg served (.piece r) d = (served, .frame (frame 16 (reqBytes r)))) ∨
    (r ∉ served ∧ (writeMsg served (.piece r) d).1 = r :: served ∧
      ((maxBlock < r.l ∧ (writeMsg served (.piece r) d).2 = .panic) ∨
       (r.l ≤ maxBlock ∧ ((∃ bytes, (d = .ok bytes ∨ d = .eof bytes) ∧
            (writeMsg served (.piece r) d).2 = .frame (pieceFrame r bytes)) ∨
          (d = .err ∧ (writeMsg served (.piece r) d).2 = .died))))) := by
  unfold writeMsg
  by_cases hin : r ∈ served
  · left; simp [hin]
  · right
    simp only [hin, if_false, true_and, not_false_eq_true]
    by_cases hl : r.l > maxBlock
    · simp [hl]
    · simp only [hl, if_false]
      refine ⟨by cases d <;> rfl, Or.inr ⟨Nat.le_of_not_lt hl, ?_⟩⟩
      cases d with
      | ok bytes => exact .inl ⟨bytes, .inl rfl, congrArg _ (frame_piece r bytes)⟩
      | eof bytes => exact .inl ⟨bytes, .inr rfl, congrArg _ (frame_piece r bytes)⟩
      | err => exact .inr ⟨rfl, rfl⟩

theorem writeMsg_piece_ok {served : List Req} {r : Req} (bytes : Rain.Cache.Bytes) (hnew : r ∉ served)
    (hl : r.l ≤ maxBlock) : (writeMsg served (.piece r) (.ok bytes)).2 = .frame (pieceFrame r bytes) := by
  simp only [writeMsg, hnew, Nat.not_lt.mpr hl, if_false, frame_piece]

theorem writeMsg_served (served : List Req) (m : Msg) (d : DataRes) :
    (∀ q ∈ served, q ∈ (writeMsg served m d).1) ∧
    ∀ r, dataOf (m, (writeMsg served m d).2) = some r → r ∉ served ∧ r ∈ (writeMsg served m d).1 := by
  cases m with
  | piece r' =>
    rcases writeMsg_piece served r' d with ⟨_, hw⟩ | ⟨hnin, hs1, _⟩
    · -- duplicate: a reject frame, nothing new is served
      rw [hw]; exact ⟨fun _ h => h, by simp [dataOf, isDataFrame_frame]⟩
    · rw [hs1]
      refine ⟨fun _ h => List.mem_cons_of_mem _ h, fun r hr => ?_⟩
      obtain rfl : r' = r := by
        cases hout : (writeMsg served (.piece r') d).2 <;> simp only [hout, dataOf] at hr
        · split at hr <;> cases hr; rfl
        all_goals cases hr
      exact ⟨hnin, List.mem_cons_self⟩
  | _ => exact ⟨fun _ h => h, by simp [dataOf]⟩

theorem step_served (s : WQ) (o : Op) :
    (∀ q ∈ s.served, q ∈ (step s o).1.served) ∧
    ∀ x, (step s o).2 = some x → ∀ r, dataOf x = some r → r ∉ s.served ∧ r ∈ (step s o).1.served := by
  cases o with
  | enqueue m => exact ⟨fun q hq => (step_frame s (.enqueue m)).2 rfl ▸ hq, fun _ h => nomatch h⟩
  | cancel r => exact ⟨fun q hq => (step_frame s (.cancel r)).2 rfl ▸ hq, fun _ h => nomatch h⟩
  | handoff d =>
    simp only [step]
    rcases handoff_cases s d with e | ⟨m, rest, _, e⟩ <;> rw [e]
    · exact ⟨fun _ h => h, fun _ h => nomatch h⟩
    · obtain ⟨h1, h2⟩ := writeMsg_served s.served m d
      exact ⟨h1, fun x hx => Option.some.inj hx ▸ h2⟩

theorem dataSent_nodup (ops : List Op) : ∀ (s : WQ),
    (dataSent (handed s ops)).Nodup ∧ ∀ r ∈ dataSent (handed s ops), r ∉ s.served := by
  induction ops with
  | nil => intro s; simp [handed, dataSent]
  | cons o rest ih =>
    intro s
    obtain ⟨hsub, hnew⟩ := step_served s o
    obtain ⟨hn, hout⟩ := ih (step s o).1
    have hold : ∀ r ∈ dataSent (handed (step s o).1 rest), r ∉ s.served :=
      fun r hr h => hout r hr (hsub r h)
    rw [handed_cons]
    cases hx : (step s o).2 with
    | none => exact ⟨hn, hold⟩
    | some x =>
      rw [show (some x).toList ++ _ = x :: _ from rfl, dataSent_cons]
      cases hd : dataOf x with
      | none => exact ⟨hn, hold⟩
      | some r =>
        obtain ⟨h1, h2⟩ := hnew x hx r hd
        refine ⟨List.nodup_cons.mpr ⟨fun hr => hout r hr h2, hn⟩, fun q hq => ?_⟩
        rcases List.mem_cons.mp hq with rfl | hq
        · exact h1
        · exact hold q hq

end Rain.WriteQueue
