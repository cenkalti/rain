import RainModel.Model.AdmissionRun
import RainModel.Lemmas.Admission
import RainModel.Props.C18
/-!
Helper lemmas for `Model/AdmissionRun`: an invariant preserved by every step of a history, and what
one step / one history guarantees about the addresses dialled and the connections accepted.
-/
namespace Rain.Admission
open Rain.AddrList Rain.Props.C18

/-- Per-step hypotheses on the history: a `peers` step pushes into an `AddrList` created with
`maxItems = max`, and the resolution `choose` of the unstable sort is a sort (as in `Reach.push`).
The other operations are unrestricted. -/
def OpOk (max : Nat) : Op → Prop
  | .peers env choose _ _ _ => env.maxItems = max ∧ ∀ l, Admissible l (choose l)
  | _ => True

/-- What holds between two steps, for either version of the code. -/
structure SInv (max : Nat) (s : State) : Prop where
  good : Good max s.queue
  nodup : s.connected.Nodup

/-- No IP is both banned and connected/connecting. -/
def Disj (s : State) : Prop := ∀ x ∈ s.banned, x ∉ s.connected

theorem sinv_init (max : Nat) : SInv max {} :=
  ⟨⟨inv_empty, counts_empty, Nat.zero_le _, Nat.zero_le _⟩, List.nodup_nil⟩

theorem disj_init : Disj {} := fun _ h => by cases h

theorem dialAddresses_run {max : Nat} (cfg : Cfg) (blocked : Nat → Bool) (s : State) (h : SInv max s) :
    ∃ s' d, dialAddresses cfg blocked s = .ok (s', d) ∧ SInv max s' ∧ Dialled cfg blocked s s' d := by
  obtain ⟨s', d, h1, h2, hd, _⟩ := dialAddresses_spec cfg blocked s h.good.toQ
  exact ⟨s', d, h1, ⟨⟨h2.inv, h2.counts, h2.bound, hd.slots ▸ h.good.slots⟩, hd.connNodup h.nodup⟩, hd⟩

theorem disj_erase {B C : List Nat} (y : Nat) (h : ∀ x ∈ B, x ∉ C) : ∀ x ∈ B, x ∉ C.erase y :=
  fun x hx hxc => h x hx (List.mem_of_mem_erase hxc)

/-- Banning `y` is safe once `y` is released: `C` has no duplicates, so `erase` removes it entirely. -/
theorem disj_ban_erase {B C : List Nat} (y : Nat) (hn : C.Nodup) (h : ∀ x ∈ B, x ∉ C) :
    ∀ x ∈ y :: B, x ∉ C.erase y := by
  intro x hx hxc
  rcases List.mem_cons.1 hx with rfl | hx
  · exact (hn.mem_erase_iff.1 hxc).1 rfl
  · exact h x hx (List.mem_of_mem_erase hxc)

/-- The IPs that `op` records in `bannedPeerIPs`. -/
def Op.bans : Op → List Nat
  | .corruptOut a => [a.1]
  | .corruptIn ip => [ip]
  | _ => []

structure Stepped (max : Nat) (cfg : Cfg) (s : State) (op : Op) (s' : State) (o : StepOut) : Prop where
  inv : SInv max s'
  banned : ∀ x ∈ op.bans ++ s.banned, x ∈ s'.banned
  fresh : cfg.checkBan = true → ∀ a ∈ o.dialled, a.1 ∉ s'.banned
  disj : cfg.checkBan = true → Disj s → Disj s'
  refused : ∀ ip, op = .accept ip → ip ∈ s.banned → o.verdict ≠ some .accept

theorem Stepped.mono {max : Nat} {cfg : Cfg} {s s' : State} {op : Op} {o : StepOut}
    (h : Stepped max cfg s op s' o) : ∀ x ∈ s.banned, x ∈ s'.banned :=
  fun x hx => h.banned x (List.mem_append_right _ hx)

theorem dial_step {max : Nat} (cfg : Cfg) (blocked : Nat → Bool) {s s0 : State} {op : Op} (h : SInv max s0)
    (hb : ∀ x ∈ op.bans ++ s.banned, x ∈ s0.banned) (hd : Disj s → Disj s0) :
    ∃ s' o, withDial (dialAddresses cfg blocked s0) = .ok (s', o) ∧ Stepped max cfg s op s' o := by
  obtain ⟨s', d, h1, h2, h⟩ := dialAddresses_run cfg blocked s0 h
  have h4 : cfg.checkBan = true → ∀ a ∈ d, a.1 ∉ s'.banned :=
    fun hcb a ha => h.banned ▸ (h.admitted a ha).2.2.1 hcb
  refine ⟨s', { dialled := d }, by rw [h1]; rfl, h2, fun x hx => h.banned ▸ hb x hx, h4, ?_, fun _ _ _ => nofun⟩
  intro hcb hds x hx hxc
  rcases (h.connected x).1 hxc with hc | hc
  · exact hd hds x (h.banned ▸ hx) hc
  · obtain ⟨a, ha, e⟩ := List.mem_map.1 hc
    exact h4 hcb a ha (e ▸ hx)

theorem step_spec {max : Nat} (cfg : Cfg) (b : Nat → Bool) (s : State) (op : Op)
    (h : SInv max s) (hop : OpOk max op) :
    ∃ s' o, step cfg b s op = .ok (s', o) ∧ Stepped max cfg s op s' o := by
  cases op with
  | peers env choose addrs src now =>
    obtain ⟨hmax, hch⟩ := hop
    by_cases hc : s.completed = true
    · exact ⟨{ s with needMore := false }, {}, by simp only [step, handleNewPeers, if_pos hc]; rfl,
        ⟨h.good, h.nodup⟩, fun _ hx => hx, (fun _ _ ha => nomatch ha), fun _ hd => hd, nofun⟩
    · obtain ⟨q, hp, hg, _, _⟩ := push_good h.good env hmax choose hch
        (addrs.filter fun a => !s.banned.contains a.ip) src now
      simp only [step, handleNewPeers, if_neg hc, hp]
      exact dial_step cfg b (s0 := { s with needMore := false, queue := q }) ⟨hg, h.nodup⟩ (fun _ hx => hx) id
  | accept ip =>
    rcases handleNewConnection_cases cfg b s ip with ⟨v, e, hv, _⟩ | ⟨_, _, hc, hb, e⟩
    · exact ⟨s, { verdict := some v }, by simp only [step, e], h, fun _ hx => hx, (fun _ _ ha => nomatch ha),
        fun _ hd => hd, fun _ _ _ hv' => hv (Option.some.inj hv')⟩
    · refine ⟨{ s with incoming := s.incoming ++ [ip], connected := ip :: s.connected },
        { verdict := some .accept }, by simp only [step, e],
        ⟨h.good, List.nodup_cons.2 ⟨hc, h.nodup⟩⟩, fun _ hx => hx, (fun _ _ ha => nomatch ha), ?_, ?_⟩
      · intro _ hd x hx hxc
        rcases List.mem_cons.1 hxc with rfl | hxc
        · exact hb hx
        · exact hd x hx hxc
      · intro ip' e' hb'
        cases e'
        exact absurd hb' hb
  | hsfail a => exact dial_step cfg b ⟨h.good, h.nodup.erase _⟩ (fun _ hx => hx) (disj_erase _)
  | infail ip =>
    exact ⟨_, _, rfl, ⟨h.good, h.nodup.erase _⟩, fun _ hx => hx, (fun _ _ ha => nomatch ha),
      fun _ hd => disj_erase _ hd, nofun⟩
  | closeIn ip => exact dial_step cfg b ⟨h.good, h.nodup.erase _⟩ (fun _ hx => hx) (disj_erase _)
  | corruptOut a =>
    by_cases hcb : cfg.checkBan = true
    · simp only [step, corruptPiece, if_pos hcb]
      exact dial_step cfg b ⟨h.good, h.nodup.erase _⟩ (fun _ hx => hx) (disj_ban_erase _ h.nodup)
    · -- the code before the repair bans after `closePeer` has dialled
      obtain ⟨s', d, e, i1, hd⟩ :=
        dialAddresses_run cfg b { s with outgoing := s.outgoing.erase a, connected := s.connected.erase a.1 }
          ⟨h.good, h.nodup.erase _⟩
      exact ⟨{ s' with banned := a.1 :: s'.banned }, { dialled := d },
        by simp only [step, corruptPiece, if_neg hcb, outgoingGone, e]; rfl,
        ⟨i1.good, i1.nodup⟩, fun x hx => by rw [hd.banned]; exact hx, fun hc => absurd hc hcb,
        fun hc => absurd hc hcb, nofun⟩
  | corruptIn ip => exact dial_step cfg b ⟨h.good, h.nodup.erase _⟩ (fun _ hx => hx) (disj_ban_erase _ h.nodup)
  | complete v =>
    exact ⟨_, _, rfl, ⟨h.good, h.nodup⟩, fun _ hx => hx, (fun _ _ ha => nomatch ha), fun _ hd => hd, nofun⟩

theorem run_append (cfg : Cfg) (h1 h2 : List (Op × (Nat → Bool))) {s s1 s2 : State} {o1 o2 : List StepOut}
    (e1 : run cfg s h1 = .ok (s1, o1)) (e2 : run cfg s1 h2 = .ok (s2, o2)) :
    run cfg s (h1 ++ h2) = .ok (s2, o1 ++ o2) := by
  induction h1 generalizing s o1 with
  | nil => cases e1; exact e2
  | cons x rest ih =>
    simp only [List.cons_append, run] at e1 ⊢
    split at e1
    · cases e1
    · rename_i sa oa hs
      split at e1
      · cases e1
      · rename_i sb ob hr
        cases e1
        simp only [ih hr, List.cons_append]

/-- `fresh` and `refused` speak of the IPs banned at the start of the history. -/
structure Ran (max : Nat) (cfg : Cfg) (s : State) (hist : List (Op × (Nat → Bool))) (s' : State)
    (outs : List StepOut) : Prop where
  inv : SInv max s'
  length : outs.length = hist.length
  mono : ∀ x ∈ s.banned, x ∈ s'.banned
  fresh : cfg.checkBan = true → ∀ o ∈ outs, ∀ a ∈ o.dialled, a.1 ∉ s.banned
  disj : cfg.checkBan = true → Disj s → Disj s'
  refused : ∀ p ∈ hist.zip outs, ∀ ip, p.1.1 = .accept ip → ip ∈ s.banned → p.2.verdict ≠ some .accept

theorem run_spec {max : Nat} (cfg : Cfg) (hist : List (Op × (Nat → Bool))) :
    ∀ (s : State), SInv max s → (∀ e ∈ hist, OpOk max e.1) →
    ∃ s' outs, run cfg s hist = .ok (s', outs) ∧ Ran max cfg s hist s' outs := by
  induction hist with
  | nil =>
    exact fun s h _ => ⟨s, [], rfl, h, rfl, fun _ hx => hx, fun _ _ ho => (by cases ho), fun _ hd => hd,
      fun _ hp => (by cases hp)⟩
  | cons x rest ih =>
    intro s h hok
    obtain ⟨op, b⟩ := x
    obtain ⟨s1, o, e1, st⟩ := step_spec cfg b s op h (hok (op, b) List.mem_cons_self)
    obtain ⟨s2, os, e2, r⟩ := ih s1 st.inv (fun e he => hok e (List.mem_cons_of_mem _ he))
    refine ⟨s2, o :: os, by simp only [run, e1, e2], r.inv, by simp [r.length], fun x hx => r.mono x (st.mono x hx),
      ?_, fun hcb hd => r.disj hcb (st.disj hcb hd), ?_⟩
    -- what was banned at the start is banned after the first step
    · intro hcb o' ho' a ha hb
      rcases List.mem_cons.1 ho' with rfl | ho'
      · exact st.fresh hcb a ha (st.mono _ hb)
      · exact r.fresh hcb o' ho' a ha (st.mono _ hb)
    · intro p hp ip e hb
      simp only [List.zip_cons_cons] at hp
      rcases List.mem_cons.1 hp with rfl | hp
      · exact st.refused ip e hb
      · exact r.refused p hp ip e (st.mono _ hb)

end Rain.Admission
