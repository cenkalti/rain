import RainModel.Lemmas.PickerWeb
/-! `findGaps`, `findPieceRangeForWebseed`, `PickWebseed` of M-PICK. -/
namespace Rain.Picker

def GoodGap (s : State) (g : Nat × Nat) : Prop :=
  g.1 < g.2 ∧ g.2 ≤ s.n ∧ ∀ j, g.1 ≤ j → j < g.2 → (s.pieces j).availWeb = true

/-- The cursor of `findGaps` at piece `i`: the gaps found so far and the open gap `[b, i)` cover exactly the pieces
below `i` that are available for web seeds. -/
def GapInv (s : State) (i : Nat) (inGap : Bool) (b : Nat) (acc : List (Nat × Nat)) : Prop :=
  (∀ g ∈ acc, g.1 < g.2 ∧ g.2 ≤ i) ∧ (inGap = true → b < i) ∧
  ∀ j, j < i → ((s.pieces j).availWeb = true ↔ (∃ g ∈ acc, g.1 ≤ j ∧ j < g.2) ∨ (inGap = true ∧ b ≤ j))

section
variable {s : State} {i b : Nat} {acc : List (Nat × Nat)}

theorem GapInv.close (h : GapInv s i true b acc) (b' : Nat) : GapInv s i false b' (acc ++ [(b, i)]) := by
  obtain ⟨hacc, hb, hcov⟩ := h
  refine ⟨fun g hg => ?_, nofun, fun j hj => ?_⟩
  · rcases List.mem_append.mp hg with hg | hg
    · exact hacc g hg
    · rw [List.mem_singleton.mp hg]; exact ⟨hb rfl, Nat.le_refl _⟩
  · rw [hcov j hj]
    simp [or_and_right, exists_or, hj]

theorem GapInv.skip (h : GapInv s i false b acc) (ha : (s.pieces i).availWeb = false) :
    GapInv s (i + 1) false b acc := by
  refine ⟨fun g hg => ⟨(h.1 g hg).1, Nat.le_succ_of_le (h.1 g hg).2⟩, nofun, fun j hj => ?_⟩
  rcases Nat.lt_succ_iff_lt_or_eq.mp hj with hj | rfl
  · exact h.2.2 j hj
  · have : ¬ ∃ g ∈ acc, g.1 ≤ j ∧ j < g.2 := fun ⟨g, hg, _, hlt⟩ => by have := (h.1 g hg).2; omega
    simpa [ha] using this

theorem GapInv.open (h : GapInv s i false b acc) (ha : (s.pieces i).availWeb = true) :
    GapInv s (i + 1) true i acc := by
  refine ⟨fun g hg => ⟨(h.1 g hg).1, Nat.le_succ_of_le (h.1 g hg).2⟩, fun _ => Nat.lt_succ_self i, fun j hj => ?_⟩
  rcases Nat.lt_succ_iff_lt_or_eq.mp hj with hj | rfl
  · rw [h.2.2 j hj]
    simp [Nat.not_le.mpr hj]
  · simp [ha]

theorem GapInv.extend (h : GapInv s i true b acc) (ha : (s.pieces i).availWeb = true) :
    GapInv s (i + 1) true b acc := by
  refine ⟨fun g hg => ⟨(h.1 g hg).1, Nat.le_succ_of_le (h.1 g hg).2⟩, fun _ => Nat.lt_succ_of_lt (h.2.1 rfl),
    fun j hj => ?_⟩
  rcases Nat.lt_succ_iff_lt_or_eq.mp hj with hj | rfl
  · exact h.2.2 j hj
  · simp [ha, Nat.le_of_lt (h.2.1 rfl)]

end

theorem gapsGo_inv (s : State) : ∀ (fuel i : Nat) (inGap : Bool) (b : Nat) (acc : List (Nat × Nat)),
    GapInv s i inGap b acc →
    GapInv s (i + fuel) (gapsGo s fuel i inGap b acc).1 (gapsGo s fuel i inGap b acc).2.1
      (gapsGo s fuel i inGap b acc).2.2
  | 0, i, inGap, b, acc, h => h
  | fuel + 1, i, inGap, b, acc, h => by
    simp only [gapsGo]
    rw [show i + (fuel + 1) = i + 1 + fuel by omega]
    cases inGap with
    | false =>
      simp only [Bool.not_false, if_true]
      cases ha : (s.pieces i).availWeb with
      | true => exact gapsGo_inv s fuel (i + 1) true i acc (h.open ha)
      | false => exact gapsGo_inv s fuel (i + 1) false b acc (h.skip ha)
    | true =>
      simp only [Bool.not_true, Bool.false_eq_true, if_false]
      cases ha : (s.pieces i).availWeb with
      | false => exact gapsGo_inv s fuel (i + 1) false b _ ((h.close b).skip ha)
      | true =>
        simp only [Bool.not_true, Bool.false_eq_true, if_false]
        split
        · exact gapsGo_inv s fuel (i + 1) true i _ ((h.close b).open ha)
        · exact gapsGo_inv s fuel (i + 1) true b acc (h.extend ha)

theorem findGaps_spec (s : State) : (∀ g ∈ findGaps s, g.1 < g.2 ∧ g.2 ≤ s.n) ∧
    ∀ j, j < s.n → ((s.pieces j).availWeb = true ↔ ∃ g ∈ findGaps s, g.1 ≤ j ∧ j < g.2) := by
  have h := gapsGo_inv s s.n 0 false 0 [] ⟨nofun, nofun, fun j hj => absurd hj (Nat.not_lt_zero j)⟩
  unfold findGaps
  generalize gapsGo s s.n 0 false 0 [] = r at h
  obtain ⟨ig, b, acc⟩ := r
  rw [Nat.zero_add] at h
  have key : ∀ l, GapInv s s.n false b l → (∀ g ∈ l, g.1 < g.2 ∧ g.2 ≤ s.n) ∧
      ∀ j, j < s.n → ((s.pieces j).availWeb = true ↔ ∃ g ∈ l, g.1 ≤ j ∧ j < g.2) :=
    fun l h => ⟨h.1, fun j hj => by simpa using h.2.2 j hj⟩
  cases ig with
  | true => exact key _ (h.close b)
  | false => exact key _ h

theorem findGaps_good (s : State) : ∀ g ∈ findGaps s, GoodGap s g := fun g hg =>
  have ⟨h1, h2⟩ := (findGaps_spec s).1 g hg
  ⟨h1, h2, fun j hj1 hj2 => ((findGaps_spec s).2 j (Nat.lt_of_lt_of_le hj2 h2)).mpr ⟨g, hg, hj1, hj2⟩⟩

theorem availWeb_iff (pc : Piece) : pc.availWeb = true ↔ pc.done = false ∧ pc.writing = false ∧ pc.webseed = none := by
  unfold Piece.availWeb
  cases pc.done <;> cases pc.writing <;> cases pc.webseed <;> simp

def FreeRange (s : State) (b e : Nat) : Prop :=
  b < e ∧ e ≤ s.n ∧ ∀ j, b ≤ j → j < e → (s.pieces j).webseed = none

theorem GoodGap.free {s : State} {g : Nat × Nat} (h : GoodGap s g) : FreeRange s g.1 g.2 :=
  ⟨h.1, h.2.1, fun j h1 h2 => ((availWeb_iff _).mp (h.2.2 j h1 h2)).2.2⟩

theorem markSt_inv (s : State) (k b e : Nat) (h : PickInv s) (hk : k < s.ns) (hnone : s.srcs k = none)
    (hfree : FreeRange s b e) : PickInv (setSrc (webSt s (some k) b e) k (some ⟨b, e, b⟩)) := by
  obtain ⟨hbe, hen, hfree⟩ := hfree
  rw [webSt_eq]
  refine (h.core.updSrc hk (fun d hd => ?_) (fun i hi hw => ?_) (fun i hi k' hne => ?_)).inv h.doneIdle
  · cases Option.mem_some_iff.mp hd
    exact ⟨Nat.le_refl _, hbe, hen, fun i h1 h2 => if_pos ⟨h2, h1⟩⟩
  · split at hw
    · exact ⟨_, rfl, ‹_›⟩
    · -- no piece names a source that is not downloading
      obtain ⟨-, d, hd, -⟩ := h.webOwner i hi k hw
      rw [Option.mem_def, hnone] at hd
      cases hd
  · split
    · rename_i hin
      rw [hfree i hin.1 hin.2]
      simp [hne.symm]
    · rfl

theorem mem_downloadingSources (s : State) (k : Nat) (d : Dl) :
    (k, d) ∈ downloadingSources s ↔ k < s.ns ∧ s.srcs k = some d := by
  unfold downloadingSources
  simp only [List.mem_filterMap, List.mem_range]
  constructor
  · rintro ⟨k', hk', h⟩
    cases hd : s.srcs k' with
    | none => simp [hd] at h
    | some d' => simp [hd] at h; obtain ⟨rfl, rfl⟩ := h; exact ⟨hk', hd⟩
  · rintro ⟨hk, hd⟩; exact ⟨k, hk, by simp [hd]⟩

theorem find_range_some {n i : Nat} {f : Nat → Bool} (h : (List.range n).find? f = some i) : i < n ∧ f i = true :=
  ⟨List.mem_range.mp (List.mem_of_find?_eq_some h), List.find?_some h⟩

/-- Every outcome of `findPieceRangeForWebseed`. -/
theorem findRange_spec (s : State) (h : PickInv s) :
    ∀ r ∈ findRange s, ∃ s1 res, r = .ok (s1, res) ∧ PickInv s1 ∧ s1.ns = s.ns ∧
      (∀ k, s.srcs k = none → s1.srcs k = none) ∧ ∀ g ∈ res, FreeRange s1 g.1 g.2 := by
  -- the state stays as it is unless a range is stolen
  have same : ∀ res : Option (Nat × Nat), (∀ g ∈ res, FreeRange s g.1 g.2) →
      ∃ s1 res', (.ok (s, res) : R (State × Option (Nat × Nat))) = .ok (s1, res') ∧ PickInv s1 ∧ s1.ns = s.ns ∧
        (∀ k, s.srcs k = none → s1.srcs k = none) ∧ ∀ g ∈ res', FreeRange s1 g.1 g.2 :=
    fun res hres => ⟨s, res, rfl, h, rfl, fun _ hk => hk, hres⟩
  intro r hr
  unfold findRange at hr
  simp only [] at hr
  split at hr
  · -- no gap: steal the second half of what a web seed with the most pieces left still has to do
    unfold webseedSteals at hr
    simp only [] at hr
    split at hr
    · rw [List.mem_singleton.mp hr]; exact same none nofun
    · simp only [List.mem_map, List.mem_filter] at hr
      obtain ⟨⟨k, d⟩, ⟨hmem, _⟩, rfl⟩ := hr
      obtain ⟨hk, hd⟩ := (mem_downloadingSources s k d).mp hmem
      obtain ⟨hbc, hce, hen, -⟩ := h.srcOk k hk d hd
      simp only []
      split
      · exact same none nofun
      · have hrb : d.b ≤ (d.c + d.e + 1) / 2 := by omega
        have hre : (d.c + d.e + 1) / 2 ≤ d.e := by omega
        rw [webseedStopAt_eq s k d _ h.srcOk hk hd hrb hre]
        obtain ⟨w, srcs, e, hc, hne, hcl⟩ := stopSt_spec h.core hk hd hre
        rw [e]
        refine ⟨_, _, rfl, hc.inv h.doneIdle, rfl, fun k' hk' => ?_, ?_⟩
        · exact (hne k' fun e => by rw [e, hd] at hk'; cases hk').trans hk'
        · rintro _ ⟨⟩
          exact ⟨by omega, hen, fun j h1 h2 => hcl j h1 (Nat.le_trans hrb h1) h2⟩
  · have hgood := fun g hg => (findGaps_good s g hg).free
    split at hr
    · split at hr
      · rename_i i hfind
        rw [List.mem_singleton.mp hr]
        have hp := find_range_some hfind
        simp only [Bool.and_eq_true] at hp
        refine same _ ?_
        rintro _ ⟨⟩
        exact ⟨Nat.lt_succ_self i, hp.1, fun j h1 h2 => by rw [show j = i by omega]; exact ((availWeb_iff _).mp hp.2.2).2.2⟩
      · rw [List.mem_singleton.mp hr]
        exact same _ fun g hg => hgood g (List.mem_of_mem_head? hg)
    · simp only [List.mem_map, List.mem_filter] at hr
      obtain ⟨g, ⟨hmem, _⟩, rfl⟩ := hr
      exact same _ (by rintro _ ⟨⟩; exact hgood g hmem)

theorem step_pickweb_inv (legacy : Bool) (s : State) (k : Nat) (h : PickInv s) :
    AllInv (step legacy s (.pickweb k)) := by
  simp only [step]
  split
  · rename_i hpre
    intro r hr
    unfold pickWebseed at hr
    simp only [List.mem_map] at hr
    obtain ⟨_, ⟨r0, hr0, rfl⟩, rfl⟩ := hr
    obtain ⟨s1, res, rfl, hI, hns, hsrc, hres⟩ := findRange_spec s h r0 hr0
    cases res with
    | none => exact ⟨_, _, rfl, hI⟩
    | some be =>
      obtain ⟨b, e⟩ := be
      obtain ⟨hbe, hen, hfree⟩ := hres (b, e) rfl
      simp only [Except.bind, Except.map]
      rw [markRange_eq k (e - b) b s1 (by omega) hen hfree]
      simp only [bind, Except.bind, pure, Except.pure]
      exact ⟨_, _, rfl, markSt_inv s1 k b e hI (by omega) (hsrc k (by simpa using hpre.2)) ⟨hbe, hen, hfree⟩⟩
  · exact .single h

end Rain.Picker
