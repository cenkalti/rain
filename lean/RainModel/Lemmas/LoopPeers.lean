import RainModel.Lemmas.LoopWritten
/-!
Peers, bans and piece writes (C01 (v), C18 glue): exact effect of `closePeer` on the peer list, the
failed-hash branch of `handlePieceWriteDone`, `writerRun`.
-/
namespace Rain.Loop

theorem closePeer_no_peer (s : St) (k : Nat) : ∀ q ∈ (s.closePeer k).peers, q.k ≠ k := fun q hq => by
  rw [closePeer_peers_eq] at hq
  simpa using (List.mem_filter.1 hq).2

theorem pwdBan_spec (m : M) (w : WriteJob) :
    (∀ q ∈ (pwdBan m w).1.peers, q.k ≠ w.src) ∧
    (∀ p, m.1.findPeer w.src = some p → p.ip ∈ (pwdBan m w).1.banned) := by
  unfold pwdBan
  dsimp only
  simp only [onSt_fst, closePeerM_fst, startDls_peers, startDls_banned, closePeer_banned]
  refine ⟨closePeer_no_peer _ _, fun p hp => ?_⟩
  simp only [hp, Option.map_some, Option.getD_some]
  split
  · next h => simpa using h
  · simp

/-- A job whose hash failed goes straight to the result handler, which bans its source. -/
theorem writerRun_bad (m : M) (w : WriteJob) (hg : w.good = false) : writerRun m w = pwdBan (pwdReset m w) w := by
  unfold writerRun
  simp only [hg, Bool.not_false, ↓reduceIte]
  rw [handlePieceWriteDone_eq]
  simp only [hg, Bool.not_false, ↓reduceIte]

/-- The disk image changes only for the piece of a verified job, and that piece is then good. -/
theorem writerRun_disk (m : M) (w : WriteJob) :
    (writerRun m w).1.bad = m.1.bad ∨
    (w.good = true ∧ w.gen = m.1.gen ∧ m.1.loaded = true ∧ m.1.failWrite = false ∧
      (writerRun m w).1.bad = m.1.bad.filter (fun b => b.1 ≠ w.piece) ∧
      (writerRun m w).1.diskOKi w.piece = true) := by
  refine writerRun_cases (P := fun x => x.1.bad = m.1.bad ∨ (w.good = true ∧ w.gen = m.1.gen ∧ m.1.loaded = true ∧
      m.1.failWrite = false ∧ x.1.bad = m.1.bad.filter (fun b => b.1 ≠ w.piece) ∧ x.1.diskOKi w.piece = true)) m w
    (fun _ => .inl (by simp)) (fun _ => .inl (by simp)) (fun _ => .inl (by simp)) fun sc l sto hs hg hgen hl hf => ?_
  have hok := written_diskOKi m.1 w.piece sc l hs
  exact ⟨.inr ⟨hg, hgen, hl, hf, rfl, hok _ rfl rfl⟩, .inr ⟨hg, hgen, hl, hf, by simp, hok _ (by simp) (by simp)⟩⟩

end Rain.Loop
