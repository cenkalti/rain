import RainModel.Model.Loop
/-!
A little geometry of `Cfg.sections`: a non-empty section lies in a file that exists in the file list.
-/
namespace Rain.Loop

theorem npPiece_len (flens : List Nat) (length : Nat) :
    ∀ (fuel left : Nat) (c : NPCur) (acc : List Sect),
      (∀ sc ∈ acc, sc.len ≤ flens.getD sc.file 0) →
      ∀ sc ∈ (npPiece flens length fuel left c acc).1, sc.len ≤ flens.getD sc.file 0 := by
  intro fuel
  induction fuel with
  | zero =>
    intro left c acc h sc hsc
    simp only [npPiece, List.mem_reverse] at hsc
    exact h sc hsc
  | succ n ih =>
    intro left c acc h sc hsc
    unfold npPiece at hsc
    split at hsc
    · simp only [List.mem_reverse] at hsc
      exact h sc hsc
    · have hacc : ∀ sc ∈ ((⟨c.fileIndex, c.fileOffset, min left (flens.getD c.fileIndex 0 - c.fileOffset)⟩ : Sect) :: acc),
          sc.len ≤ flens.getD sc.file 0 := by
        intro sc hsc
        simp only [List.mem_cons] at hsc
        rcases hsc with rfl | hsc
        · simp only; omega
        · exact h sc hsc
      dsimp only at hsc
      split at hsc
      · simp only [List.mem_reverse] at hsc
        exact hacc sc hsc
      · exact ih _ _ _ hacc sc hsc

theorem npAll_len (flens : List Nat) (pl length : Nat) :
    ∀ (k : Nat) (c : NPCur), ∀ secs ∈ npAll flens pl length k c, ∀ sc ∈ secs, sc.len ≤ flens.getD sc.file 0 := by
  intro k
  induction k with
  | zero => intro c secs h; simp [npAll] at h
  | succ k ih =>
    intro c secs h sc hsc
    unfold npAll at h
    simp only [List.mem_cons] at h
    rcases h with rfl | h
    · exact npPiece_len flens length _ _ _ [] (fun _ h => by cases h) sc hsc
    · exact ih _ secs h sc hsc

theorem sections_file_lt (c : Cfg) (i : Nat) (sc : Sect) (h : sc ∈ c.sections i) (hl : sc.len > 0) :
    sc.file < c.flens.length := by
  unfold Cfg.sections at h
  have hmem : (npAll c.flens c.pl c.flens.sum c.n {}).getD i [] ∈ npAll c.flens c.pl c.flens.sum c.n {} ∨
      (npAll c.flens c.pl c.flens.sum c.n {}).getD i [] = [] := by
    rw [List.getD_eq_getElem?_getD]
    cases hg : (npAll c.flens c.pl c.flens.sum c.n {})[i]? with
    | none => right; rfl
    | some v => left; exact List.mem_of_getElem? hg
  rcases hmem with hm | hm
  · have := npAll_len c.flens c.pl c.flens.sum c.n {} _ hm sc h
    by_cases hlt : sc.file < c.flens.length
    · exact hlt
    · rw [List.getD_eq_getElem?_getD, List.getElem?_eq_none (by omega)] at this
      simp at this
      omega
  · rw [hm] at h; cases h

end Rain.Loop
