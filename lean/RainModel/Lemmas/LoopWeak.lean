import RainModel.Lemmas.LoopComp
import RainModel.Lemmas.LoopGeo
import RainModel.Lemmas.LoopLife
import RainModel.Lemmas.LoopMutate
/-!
Soundness across external deletion/restoration of files: the weak invariant `WSound` is preserved by
every event except a corruption of bytes, and together with the lifecycle invariant and `PadInv` (which every
event keeps) it gives full soundness of the bitfield whenever the torrent is downloading or seeding.
-/
namespace Rain.Loop

def Op.isCorrupt : Op → Bool
  | .mutate _ (.corrupt _) => true
  | _ => false

theorem drun_wsound (evs : List Ev) (sp : St × Parked) (hop : ∀ e ∈ evs, e.op.isCorrupt = false)
    (h : WSound sp.1) (hw : WrOK sp.1) : WSound (drun sp evs).1 :=
  drun_of_adv WSound.adv WSound.zero evs sp h hw fun e he f how eq t ht =>
    mutate_wsound t f how (fun off he' => by have := hop e he; rw [eq, he'] at this; cases this) ht

/-- With every file present, a piece whose bad sections all lie in missing files has none. -/
theorem diskOKi_of_files {s : St} (hb : BadWF s) (hfe : FilesExist s) {i : Nat}
    (hmiss : ∀ x ∈ s.bad, x.1 = i → s.fileExists.getD x.2 false = false) (hpad : s.cfg.padOK i = true) :
    s.diskOKi i = true := by
  rw [diskOKi_eq_true]
  refine ⟨fun x hx hxi => ?_, hpad⟩
  obtain ⟨sc, hsc, hfile, hdata⟩ := hb x hx
  simp only [Cfg.isData, Bool.and_eq_true, Bool.not_eq_true', decide_eq_true_eq] at hdata
  have := hfe sc.file (sections_file_lt s.cfg x.1 sc hsc hdata.2) hdata.1
  rw [hfile, hmiss x hx hxi] at this
  cases this

/-- What the driver's `initSt` establishes (Driver/Suites/Loop.lean): a freshly added, stopped torrent
without bitfield; `bad` is whatever the disk looks like, as long as it only names real data sections. -/
structure InitLike (s : St) : Prop where
  cfg : CfgWF s.cfg
  bad : BadWF s
  bf : s.bf = none
  persisted : s.persisted = none
  errC : s.errC = false
  stopAnn : s.stopAnn = false
  allocator : s.allocator = false
  verifier : s.verifier = false
  loaded : s.loaded = false
  acceptor : s.acceptor = false
  openFiles : s.openFiles = []
  peers : s.peers = []
  dls : s.dls = []
  idls : s.idls = []
  leaked : s.leaked = 0
  completed : s.completed = false
  completeCClosed : s.completeCClosed = false

theorem InitLike.sound {s : St} (h : InitLike s) : Sound s :=
  ⟨h.cfg, h.bad, fun i hi => (by rw [h.bf] at hi; cases hi), fun i hi => (by rw [h.persisted] at hi; cases hi)⟩

theorem InitLike.wsound {s : St} (h : InitLike s) : WSound s :=
  ⟨h.cfg, h.bad, fun i hi => (by rw [h.bf] at hi; cases hi)⟩

theorem InitLike.life {s : St} (h : InitLike s) : Life s := by
  refine ⟨?_, ?_, h.leaked, ?_, ?_, ?_, ?_⟩
  · rw [h.stopAnn]; intro hh; cases hh
  · intro _; exact ⟨h.allocator, h.verifier, h.loaded, h.acceptor, h.openFiles, h.peers, h.dls, h.idls⟩
  · rw [h.loaded]; intro hh; cases hh
  · rw [h.errC]; intro hh; cases hh
  · intro _; exact ⟨h.allocator, h.verifier, h.loaded, h.completed, h.bf⟩
  · rw [h.verifier]; intro hh; cases hh

theorem InitLike.comp {s : St} (h : InitLike s) : CompInv s := by
  refine ⟨by rw [h.completeCClosed, h.completed], ?_, ?_⟩
  · rw [h.completed]; intro hh; cases hh
  · rw [h.errC]; intro hh; cases hh

/-! ### A piece that can never be verified

`Unver c i`: piece `i` is padding-only and the SHA-1 recorded for it is not the hash of zeroes.  The
invariant below goes through **every** event, mutations of the files of any kind included: such a
piece never gets a bit, in memory or in the resume record, and the torrent is never complete. -/

structure PadInv (s : St) : Prop where
  zero : Sound0 s
  len : BfLen s
  nobit : NoBit s
  nobitP : ∀ i, Unver s.cfg i → bitOf s.persisted i = false
  nc : (∃ i, Unver s.cfg i) → s.completed = false

theorem PadInv.adv {s s' : St} (h : PadInv s) (a : Adv s s') : PadInv s' where
  zero := h.zero.adv a
  len := a.len h.len
  nobit := a.noBit h.nobit
  nobitP := fun i hi => by
    have hi' : Unver s.cfg i := a.cfg ▸ hi
    cases hb : bitOf s'.persisted i with
    | false => rfl
    | true =>
      rcases a.per i hb with h' | h' | h'
      · rw [h.nobitP i hi'] at h'; cases h'
      · rw [h.nobit i hi'] at h'; cases h'
      · have := padOK_of_diskOKi h'
        rw [hi.2] at this; cases this
  nc := fun hu => a.nc h.len h.nobit (a.cfg ▸ hu)
    (h.nc (a.cfg ▸ hu))

theorem PadInv.pad {s : St} (h : PadInv s) (i : Nat) (hi : bitOf s.bf i = true) : s.cfg.padOK i = true := by
  cases hp : s.cfg.padOK i
  · cases hb : s.bf with
    | none => rw [hb] at hi; cases hi
    | some b =>
      have hlt : i < s.n := h.len b hb ▸ Nat.lt_of_not_le fun hle => by
        rw [hb, bitOf_some, List.getD_eq_getElem?_getD, List.getElem?_eq_none hle] at hi; cases hi
      rw [h.nobit i ⟨hlt, hp⟩] at hi
      cases hi
  · rfl

/-- With every file present the weak invariant is the strong one. -/
theorem WSound.bits_of_files {s : St} (h : WSound s) (hp : PadInv s) (hfe : FilesExist s) :
    ∀ i, bitOf s.bf i = true → s.diskOKi i = true :=
  fun i hi => diskOKi_of_files h.bad hfe (h.ws i hi) (hp.pad i hi)

/-- **Downloading or seeding ⇒ every set bit is backed by verified bytes on disk**, also after files were
deleted or restored behind the client's back: missing files are noticed by the allocation that precedes
these statuses. -/
theorem bits_sound_of_running {s : St} (h : WSound s) (hp : PadInv s) (l : Life s)
    (hs : s.status = .downloading ∨ s.status = .seeding) : BitsSound s := by
  rw [bitsSound_iff]
  exact h.bits_of_files hp (l.files_of_running hs).2.1

theorem PadInv.of_eq {s s' : St} (h : PadInv s) (h0 : Sound0 s') (hc : s'.cfg = s.cfg) (hb : s'.bf = s.bf)
    (hp : s'.persisted = s.persisted) (hcm : s'.completed = s.completed) : PadInv s' where
  zero := h0
  len := h.len.of_eq hc (Or.inl hb)
  nobit := fun i hi => by rw [hb]; exact h.nobit i (hc ▸ hi)
  nobitP := fun i hi => by rw [hp]; exact h.nobitP i (hc ▸ hi)
  nc := fun hu => by rw [hcm]; exact h.nc (hc ▸ hu)

theorem mutate_padInv (f : Option Nat) (how : Mut) (t : St) (ht : PadInv t) : PadInv (mutate t f how) :=
  ht.of_eq (mutate_sound0 t f how ht.zero) (by simp) (by simp) (by simp) (by simp)

theorem drun_padInv (evs : List Ev) (sp : St × Parked) (h : PadInv sp.1) (hw : WrOK sp.1) : PadInv (drun sp evs).1 :=
  drun_of_adv PadInv.adv PadInv.zero evs sp h hw fun _ _ f how _ => mutate_padInv f how

theorem dstep_cfg (sp : St × Parked) (e : Ev) : (dstep sp e).1.cfg = sp.1.cfg := by
  unfold dstep; simp

theorem drun_cfg (evs : List Ev) (sp : St × Parked) : (drun sp evs).1.cfg = sp.1.cfg :=
  foldl_keep (·.1.cfg) dstep dstep_cfg evs sp

theorem InitLike.wrOK {s : St} (h : InitLike s) (hw : NoWritten s) : WrOK s :=
  .of_released ⟨h.loaded, h.allocator, h.verifier, h.acceptor, h.peers⟩ fun w a => (hw w a).2

theorem InitLike.padInv {s : St} (h : InitLike s) : PadInv s where
  zero := ⟨h.cfg, h.bad⟩
  len := fun b hb => by rw [h.bf] at hb; cases hb
  nobit := fun i _ => by rw [h.bf]; rfl
  nobitP := fun i _ => by rw [h.persisted]; rfl
  nc := fun _ => h.completed

/-- `bad := c.dataSects` (nothing on disk yet), as `initSt` sets it, is well-formed. -/
theorem badWF_dataSects (s : St) (h : s.bad = s.cfg.dataSects) : BadWF s := by
  intro x hx
  rw [h] at hx
  exact mem_dataSects _ _ hx

/-- The resume bitfield is stale only where a file is missing (`WS` for the record). -/
def WSP (s : St) : Prop :=
  ∀ i, bitOf s.persisted i = true → ∀ x ∈ s.bad, x.1 = i → s.fileExists.getD x.2 false = false

theorem WSP.of_pb {s : St} (h : WS s) (hp : PBehind s) : WSP s :=
  fun i hi => h i (hp.sub i hi)

theorem WSP.sound_of_files {s : St} (h : WSP s) (hb : BadWF s) (hfe : FilesExist s)
    (hpad : ∀ i, bitOf s.persisted i = true → s.cfg.padOK i = true) :
    ∀ i, bitOf s.persisted i = true → s.diskOKi i = true :=
  fun i hi => diskOKi_of_files hb hfe (h i hi) (hpad i hi)

end Rain.Loop
