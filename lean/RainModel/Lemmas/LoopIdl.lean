import RainModel.Lemmas.LoopAdmI
import RainModel.Lemmas.LoopMeta
import RainModel.Lemmas.LoopWritten
/-!
C13, step form: the sizes of the running metadata downloads (`idls`).  No handler ever creates a metadata
download or changes the size of one; only `reconcileIdl` adds downloads, and an error-free `reconcileIdl` adds
admissible ones.  Hence "every running metadata download is for a size `0 < size ≤ maxMeta`" is an invariant of every
history whose metadata choices the model accepted.  The handlers' part is an instance of `Shrinks` (`LoopShrink`).
-/
namespace Rain.Loop

def IdlAll (P : Nat → Prop) (s : St) : Prop := ∀ d ∈ s.idls, P d.size

variable {s s' : St} {P : Nat → Prop}

theorem Shrinks.idlAll (a : Shrinks s s') (h : IdlAll P s) : IdlAll P s' :=
  fun e he => let ⟨d, hd, hs⟩ := a.idls e he; hs ▸ h d hd

theorem IdlAll.of_eq (h : IdlAll P s) (he : s'.idls = s.idls) : IdlAll P s' :=
  fun d hd => h d (he ▸ hd)

theorem handle_idlAll (s : St) (p : Parked) (kn : Nat → Bool) (op : Op) (h : IdlAll P s) :
    IdlAll P (handle s p kn op).1.1 :=
  handle_of_shrinks Shrinks.idlAll s p kn op h (fun _ _ _ _ _ => h.of_eq (acceptPeer_writes ..).idls)
    fun _ _ _ _ => h.of_eq (handleExtHandshake_writes ..).idls

theorem step_idlAll (s : St) (p : Parked) (kn : Nat → Bool) (op : Op) (h : IdlAll P s) :
    IdlAll P (step s p kn op).1.st :=
  step_of_shrinks Shrinks.idlAll s p kn op (handle_idlAll _ p kn op h)

/-- The size bound of C13 as a state invariant: every running metadata download is for a metadata size
`0 < size ≤ maxMeta` (`maxMeta` = the configured `MaxMetadataSize`). -/
def IdlInv (s : St) : Prop := ∀ d ∈ s.idls, d.size ≠ 0 ∧ d.size ≤ s.maxMeta

theorem idlInv_iff (s : St) : IdlInv s ↔ IdlAll (fun n => n ≠ 0 ∧ n ≤ s.maxMeta) s := Iff.rfl

theorem step_idlInv (s : St) (p : Parked) (kn : Nat → Bool) (op : Op) (h : IdlInv s) :
    IdlInv (step s p kn op).1.st := by
  have := step_idlAll (P := fun n => n ≠ 0 ∧ n ≤ s.maxMeta) s p kn op h
  intro d hd
  rw [(step_writes ..).maxMeta]
  exact this d hd

theorem reconcile_idlInv (s : St) (impl : List ImplDl) (h : IdlInv s) : IdlInv (reconcile s impl).1 := by
  intro d hd
  rw [(reconcile_writes ..).maxMeta]
  rw [(reconcile_writes ..).idls] at hd
  exact h d hd

theorem reconcileIdl_idlInv (s : St) (impl : List Nat) (h : IdlInv s) (ha : (reconcileIdl s impl).2 = []) :
    IdlInv (reconcileIdl s impl).1 := by
  intro d hd
  rw [(reconcileIdl_writes ..).maxMeta]
  rcases reconcileIdl_idls s impl ha d hd with h1 | ⟨_, _, p, _, _, _, _, h0, hmax⟩
  · exact h d h1
  · exact ⟨h0, hmax⟩

theorem dstep_idlInv (sp : St × Parked) (e : Ev) (h : IdlInv sp.1) (ha : e.admissibleI sp) :
    IdlInv (dstep sp e).1 := by
  unfold dstep
  exact reconcileIdl_idlInv _ _ (reconcile_idlInv _ _ (step_idlInv sp.1 sp.2 e.known e.op h)) ha

theorem drun_idlInv (evs : List Ev) (sp : St × Parked) (h : IdlInv sp.1) (ha : drunAdmissibleI sp evs) :
    IdlInv (drun sp evs).1 := by
  induction evs generalizing sp with
  | nil => exact h
  | cons e evs ih => exact ih _ (dstep_idlInv sp e h ha.1) ha.2

end Rain.Loop
