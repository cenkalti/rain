import RainModel.Model.Geometry
import RainModel.Lemmas.Geometry
import RainModel.Lemmas.SectionIO
/-! Helper lemmas for `create_verify_partial` (C02): creation hashing order vs. the verifier. -/
namespace Rain.Geometry

/-- A list of chunks as the piece table sees it: all of length `pl` except a non-empty, possibly
shorter last one. -/
def ValidChunks (pl : Nat) : List (List Nat) → Prop
  | [] => True
  | [c] => 0 < c.length ∧ c.length ≤ pl
  | c :: d :: r => c.length = pl ∧ ValidChunks pl (d :: r)

theorem chunks_head {pl : Nat} (hpl : 0 < pl) : ∀ (Cs : List (List Nat)) (B Y : List Nat), ValidChunks pl Cs →
    B ++ Y = Cs.flatten → B.length = pl → ∃ Cs', Cs = B :: Cs' ∧ Y = Cs'.flatten ∧ ValidChunks pl Cs'
  | [], B, Y, _, h, hB => by
    have : (B ++ Y).length = 0 := by rw [h]; rfl
    simp only [List.length_append] at this; omega
  | [c], B, Y, hv, h, hB => by
    simp only [List.flatten_cons, List.flatten_nil, List.append_nil] at h
    have hl : (B ++ Y).length = c.length := by rw [h]
    simp only [List.length_append] at hl
    have hY : Y = [] := List.eq_nil_of_length_eq_zero (by have := hv.2; omega)
    subst hY
    simp only [List.append_nil] at h
    exact ⟨[], by rw [h], rfl, trivial⟩
  | c :: d :: r, B, Y, hv, h, hB => by
    simp only [List.flatten_cons] at h
    obtain ⟨h1, h2⟩ := List.append_inj h (by rw [hB, hv.1])
    exact ⟨d :: r, by rw [h1], by rw [h2]; rfl, hv.2⟩

/-- One file through the creation loop peels complete chunks off the front. -/
theorem hashFile_spec (H : List Nat → Nat) {pl : Nat} (hpl : 0 < pl) : ∀ (fuel : Nat) (f buf hs : List Nat)
    (Cs : List (List Nat)) (X : List Nat), buf.length < pl → f.length + 2 ≤ fuel →
    buf ++ f ++ X = Cs.flatten → ValidChunks pl Cs →
    ∃ Cs1 Cs2 b', Cs = Cs1 ++ Cs2 ∧ hashFile H pl fuel f buf hs = (b', (Cs1.map H).reverse ++ hs) ∧
      b' ++ X = Cs2.flatten ∧ ValidChunks pl Cs2 ∧ b'.length < pl := by
  intro fuel
  induction fuel with
  | zero => intro f buf hs Cs X _ h; omega
  | succ fuel ih =>
    intro f buf hs Cs X hbuf hfuel hcat hv
    unfold hashFile
    simp only
    -- `k` bytes of room are left in the buffer: the file ends before it is full, or fills it
    generalize hk : pl - buf.length = k
    by_cases hlt : f.length < k
    · rw [Nat.min_eq_left (Nat.le_of_lt hlt), if_pos hlt, List.take_length]
      exact ⟨[], Cs, buf ++ f, rfl, rfl, hcat, hv, by rw [List.length_append]; omega⟩
    · have hfl : k ≤ f.length := Nat.le_of_not_lt hlt
      rw [Nat.min_eq_right hfl, if_neg (Nat.lt_irrefl _)]
      have hB : (buf ++ f.take k).length = pl := by
        rw [List.length_append, List.length_take, Nat.min_eq_left hfl]; omega
      have hcat' : (buf ++ f.take k) ++ (f.drop k ++ X) = Cs.flatten := by
        rw [← hcat, List.append_assoc, ← List.append_assoc (f.take k), List.take_append_drop, List.append_assoc]
      obtain ⟨Cs', hCs, hY, hv'⟩ := chunks_head hpl Cs _ _ hv hcat' hB
      obtain ⟨Cs1, Cs2, b', hsplit, hrun, hb', hv2, hbl⟩ :=
        ih (f.drop k) [] (H (buf ++ f.take k) :: hs) Cs' X hpl (by rw [List.length_drop]; omega) hY hv'
      refine ⟨(buf ++ f.take k) :: Cs1, Cs2, b', by rw [hCs, hsplit]; rfl, ?_, hb', hv2, hbl⟩
      rw [hrun, List.map_cons, List.reverse_cons, List.append_assoc]; rfl

theorem createHashes_eq (H : List Nat → Nat) {pl : Nat} (hpl : 0 < pl) (files Cs : List (List Nat))
    (hcat : files.flatten = Cs.flatten) (hv : ValidChunks pl Cs) : createHashes H pl files = Cs.map H := by
  have key : ∀ (files : List (List Nat)) (buf hs : List Nat) (Cs : List (List Nat)), buf.length < pl →
      buf ++ files.flatten = Cs.flatten → ValidChunks pl Cs →
      (let a := files.foldl (fun (a : List Nat × List Nat) f => hashFile H pl (f.length + 2) f a.1 a.2) (buf, hs)
       (if a.1.length > 0 then H a.1 :: a.2 else a.2).reverse) = hs.reverse ++ Cs.map H := by
    intro files
    induction files with
    | nil =>
      intro buf hs Cs hbuf hcat hv
      simp only [List.flatten_nil, List.append_nil] at hcat
      simp only [List.foldl_nil]
      match Cs, hv with
      | [], _ =>
        have : buf = [] := by simpa using hcat
        subst this; simp
      | [c], hv =>
        have : buf = c := by simpa using hcat
        subst this
        have : buf.length > 0 := hv.1
        simp [this]
      | c :: d :: r, hv =>
        exfalso
        have : buf.length = (c ++ (d :: r).flatten).length := by rw [hcat]; rfl
        simp only [List.length_append] at this
        have := hv.1
        omega
    | cons f rest ih =>
      intro buf hs Cs hbuf hcat hv
      simp only [List.flatten_cons] at hcat
      obtain ⟨Cs1, Cs2, b', hsplit, hrun, hb', hv2, hbl⟩ :=
        hashFile_spec H hpl (f.length + 2) f buf hs Cs rest.flatten hbuf (Nat.le_refl _)
          (by rw [List.append_assoc]; exact hcat) hv
      simp only [List.foldl_cons, hrun]
      have := ih b' ((Cs1.map H).reverse ++ hs) Cs2 hbl hb' hv2
      simp only at this
      rw [this, hsplit]
      simp
  have := key files [] [] Cs hpl (by simpa using hcat) hv
  simpa [createHashes] using this

def look (st : Store) (x : Nat × Nat) : Nat := (getByte st x.1 x.2).getD 0

theorem fileSlice_eq_look {st : Store} {f off len : Nat} {bs : List Nat} (hbs : st[f]? = some (FileStore.data bs))
    (hle : off + len ≤ bs.length) : fileSlice st f off len = (bytesOf f off len).map (look st) := by
  apply List.ext_getElem?
  intro k
  by_cases hk : k < len
  · rw [getElem?_fileSlice hbs hle k hk]
    simp only [bytesOf, List.map_map, List.getElem?_map, List.getElem?_range hk, Option.map_some, Function.comp]
    simp only [look, getByte, hbs]
    have : off + k < bs.length := by omega
    rw [List.getElem?_eq_getElem this]; rfl
  · rw [List.getElem?_eq_none (by rw [length_fileSlice]; omega), List.getElem?_eq_none (by simp [bytesOf]; omega)]

theorem map_look_bytesOf_data (st : Store) (i : Nat) (c : List Nat) (h : st[i]? = some (FileStore.data c)) :
    (bytesOf i 0 c.length).map (look st) = c := by
  rw [← fileSlice_eq_look h (Nat.le_of_eq (Nat.zero_add _)), fileSlice_data h (Nat.le_of_eq (Nat.zero_add _)),
    List.drop_zero, List.take_length]

theorem fileStream_look : ∀ (fs : List (FileEnt × List Nat)) (pre : Store),
    (∀ x ∈ fs, x.1.len = x.2.length ∧ x.1.pad = false) →
    (fileStreamFrom pre.length (fs.map (·.1))).map (look (pre ++ storeOf fs)) = (fs.map (·.2)).flatten
  | [], _, _ => rfl
  | (f, c) :: r, pre, h => by
    have hfc := h (f, c) (by simp)
    simp only at hfc
    have hst : pre ++ storeOf ((f, c) :: r) = (pre ++ [FileStore.data c]) ++ storeOf r := by
      simp [storeOf, hfc.2]
    simp only [List.map_cons, fileStreamFrom, List.map_append, List.flatten_cons]
    congr 1
    · rw [hfc.1]
      apply map_look_bytesOf_data
      rw [hst, List.append_assoc, List.getElem?_append_right (Nat.le_refl _)]
      simp
    · have := fileStream_look r (pre ++ [FileStore.data c]) (fun x hx => h x (by simp [hx]))
      rw [hst]
      simpa using this

theorem pieceContent_eq_look (st : Store) : ∀ (p : List Sec), fits st p = true → (∀ s ∈ p, s.pad = false) →
    pieceContent st p = (secStream p).map (look st)
  | [], _, _ => rfl
  | s :: r, hfit, hpad => by
    obtain ⟨hs, hfr⟩ := fits_cons hfit
    have hsp := hpad s (by simp)
    rcases hs with ⟨hp, _⟩ | ⟨_, bs, hbs, hin⟩
    · rw [hsp] at hp; cases hp
    · have ih := pieceContent_eq_look st r hfr (fun t ht => hpad t (by simp [ht]))
      simp only [pieceContent, secStream, List.flatMap_cons, List.map_append, hsp, Bool.false_eq_true, if_false]
      rw [fileSlice_eq_look hbs hin]
      congr 1

theorem pieceContent_allSecs (st : Store) (ps : List Piece) :
    pieceContent st (allSecs ps) = (ps.map fun p => pieceContent st p.secs).flatten := by
  induction ps with
  | nil => rfl
  | cons p r ih =>
    rw [allSecs_cons]
    simp only [pieceContent, List.flatMap_append, List.map_cons, List.flatten_cons]
    congr 1

theorem fits_storeOf (fs : List (FileEnt × List Nat)) (h : ∀ x ∈ fs, x.1.len = x.2.length ∧ x.1.pad = false)
    (secs : List Sec) (hm : ∀ s ∈ secs, secMetaOK (fs.map (·.1)) s = true) :
    fits (storeOf fs) secs = true ∧ ∀ s ∈ secs, s.pad = false := by
  have key : ∀ s ∈ secs, SecFits (storeOf fs) s ∧ s.pad = false := by
    intro s hs
    obtain ⟨f, hf, hpad, _, hle⟩ := secMetaOK_iff.1 (hm s hs)
    rw [List.getElem?_map, Option.map_eq_some_iff] at hf
    obtain ⟨x, hx, rfl⟩ := hf
    have hxm := h x (List.mem_of_getElem? hx)
    have hp : s.pad = false := hpad.trans hxm.2
    exact ⟨.inr ⟨hp, x.2, by simp [storeOf, hx, hxm.2], by omega⟩, hp⟩
  exact ⟨fits_iff.2 fun s hs => (key s hs).1, fun s hs => (key s hs).2⟩

theorem validChunks_of_lensOK (st : Store) {pl : Nat} : ∀ (ps : List Piece), lensOK pl ps = true →
    (∀ p ∈ ps, p.len = secsLen p.secs) → ValidChunks pl (ps.map fun p => pieceContent st p.secs)
  | [], h, _ => by simp [lensOK] at h
  | [p], h, hl => by
    simp only [lensOK, Bool.and_eq_true, decide_eq_true_eq] at h
    simp only [List.map_cons, List.map_nil, ValidChunks, length_pieceContent, ← hl p (by simp)]
    exact h
  | p :: q :: r, h, hl => by
    simp only [lensOK, Bool.and_eq_true, beq_iff_eq] at h
    simp only [List.map_cons, ValidChunks, length_pieceContent, ← hl p (by simp)]
    exact ⟨h.1, validChunks_of_lensOK st (q :: r) h.2 (fun x hx => hl x (by simp [hx]))⟩

theorem pos_of_lensOK {pl : Nat} (hpl : 0 < pl) : ∀ (ps : List Piece), lensOK pl ps = true → ∀ p ∈ ps, 0 < p.len
  | [], h, _, _ => by simp [lensOK] at h
  | [p], h, x, hx => by
    simp only [lensOK, Bool.and_eq_true, decide_eq_true_eq] at h
    simp only [List.mem_singleton] at hx
    subst hx; exact h.1
  | p :: q :: r, h, x, hx => by
    simp only [lensOK, Bool.and_eq_true, beq_iff_eq] at h
    simp only [List.mem_cons] at hx
    rcases hx with rfl | hx
    · omega
    · exact pos_of_lensOK hpl (q :: r) h.2 x (by simpa using hx)

theorem verifyBits_all (H : List Nat → Nat) (st : Store) : ∀ (ps : List Piece),
    (∀ p ∈ ps, fits st p.secs = true ∧ p.len = secsLen p.secs ∧ 0 < p.len) →
    verifyBits H st ps (ps.map fun p => H (pieceContent st p.secs)) = some (List.replicate ps.length true)
  | [], _ => rfl
  | p :: r, h => by
    obtain ⟨hfit, hlen, hpos⟩ := h p (by simp)
    have hr := readAt_spec st p.secs 0 p.len hfit hpos (by omega)
    have hfull : ((pieceContent st p.secs).drop 0).take p.len = pieceContent st p.secs := by
      rw [List.drop_zero, hlen, ← length_pieceContent st p.secs, List.take_length]
    rw [hfull] at hr
    simp only [verifyBits, List.map_cons, hr, List.tail_cons, List.head?_cons,
      verifyBits_all H st r (fun x hx => h x (by simp [hx]))]
    simp [List.replicate_succ]

end Rain.Geometry
