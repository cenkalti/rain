import RainModel.Lemmas.LoopFrameWork
/-!
What the commands and the allocator's run write.
-/
namespace Rain.Loop
open Fld

structure Fr_startCore (s s' : St) : Prop where
  cfg : s'.cfg = s.cfg
  info : s'.info = s.info
  infoAtAdd : s'.infoAtAdd = s.infoAtAdd
  completed : s'.completed = s.completed
  completeCClosed : s'.completeCClosed = s.completeCClosed
  doVerify : s'.doVerify = s.doVerify
  loaded : s'.loaded = s.loaded
  gen : s'.gen = s.gen
  openFiles : s'.openFiles = s.openFiles
  leaked : s'.leaked = s.leaked
  bf : s'.bf = s.bf
  done : s'.done = s.done
  writing : s'.writing = s.writing
  wflag : s'.wflag = s.wflag
  fileExists : s'.fileExists = s.fileExists
  known : s'.known = s.known
  bad : s'.bad = s.bad
  peers : s'.peers = s.peers
  dls : s'.dls = s.dls
  idls : s'.idls = s.idls
  isize : s'.isize = s.isize
  maxMeta : s'.maxMeta = s.maxMeta
  parMeta : s'.parMeta = s.parMeta
  metaDone : s'.metaDone = s.metaDone
  unchoked : s'.unchoked = s.unchoked
  optimistic : s'.optimistic = s.optimistic
  nUnchoke : s'.nUnchoke = s.nUnchoke
  nOptimistic : s'.nOptimistic = s.nOptimistic
  stopHang : s'.stopHang = s.stopHang
  dials : s'.dials = s.dials
  banned : s'.banned = s.banned
  gateOpen : s'.gateOpen = s.gateOpen
  gateWrite : s'.gateWrite = s.gateWrite
  gateRead : s'.gateRead = s.gateRead
  failWrite : s'.failWrite = s.failWrite
  failOpen : s'.failOpen = s.failOpen
  failAt : s'.failAt = s.failAt
  gateWriteDone : s'.gateWriteDone = s.gateWriteDone
  sto : s'.sto = s.sto
  closedDl : s'.closedDl = s.closedDl
  persisted : s'.persisted = s.persisted
  tainted : s'.tainted = s.tainted
@[frame] theorem startCore_writes (m : M) :
    Writes [errC, stopAnn, allocator, verifier, lastErr, acceptor, mayStartI, panicked, mayStart]
    m.1 (startCore m).1 :=
  .intro (by unfold startCore; frame)
theorem startCore_frame (m : M) : Fr_startCore m.1 (startCore m).1 :=
  have h := startCore_writes m
  ⟨h.cfg, h.info, h.infoAtAdd, h.completed, h.completeCClosed, h.doVerify, h.loaded, h.gen, h.openFiles,
   h.leaked, h.bf, h.done, h.writing, h.wflag, h.fileExists, h.known, h.bad, h.peers, h.dls, h.idls, h.isize,
   h.maxMeta, h.parMeta, h.metaDone, h.unchoked, h.optimistic, h.nUnchoke, h.nOptimistic, h.stopHang, h.dials,
   h.banned, h.gateOpen, h.gateWrite, h.gateRead, h.failWrite, h.failOpen, h.failAt, h.gateWriteDone, h.sto,
   h.closedDl, h.persisted, h.tainted⟩
@[simp] theorem startCore_n (m : M) : (startCore m).1.n = m.1.n := (startCore_writes m).n
@[simp] theorem startCore_diskOKi (m : M) (i : Nat) : (startCore m).1.diskOKi i = m.1.diskOKi i := (startCore_writes m).diskOKi i
@[simp] theorem startCore_diskOK (m : M) : (startCore m).1.diskOK = m.1.diskOK := (startCore_writes m).diskOK
@[simp] theorem startCore_findPeer (m : M) (k' : Nat) : (startCore m).1.findPeer k' = m.1.findPeer k' := (startCore_writes m).findPeer k'
@[simp] theorem startCore_findDl (m : M) (k' : Nat) : (startCore m).1.findDl k' = m.1.findDl k' := (startCore_writes m).findDl k'

structure Fr_handleStopped (s s' : St) : Prop where
  cfg : s'.cfg = s.cfg
  info : s'.info = s.info
  infoAtAdd : s'.infoAtAdd = s.infoAtAdd
  completed : s'.completed = s.completed
  completeCClosed : s'.completeCClosed = s.completeCClosed
  doVerify : s'.doVerify = s.doVerify
  loaded : s'.loaded = s.loaded
  gen : s'.gen = s.gen
  openFiles : s'.openFiles = s.openFiles
  leaked : s'.leaked = s.leaked
  done : s'.done = s.done
  writing : s'.writing = s.writing
  wflag : s'.wflag = s.wflag
  fileExists : s'.fileExists = s.fileExists
  known : s'.known = s.known
  bad : s'.bad = s.bad
  peers : s'.peers = s.peers
  dls : s'.dls = s.dls
  idls : s'.idls = s.idls
  isize : s'.isize = s.isize
  maxMeta : s'.maxMeta = s.maxMeta
  parMeta : s'.parMeta = s.parMeta
  metaDone : s'.metaDone = s.metaDone
  unchoked : s'.unchoked = s.unchoked
  optimistic : s'.optimistic = s.optimistic
  nUnchoke : s'.nUnchoke = s.nUnchoke
  nOptimistic : s'.nOptimistic = s.nOptimistic
  stopHang : s'.stopHang = s.stopHang
  dials : s'.dials = s.dials
  banned : s'.banned = s.banned
  gateOpen : s'.gateOpen = s.gateOpen
  gateWrite : s'.gateWrite = s.gateWrite
  gateRead : s'.gateRead = s.gateRead
  failWrite : s'.failWrite = s.failWrite
  failOpen : s'.failOpen = s.failOpen
  failAt : s'.failAt = s.failAt
  gateWriteDone : s'.gateWriteDone = s.gateWriteDone
  sto : s'.sto = s.sto
  closedDl : s'.closedDl = s.closedDl
  persisted : s'.persisted = s.persisted
  tainted : s'.tainted = s.tainted
@[frame] theorem handleStopped_writes (m : M) :
    Writes [errC, stopAnn, allocator, verifier, lastErr, acceptor, bf, mayStartI, panicked, mayStart]
    m.1 (handleStopped m).1 :=
  .intro (by unfold handleStopped; frame)
theorem handleStopped_frame (m : M) : Fr_handleStopped m.1 (handleStopped m).1 :=
  have h := handleStopped_writes m
  ⟨h.cfg, h.info, h.infoAtAdd, h.completed, h.completeCClosed, h.doVerify, h.loaded, h.gen, h.openFiles,
   h.leaked, h.done, h.writing, h.wflag, h.fileExists, h.known, h.bad, h.peers, h.dls, h.idls, h.isize,
   h.maxMeta, h.parMeta, h.metaDone, h.unchoked, h.optimistic, h.nUnchoke, h.nOptimistic, h.stopHang, h.dials,
   h.banned, h.gateOpen, h.gateWrite, h.gateRead, h.failWrite, h.failOpen, h.failAt, h.gateWriteDone, h.sto,
   h.closedDl, h.persisted, h.tainted⟩
@[simp] theorem handleStopped_writing (m : M) : (handleStopped m).1.writing = m.1.writing := (handleStopped_frame m).writing
@[simp] theorem handleStopped_n (m : M) : (handleStopped m).1.n = m.1.n := (handleStopped_writes m).n
@[simp] theorem handleStopped_diskOKi (m : M) (i : Nat) : (handleStopped m).1.diskOKi i = m.1.diskOKi i := (handleStopped_writes m).diskOKi i
@[simp] theorem handleStopped_diskOK (m : M) : (handleStopped m).1.diskOK = m.1.diskOK := (handleStopped_writes m).diskOK
@[simp] theorem handleStopped_findPeer (m : M) (k' : Nat) : (handleStopped m).1.findPeer k' = m.1.findPeer k' := (handleStopped_writes m).findPeer k'
@[simp] theorem handleStopped_findDl (m : M) (k' : Nat) : (handleStopped m).1.findDl k' = m.1.findDl k' := (handleStopped_writes m).findDl k'

structure Fr_startPre (s s' : St) : Prop where
  cfg : s'.cfg = s.cfg
  info : s'.info = s.info
  infoAtAdd : s'.infoAtAdd = s.infoAtAdd
  completed : s'.completed = s.completed
  completeCClosed : s'.completeCClosed = s.completeCClosed
  doVerify : s'.doVerify = s.doVerify
  loaded : s'.loaded = s.loaded
  gen : s'.gen = s.gen
  openFiles : s'.openFiles = s.openFiles
  leaked : s'.leaked = s.leaked
  done : s'.done = s.done
  writing : s'.writing = s.writing
  wflag : s'.wflag = s.wflag
  fileExists : s'.fileExists = s.fileExists
  known : s'.known = s.known
  bad : s'.bad = s.bad
  peers : s'.peers = s.peers
  dls : s'.dls = s.dls
  idls : s'.idls = s.idls
  isize : s'.isize = s.isize
  maxMeta : s'.maxMeta = s.maxMeta
  parMeta : s'.parMeta = s.parMeta
  metaDone : s'.metaDone = s.metaDone
  unchoked : s'.unchoked = s.unchoked
  optimistic : s'.optimistic = s.optimistic
  nUnchoke : s'.nUnchoke = s.nUnchoke
  nOptimistic : s'.nOptimistic = s.nOptimistic
  dials : s'.dials = s.dials
  banned : s'.banned = s.banned
  gateOpen : s'.gateOpen = s.gateOpen
  gateWrite : s'.gateWrite = s.gateWrite
  gateRead : s'.gateRead = s.gateRead
  failWrite : s'.failWrite = s.failWrite
  failOpen : s'.failOpen = s.failOpen
  failAt : s'.failAt = s.failAt
  gateWriteDone : s'.gateWriteDone = s.gateWriteDone
  sto : s'.sto = s.sto
  closedDl : s'.closedDl = s.closedDl
  persisted : s'.persisted = s.persisted
  tainted : s'.tainted = s.tainted
@[frame] theorem startPre_writes (m : M) :
    Writes [errC, stopAnn, allocator, verifier, lastErr, acceptor, bf, mayStartI, stopHang, panicked, mayStart]
    m.1 (startPre m).1 :=
  .intro (by unfold startPre; frame)
theorem startPre_frame (m : M) : Fr_startPre m.1 (startPre m).1 :=
  have h := startPre_writes m
  ⟨h.cfg, h.info, h.infoAtAdd, h.completed, h.completeCClosed, h.doVerify, h.loaded, h.gen, h.openFiles,
   h.leaked, h.done, h.writing, h.wflag, h.fileExists, h.known, h.bad, h.peers, h.dls, h.idls, h.isize,
   h.maxMeta, h.parMeta, h.metaDone, h.unchoked, h.optimistic, h.nUnchoke, h.nOptimistic, h.dials, h.banned,
   h.gateOpen, h.gateWrite, h.gateRead, h.failWrite, h.failOpen, h.failAt, h.gateWriteDone, h.sto, h.closedDl,
   h.persisted, h.tainted⟩
@[simp] theorem startPre_n (m : M) : (startPre m).1.n = m.1.n := (startPre_writes m).n
@[simp] theorem startPre_diskOKi (m : M) (i : Nat) : (startPre m).1.diskOKi i = m.1.diskOKi i := (startPre_writes m).diskOKi i
@[simp] theorem startPre_diskOK (m : M) : (startPre m).1.diskOK = m.1.diskOK := (startPre_writes m).diskOK
@[simp] theorem startPre_findPeer (m : M) (k' : Nat) : (startPre m).1.findPeer k' = m.1.findPeer k' := (startPre_writes m).findPeer k'
@[simp] theorem startPre_findDl (m : M) (k' : Nat) : (startPre m).1.findDl k' = m.1.findDl k' := (startPre_writes m).findDl k'

structure Fr_startGo (s s' : St) : Prop where
  cfg : s'.cfg = s.cfg
  info : s'.info = s.info
  infoAtAdd : s'.infoAtAdd = s.infoAtAdd
  completed : s'.completed = s.completed
  completeCClosed : s'.completeCClosed = s.completeCClosed
  doVerify : s'.doVerify = s.doVerify
  loaded : s'.loaded = s.loaded
  gen : s'.gen = s.gen
  openFiles : s'.openFiles = s.openFiles
  leaked : s'.leaked = s.leaked
  bf : s'.bf = s.bf
  done : s'.done = s.done
  writing : s'.writing = s.writing
  wflag : s'.wflag = s.wflag
  fileExists : s'.fileExists = s.fileExists
  known : s'.known = s.known
  bad : s'.bad = s.bad
  peers : s'.peers = s.peers
  dls : s'.dls = s.dls
  idls : s'.idls = s.idls
  isize : s'.isize = s.isize
  maxMeta : s'.maxMeta = s.maxMeta
  parMeta : s'.parMeta = s.parMeta
  metaDone : s'.metaDone = s.metaDone
  unchoked : s'.unchoked = s.unchoked
  optimistic : s'.optimistic = s.optimistic
  nUnchoke : s'.nUnchoke = s.nUnchoke
  nOptimistic : s'.nOptimistic = s.nOptimistic
  stopHang : s'.stopHang = s.stopHang
  dials : s'.dials = s.dials
  banned : s'.banned = s.banned
  gateOpen : s'.gateOpen = s.gateOpen
  gateWrite : s'.gateWrite = s.gateWrite
  gateRead : s'.gateRead = s.gateRead
  failWrite : s'.failWrite = s.failWrite
  failOpen : s'.failOpen = s.failOpen
  failAt : s'.failAt = s.failAt
  gateWriteDone : s'.gateWriteDone = s.gateWriteDone
  sto : s'.sto = s.sto
  closedDl : s'.closedDl = s.closedDl
  persisted : s'.persisted = s.persisted
  tainted : s'.tainted = s.tainted
@[frame] theorem startGo_writes (m : M) :
    Writes [errC, stopAnn, allocator, verifier, lastErr, acceptor, mayStartI, panicked, mayStart]
    m.1 (startGo m).1 :=
  .intro (by unfold startGo; frame)
theorem startGo_frame (m : M) : Fr_startGo m.1 (startGo m).1 :=
  have h := startGo_writes m
  ⟨h.cfg, h.info, h.infoAtAdd, h.completed, h.completeCClosed, h.doVerify, h.loaded, h.gen, h.openFiles,
   h.leaked, h.bf, h.done, h.writing, h.wflag, h.fileExists, h.known, h.bad, h.peers, h.dls, h.idls, h.isize,
   h.maxMeta, h.parMeta, h.metaDone, h.unchoked, h.optimistic, h.nUnchoke, h.nOptimistic, h.stopHang, h.dials,
   h.banned, h.gateOpen, h.gateWrite, h.gateRead, h.failWrite, h.failOpen, h.failAt, h.gateWriteDone, h.sto,
   h.closedDl, h.persisted, h.tainted⟩
@[simp] theorem startGo_stopHang (m : M) : (startGo m).1.stopHang = m.1.stopHang := (startGo_frame m).stopHang
@[simp] theorem startGo_n (m : M) : (startGo m).1.n = m.1.n := (startGo_writes m).n
@[simp] theorem startGo_diskOKi (m : M) (i : Nat) : (startGo m).1.diskOKi i = m.1.diskOKi i := (startGo_writes m).diskOKi i
@[simp] theorem startGo_diskOK (m : M) : (startGo m).1.diskOK = m.1.diskOK := (startGo_writes m).diskOK
@[simp] theorem startGo_findPeer (m : M) (k' : Nat) : (startGo m).1.findPeer k' = m.1.findPeer k' := (startGo_writes m).findPeer k'
@[simp] theorem startGo_findDl (m : M) (k' : Nat) : (startGo m).1.findDl k' = m.1.findDl k' := (startGo_writes m).findDl k'

@[frame] theorem start_writes (m : M) :
    Writes [errC, stopAnn, allocator, verifier, lastErr, acceptor, bf, mayStartI, stopHang, panicked, mayStart]
    m.1 (start m).1 :=
  .intro (by rw [start_eq]; frame)
@[simp] theorem start_completeCClosed (m : M) : (start m).1.completeCClosed = m.1.completeCClosed := (start_writes m).completeCClosed
@[simp] theorem start_openFiles (m : M) : (start m).1.openFiles = m.1.openFiles := (start_writes m).openFiles
@[simp] theorem start_done (m : M) : (start m).1.done = m.1.done := (start_writes m).done
@[simp] theorem start_wflag (m : M) : (start m).1.wflag = m.1.wflag := (start_writes m).wflag
@[simp] theorem start_known (m : M) : (start m).1.known = m.1.known := (start_writes m).known
@[simp] theorem start_metaDone (m : M) : (start m).1.metaDone = m.1.metaDone := (start_writes m).metaDone
@[simp] theorem start_unchoked (m : M) : (start m).1.unchoked = m.1.unchoked := (start_writes m).unchoked
@[simp] theorem start_optimistic (m : M) : (start m).1.optimistic = m.1.optimistic := (start_writes m).optimistic
@[simp] theorem start_nUnchoke (m : M) : (start m).1.nUnchoke = m.1.nUnchoke := (start_writes m).nUnchoke
@[simp] theorem start_nOptimistic (m : M) : (start m).1.nOptimistic = m.1.nOptimistic := (start_writes m).nOptimistic
@[simp] theorem start_banned (m : M) : (start m).1.banned = m.1.banned := (start_writes m).banned
@[simp] theorem start_gateOpen (m : M) : (start m).1.gateOpen = m.1.gateOpen := (start_writes m).gateOpen
@[simp] theorem start_gateWrite (m : M) : (start m).1.gateWrite = m.1.gateWrite := (start_writes m).gateWrite
@[simp] theorem start_gateRead (m : M) : (start m).1.gateRead = m.1.gateRead := (start_writes m).gateRead
@[simp] theorem start_failWrite (m : M) : (start m).1.failWrite = m.1.failWrite := (start_writes m).failWrite
@[simp] theorem start_failOpen (m : M) : (start m).1.failOpen = m.1.failOpen := (start_writes m).failOpen
@[simp] theorem start_failAt (m : M) : (start m).1.failAt = m.1.failAt := (start_writes m).failAt
@[simp] theorem start_gateWriteDone (m : M) : (start m).1.gateWriteDone = m.1.gateWriteDone := (start_writes m).gateWriteDone
@[simp] theorem start_sto (m : M) : (start m).1.sto = m.1.sto := (start_writes m).sto
@[simp] theorem start_closedDl (m : M) : (start m).1.closedDl = m.1.closedDl := (start_writes m).closedDl
@[simp] theorem start_tainted (m : M) : (start m).1.tainted = m.1.tainted := (start_writes m).tainted
@[simp] theorem start_n (m : M) : (start m).1.n = m.1.n := (start_writes m).n
@[simp] theorem start_diskOKi (m : M) (i : Nat) : (start m).1.diskOKi i = m.1.diskOKi i := (start_writes m).diskOKi i
@[simp] theorem start_diskOK (m : M) : (start m).1.diskOK = m.1.diskOK := (start_writes m).diskOK
@[simp] theorem start_findPeer (m : M) (k' : Nat) : (start m).1.findPeer k' = m.1.findPeer k' := (start_writes m).findPeer k'
@[simp] theorem start_findDl (m : M) (k' : Nat) : (start m).1.findDl k' = m.1.findDl k' := (start_writes m).findDl k'

structure Fr_handleVerifyCommand (s s' : St) : Prop where
  cfg : s'.cfg = s.cfg
  info : s'.info = s.info
  infoAtAdd : s'.infoAtAdd = s.infoAtAdd
  completed : s'.completed = s.completed
  completeCClosed : s'.completeCClosed = s.completeCClosed
  gen : s'.gen = s.gen
  leaked : s'.leaked = s.leaked
  writing : s'.writing = s.writing
  bad : s'.bad = s.bad
  isize : s'.isize = s.isize
  maxMeta : s'.maxMeta = s.maxMeta
  parMeta : s'.parMeta = s.parMeta
  metaDone : s'.metaDone = s.metaDone
  nUnchoke : s'.nUnchoke = s.nUnchoke
  nOptimistic : s'.nOptimistic = s.nOptimistic
  stopHang : s'.stopHang = s.stopHang
  dials : s'.dials = s.dials
  banned : s'.banned = s.banned
  gateWrite : s'.gateWrite = s.gateWrite
  failWrite : s'.failWrite = s.failWrite
  failOpen : s'.failOpen = s.failOpen
  failAt : s'.failAt = s.failAt
  gateWriteDone : s'.gateWriteDone = s.gateWriteDone
  tainted : s'.tainted = s.tainted
@[frame] theorem handleVerifyCommand_writes (m : M) :
    Writes [errC, stopAnn, allocator, verifier, doVerify, lastErr, loaded, acceptor, openFiles, bf, done,
      wflag, fileExists, known, peers, dls, idls, mayStartI, unchoked, optimistic, panicked, gateOpen,
      gateRead, sto, mayStart, closedDl, persisted]
    m.1 (handleVerifyCommand m).1 :=
  have h : Writes [doVerify] m.1 (onSt m fun s => { s with doVerify := true }).1 := .intro rfl
  handleVerifyCommand_cases (P := fun r => Writes _ m.1 r.1) m
    (fun _ => .mono ((h.trans (w₂ := [bf]) (.onSt (.intro rfl))).trans (startCore_writes _)))
    fun _ => .mono (h.trans (.onSt (stop_writes _ false)))
theorem handleVerifyCommand_frame (m : M) : Fr_handleVerifyCommand m.1 (handleVerifyCommand m).1 :=
  have h := handleVerifyCommand_writes m
  ⟨h.cfg, h.info, h.infoAtAdd, h.completed, h.completeCClosed, h.gen, h.leaked, h.writing, h.bad, h.isize,
   h.maxMeta, h.parMeta, h.metaDone, h.nUnchoke, h.nOptimistic, h.stopHang, h.dials, h.banned, h.gateWrite,
   h.failWrite, h.failOpen, h.failAt, h.gateWriteDone, h.tainted⟩
@[simp] theorem handleVerifyCommand_n (m : M) : (handleVerifyCommand m).1.n = m.1.n := (handleVerifyCommand_writes m).n
@[simp] theorem handleVerifyCommand_diskOKi (m : M) (i : Nat) : (handleVerifyCommand m).1.diskOKi i = m.1.diskOKi i := (handleVerifyCommand_writes m).diskOKi i
@[simp] theorem handleVerifyCommand_diskOK (m : M) : (handleVerifyCommand m).1.diskOK = m.1.diskOK := (handleVerifyCommand_writes m).diskOK

@[frame] theorem allocFailOpen_writes (m : M) : Writes [allocator, fileExists, known, sto] m.1 (allocFailOpen m).1 :=
  .intro rfl
@[simp] theorem allocFailOpen_verifier (m : M) : (allocFailOpen m).1.verifier = m.1.verifier := (allocFailOpen_writes m).verifier
@[simp] theorem allocFailOpen_lastErr (m : M) : (allocFailOpen m).1.lastErr = m.1.lastErr := (allocFailOpen_writes m).lastErr
@[simp] theorem allocFailOpen_acceptor (m : M) : (allocFailOpen m).1.acceptor = m.1.acceptor := (allocFailOpen_writes m).acceptor
@[simp] theorem allocFailOpen_openFiles (m : M) : (allocFailOpen m).1.openFiles = m.1.openFiles := (allocFailOpen_writes m).openFiles
@[simp] theorem allocFailOpen_done (m : M) : (allocFailOpen m).1.done = m.1.done := (allocFailOpen_writes m).done
@[simp] theorem allocFailOpen_wflag (m : M) : (allocFailOpen m).1.wflag = m.1.wflag := (allocFailOpen_writes m).wflag
@[simp] theorem allocFailOpen_mayStartI (m : M) : (allocFailOpen m).1.mayStartI = m.1.mayStartI := (allocFailOpen_writes m).mayStartI
@[simp] theorem allocFailOpen_unchoked (m : M) : (allocFailOpen m).1.unchoked = m.1.unchoked := (allocFailOpen_writes m).unchoked
@[simp] theorem allocFailOpen_optimistic (m : M) : (allocFailOpen m).1.optimistic = m.1.optimistic := (allocFailOpen_writes m).optimistic
@[simp] theorem allocFailOpen_gateOpen (m : M) : (allocFailOpen m).1.gateOpen = m.1.gateOpen := (allocFailOpen_writes m).gateOpen
@[simp] theorem allocFailOpen_gateRead (m : M) : (allocFailOpen m).1.gateRead = m.1.gateRead := (allocFailOpen_writes m).gateRead
@[simp] theorem allocFailOpen_mayStart (m : M) : (allocFailOpen m).1.mayStart = m.1.mayStart := (allocFailOpen_writes m).mayStart
@[simp] theorem allocFailOpen_closedDl (m : M) : (allocFailOpen m).1.closedDl = m.1.closedDl := (allocFailOpen_writes m).closedDl
@[simp] theorem allocFailOpen_n (m : M) : (allocFailOpen m).1.n = m.1.n := (allocFailOpen_writes m).n
@[simp] theorem allocFailOpen_diskOKi (m : M) (i : Nat) : (allocFailOpen m).1.diskOKi i = m.1.diskOKi i := (allocFailOpen_writes m).diskOKi i
@[simp] theorem allocFailOpen_diskOK (m : M) : (allocFailOpen m).1.diskOK = m.1.diskOK := (allocFailOpen_writes m).diskOK
@[simp] theorem allocFailOpen_findPeer (m : M) (k' : Nat) : (allocFailOpen m).1.findPeer k' = m.1.findPeer k' := (allocFailOpen_writes m).findPeer k'
@[simp] theorem allocFailOpen_findDl (m : M) (k' : Nat) : (allocFailOpen m).1.findDl k' = m.1.findDl k' := (allocFailOpen_writes m).findDl k'

@[frame] theorem allocOkOpen_writes (m : M) : Writes [fileExists, known, sto] m.1 (allocOkOpen m).1 :=
  .intro rfl
@[simp] theorem allocOkOpen_infoAtAdd (m : M) : (allocOkOpen m).1.infoAtAdd = m.1.infoAtAdd := (allocOkOpen_writes m).infoAtAdd
@[simp] theorem allocOkOpen_lastErr (m : M) : (allocOkOpen m).1.lastErr = m.1.lastErr := (allocOkOpen_writes m).lastErr
@[simp] theorem allocOkOpen_acceptor (m : M) : (allocOkOpen m).1.acceptor = m.1.acceptor := (allocOkOpen_writes m).acceptor
@[simp] theorem allocOkOpen_openFiles (m : M) : (allocOkOpen m).1.openFiles = m.1.openFiles := (allocOkOpen_writes m).openFiles
@[simp] theorem allocOkOpen_leaked (m : M) : (allocOkOpen m).1.leaked = m.1.leaked := (allocOkOpen_writes m).leaked
@[simp] theorem allocOkOpen_done (m : M) : (allocOkOpen m).1.done = m.1.done := (allocOkOpen_writes m).done
@[simp] theorem allocOkOpen_wflag (m : M) : (allocOkOpen m).1.wflag = m.1.wflag := (allocOkOpen_writes m).wflag
@[simp] theorem allocOkOpen_idls (m : M) : (allocOkOpen m).1.idls = m.1.idls := (allocOkOpen_writes m).idls
@[simp] theorem allocOkOpen_isize (m : M) : (allocOkOpen m).1.isize = m.1.isize := (allocOkOpen_writes m).isize
@[simp] theorem allocOkOpen_maxMeta (m : M) : (allocOkOpen m).1.maxMeta = m.1.maxMeta := (allocOkOpen_writes m).maxMeta
@[simp] theorem allocOkOpen_parMeta (m : M) : (allocOkOpen m).1.parMeta = m.1.parMeta := (allocOkOpen_writes m).parMeta
@[simp] theorem allocOkOpen_mayStartI (m : M) : (allocOkOpen m).1.mayStartI = m.1.mayStartI := (allocOkOpen_writes m).mayStartI
@[simp] theorem allocOkOpen_metaDone (m : M) : (allocOkOpen m).1.metaDone = m.1.metaDone := (allocOkOpen_writes m).metaDone
@[simp] theorem allocOkOpen_unchoked (m : M) : (allocOkOpen m).1.unchoked = m.1.unchoked := (allocOkOpen_writes m).unchoked
@[simp] theorem allocOkOpen_optimistic (m : M) : (allocOkOpen m).1.optimistic = m.1.optimistic := (allocOkOpen_writes m).optimistic
@[simp] theorem allocOkOpen_nUnchoke (m : M) : (allocOkOpen m).1.nUnchoke = m.1.nUnchoke := (allocOkOpen_writes m).nUnchoke
@[simp] theorem allocOkOpen_nOptimistic (m : M) : (allocOkOpen m).1.nOptimistic = m.1.nOptimistic := (allocOkOpen_writes m).nOptimistic
@[simp] theorem allocOkOpen_stopHang (m : M) : (allocOkOpen m).1.stopHang = m.1.stopHang := (allocOkOpen_writes m).stopHang
@[simp] theorem allocOkOpen_dials (m : M) : (allocOkOpen m).1.dials = m.1.dials := (allocOkOpen_writes m).dials
@[simp] theorem allocOkOpen_banned (m : M) : (allocOkOpen m).1.banned = m.1.banned := (allocOkOpen_writes m).banned
@[simp] theorem allocOkOpen_gateOpen (m : M) : (allocOkOpen m).1.gateOpen = m.1.gateOpen := (allocOkOpen_writes m).gateOpen
@[simp] theorem allocOkOpen_gateWrite (m : M) : (allocOkOpen m).1.gateWrite = m.1.gateWrite := (allocOkOpen_writes m).gateWrite
@[simp] theorem allocOkOpen_gateRead (m : M) : (allocOkOpen m).1.gateRead = m.1.gateRead := (allocOkOpen_writes m).gateRead
@[simp] theorem allocOkOpen_failWrite (m : M) : (allocOkOpen m).1.failWrite = m.1.failWrite := (allocOkOpen_writes m).failWrite
@[simp] theorem allocOkOpen_failOpen (m : M) : (allocOkOpen m).1.failOpen = m.1.failOpen := (allocOkOpen_writes m).failOpen
@[simp] theorem allocOkOpen_failAt (m : M) : (allocOkOpen m).1.failAt = m.1.failAt := (allocOkOpen_writes m).failAt
@[simp] theorem allocOkOpen_gateWriteDone (m : M) : (allocOkOpen m).1.gateWriteDone = m.1.gateWriteDone := (allocOkOpen_writes m).gateWriteDone
@[simp] theorem allocOkOpen_mayStart (m : M) : (allocOkOpen m).1.mayStart = m.1.mayStart := (allocOkOpen_writes m).mayStart
@[simp] theorem allocOkOpen_closedDl (m : M) : (allocOkOpen m).1.closedDl = m.1.closedDl := (allocOkOpen_writes m).closedDl
@[simp] theorem allocOkOpen_tainted (m : M) : (allocOkOpen m).1.tainted = m.1.tainted := (allocOkOpen_writes m).tainted
@[simp] theorem allocOkOpen_status (m : M) : (allocOkOpen m).1.status = m.1.status := (allocOkOpen_writes m).status
@[simp] theorem allocOkOpen_n (m : M) : (allocOkOpen m).1.n = m.1.n := (allocOkOpen_writes m).n
@[simp] theorem allocOkOpen_diskOKi (m : M) (i : Nat) : (allocOkOpen m).1.diskOKi i = m.1.diskOKi i := (allocOkOpen_writes m).diskOKi i
@[simp] theorem allocOkOpen_diskOK (m : M) : (allocOkOpen m).1.diskOK = m.1.diskOK := (allocOkOpen_writes m).diskOK
@[simp] theorem allocOkOpen_findPeer (m : M) (k' : Nat) : (allocOkOpen m).1.findPeer k' = m.1.findPeer k' := (allocOkOpen_writes m).findPeer k'
@[simp] theorem allocOkOpen_findDl (m : M) (k' : Nat) : (allocOkOpen m).1.findDl k' = m.1.findDl k' := (allocOkOpen_writes m).findDl k'

@[frame] theorem allocFail_writes (m : M) :
    Writes [stopAnn, allocator, verifier, doVerify, lastErr, loaded, acceptor, openFiles, bf, done, wflag,
      fileExists, known, peers, dls, idls, mayStartI, unchoked, optimistic, panicked, gateOpen, gateRead, sto,
      mayStart, closedDl, persisted]
    m.1 (allocFail m).1 :=
  .intro (by unfold allocFail; frame)
@[simp] theorem allocFail_info (m : M) : (allocFail m).1.info = m.1.info := (allocFail_writes m).info
@[simp] theorem allocFail_infoAtAdd (m : M) : (allocFail m).1.infoAtAdd = m.1.infoAtAdd := (allocFail_writes m).infoAtAdd
@[simp] theorem allocFail_errC (m : M) : (allocFail m).1.errC = m.1.errC := (allocFail_writes m).errC
@[simp] theorem allocFail_completed (m : M) : (allocFail m).1.completed = m.1.completed := (allocFail_writes m).completed
@[simp] theorem allocFail_completeCClosed (m : M) : (allocFail m).1.completeCClosed = m.1.completeCClosed := (allocFail_writes m).completeCClosed
@[simp] theorem allocFail_gen (m : M) : (allocFail m).1.gen = m.1.gen := (allocFail_writes m).gen
@[simp] theorem allocFail_leaked (m : M) : (allocFail m).1.leaked = m.1.leaked := (allocFail_writes m).leaked
@[simp] theorem allocFail_writing (m : M) : (allocFail m).1.writing = m.1.writing := (allocFail_writes m).writing
@[simp] theorem allocFail_isize (m : M) : (allocFail m).1.isize = m.1.isize := (allocFail_writes m).isize
@[simp] theorem allocFail_maxMeta (m : M) : (allocFail m).1.maxMeta = m.1.maxMeta := (allocFail_writes m).maxMeta
@[simp] theorem allocFail_parMeta (m : M) : (allocFail m).1.parMeta = m.1.parMeta := (allocFail_writes m).parMeta
@[simp] theorem allocFail_metaDone (m : M) : (allocFail m).1.metaDone = m.1.metaDone := (allocFail_writes m).metaDone
@[simp] theorem allocFail_nUnchoke (m : M) : (allocFail m).1.nUnchoke = m.1.nUnchoke := (allocFail_writes m).nUnchoke
@[simp] theorem allocFail_nOptimistic (m : M) : (allocFail m).1.nOptimistic = m.1.nOptimistic := (allocFail_writes m).nOptimistic
@[simp] theorem allocFail_stopHang (m : M) : (allocFail m).1.stopHang = m.1.stopHang := (allocFail_writes m).stopHang
@[simp] theorem allocFail_dials (m : M) : (allocFail m).1.dials = m.1.dials := (allocFail_writes m).dials
@[simp] theorem allocFail_banned (m : M) : (allocFail m).1.banned = m.1.banned := (allocFail_writes m).banned
@[simp] theorem allocFail_gateWrite (m : M) : (allocFail m).1.gateWrite = m.1.gateWrite := (allocFail_writes m).gateWrite
@[simp] theorem allocFail_failWrite (m : M) : (allocFail m).1.failWrite = m.1.failWrite := (allocFail_writes m).failWrite
@[simp] theorem allocFail_failOpen (m : M) : (allocFail m).1.failOpen = m.1.failOpen := (allocFail_writes m).failOpen
@[simp] theorem allocFail_failAt (m : M) : (allocFail m).1.failAt = m.1.failAt := (allocFail_writes m).failAt
@[simp] theorem allocFail_gateWriteDone (m : M) : (allocFail m).1.gateWriteDone = m.1.gateWriteDone := (allocFail_writes m).gateWriteDone
@[simp] theorem allocFail_tainted (m : M) : (allocFail m).1.tainted = m.1.tainted := (allocFail_writes m).tainted
@[simp] theorem allocFail_n (m : M) : (allocFail m).1.n = m.1.n := (allocFail_writes m).n
@[simp] theorem allocFail_diskOKi (m : M) (i : Nat) : (allocFail m).1.diskOKi i = m.1.diskOKi i := (allocFail_writes m).diskOKi i
@[simp] theorem allocFail_diskOK (m : M) : (allocFail m).1.diskOK = m.1.diskOK := (allocFail_writes m).diskOK

structure Fr_allocatorRun (s s' : St) : Prop where
  cfg : s'.cfg = s.cfg
  info : s'.info = s.info
  infoAtAdd : s'.infoAtAdd = s.infoAtAdd
  errC : s'.errC = s.errC
  leaked : s'.leaked = s.leaked
  bad : s'.bad = s.bad
  isize : s'.isize = s.isize
  maxMeta : s'.maxMeta = s.maxMeta
  parMeta : s'.parMeta = s.parMeta
  metaDone : s'.metaDone = s.metaDone
  nUnchoke : s'.nUnchoke = s.nUnchoke
  nOptimistic : s'.nOptimistic = s.nOptimistic
  stopHang : s'.stopHang = s.stopHang
  dials : s'.dials = s.dials
  banned : s'.banned = s.banned
  gateWrite : s'.gateWrite = s.gateWrite
  failWrite : s'.failWrite = s.failWrite
  failOpen : s'.failOpen = s.failOpen
  failAt : s'.failAt = s.failAt
  gateWriteDone : s'.gateWriteDone = s.gateWriteDone
  tainted : s'.tainted = s.tainted
@[frame] theorem allocatorRun_writes (m : M) :
    Writes [stopAnn, allocator, verifier, completed, completeCClosed, doVerify, lastErr, loaded, gen, acceptor,
      openFiles, bf, done, writing, wflag, fileExists, known, peers, dls, idls, mayStartI, unchoked,
      optimistic, panicked, gateOpen, gateRead, sto, mayStart, closedDl, persisted]
    m.1 (allocatorRun m).1 :=
  allocatorRun_cases (P := fun r => Writes _ m.1 r.1) m (fun _ => (allocFail_writes m).mono)
    fun _ => .mono ((allocOkOpen_writes m).trans (handleAllocationDone_writes ..))
theorem allocatorRun_frame (m : M) : Fr_allocatorRun m.1 (allocatorRun m).1 :=
  have h := allocatorRun_writes m
  ⟨h.cfg, h.info, h.infoAtAdd, h.errC, h.leaked, h.bad, h.isize, h.maxMeta, h.parMeta, h.metaDone, h.nUnchoke,
   h.nOptimistic, h.stopHang, h.dials, h.banned, h.gateWrite, h.failWrite, h.failOpen, h.failAt,
   h.gateWriteDone, h.tainted⟩
@[simp] theorem allocatorRun_errC (m : M) : (allocatorRun m).1.errC = m.1.errC := (allocatorRun_frame m).errC
@[simp] theorem allocatorRun_nUnchoke (m : M) : (allocatorRun m).1.nUnchoke = m.1.nUnchoke := (allocatorRun_frame m).nUnchoke
@[simp] theorem allocatorRun_nOptimistic (m : M) : (allocatorRun m).1.nOptimistic = m.1.nOptimistic := (allocatorRun_frame m).nOptimistic
@[simp] theorem allocatorRun_banned (m : M) : (allocatorRun m).1.banned = m.1.banned := (allocatorRun_frame m).banned
@[simp] theorem allocatorRun_tainted (m : M) : (allocatorRun m).1.tainted = m.1.tainted := (allocatorRun_frame m).tainted
@[simp] theorem allocatorRun_n (m : M) : (allocatorRun m).1.n = m.1.n := (allocatorRun_writes m).n
@[simp] theorem allocatorRun_diskOKi (m : M) (i : Nat) : (allocatorRun m).1.diskOKi i = m.1.diskOKi i := (allocatorRun_writes m).diskOKi i
@[simp] theorem allocatorRun_diskOK (m : M) : (allocatorRun m).1.diskOK = m.1.diskOK := (allocatorRun_writes m).diskOK

end Rain.Loop
