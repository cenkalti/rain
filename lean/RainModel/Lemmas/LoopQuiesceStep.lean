import RainModel.Lemmas.LoopNoPanicRun
import RainModel.Lemmas.LoopQuiesce
/-!
Quiescence at the level of `step`, `dstep`, `drun`: after every event the chain of worker completions has
ended (`workersQuiet`), i.e. the fuel `12` of `step` never cuts a chain short — for **every** op, gate and
parameter.
-/
namespace Rain.Loop

theorem QInv.afterHandle (s : St) (p : Parked) (kn : Nat → Bool) (op : Op) (h : QInv s) :
    QInv (handle s.opStart p kn op).1.1 :=
  ⟨handle_full _ p kn op h.full.opStart, handle_dv _ p kn op h.dv.of_eq⟩

theorem deliverParked_workersQuiet (m : M) (p : Parked) (h : QInv m.1) (hq : workersQuiet m.1 = true) :
    workersQuiet (deliverParked m p).1.1 = true :=
  deliverParked_inv (P := fun x => workersQuiet x.1 = true) m p hq fun k i b l g hw _ =>
    (runWorkers_quiet 12 _ ⟨handlePieceMessage_full m k i b l g h.full hw, h.dv.of_writes (handlePieceMessage_writes ..)⟩
      (Nat.le_trans (wrank_le _) (by decide))).1

theorem step_quiet (s : St) (p : Parked) (kn : Nat → Bool) (op : Op) (h : QInv s) :
    workersQuiet (step s p kn op).1.st = true := by
  obtain ⟨q2, h2⟩ := runWorkers_quiet 12 (handle s.opStart p kn op).1 (QInv.afterHandle s p kn op h)
    (Nat.le_trans (wrank_le _) (by decide))
  rw [step_st]
  split
  · exact deliverParked_workersQuiet _ _ h2 q2
  · exact q2

theorem workersQuiet_of_writes {w : List Fld} {s s' : St} (W : Writes w s s')
    (hw : ∀ x ∈ [Fld.panicked, .stopAnn, .stopHang, .allocator, .gateOpen, .verifier, .gateRead, .writing,
      .gateWriteDone, .gateWrite], x ∉ w := by decide) : workersQuiet s' = workersQuiet s := by
  simp only [List.forall_mem_cons, List.not_mem_nil, false_imp_iff, implies_true, and_true] at hw
  obtain ⟨w1, w2, w3, w4, w5, w6, w7, w8, w9, w10⟩ := hw
  unfold workersQuiet workersPending
  rw [W.panicked w1, W.stopAnn w2, W.stopHang w3, W.allocator w4, W.gateOpen w5, W.verifier w6, W.gateRead w7,
    W.writing w8, W.gateWriteDone w9, W.gateWrite w10]

theorem dstep_workersQuiet (sp : St × Parked) (e : Ev) :
    workersQuiet (dstep sp e).1 = workersQuiet (step sp.1 sp.2 e.known e.op).1.st :=
  workersQuiet_of_writes ((reconcile_writes ..).trans (reconcileIdl_writes ..))

/-- What the run-level quiescence theorems carry. -/
structure QRun (s : St) : Prop where
  np : NP s
  dv : DV s
  quiet : workersQuiet s = true

theorem QRun.qinv {s : St} (h : QRun s) : QInv s := ⟨h.np.full, h.dv⟩

theorem step_qrun (s : St) (p : Parked) (kn : Nat → Bool) (op : Op) (h : QRun s) : QRun (step s p kn op).1.st :=
  ⟨step_np s p kn op h.np, step_dv s p kn op h.dv, step_quiet s p kn op h.qinv⟩

theorem dstep_qrun (sp : St × Parked) (e : Ev) (h : QRun sp.1) (hs : e.sane sp) : QRun (dstep sp e).1 :=
  ⟨dstep_np sp e h.np hs, dstep_dv sp e h.dv, by
    rw [dstep_workersQuiet]; exact step_quiet sp.1 sp.2 e.known e.op h.qinv⟩

theorem drun_qrun (evs : List Ev) (sp : St × Parked) (h : QRun sp.1) (hs : drunSane sp evs) : QRun (drun sp evs).1 := by
  induction evs generalizing sp with
  | nil => exact h
  | cons e evs ih => exact ih _ (dstep_qrun sp e h hs.1) hs.2

theorem srun_qrun (ops : List (Op × (Nat → Bool))) (sp : St × Parked) (h : QRun sp.1) : QRun (srun sp ops).1 :=
  foldl_inv (fun sp => QRun sp.1) _ (fun sp o => step_qrun sp.1 sp.2 o.2 o.1) ops sp h

theorem InitLike.qrun {s : St} (h : InitLike s) (hp : s.panicked = none) (hw : s.writing = none)
    (hd : s.doVerify = false) : QRun s := by
  refine ⟨h.np hp (noFuture_of_none hw), DV.of_false hd, ?_⟩
  unfold workersQuiet workersPending
  simp [h.stopAnn, h.allocator, h.verifier, hw]

end Rain.Loop
