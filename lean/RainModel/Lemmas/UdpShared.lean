import RainModel.Model.UdpShared
/-!
M-UDPSHARED: the invariant `Inv` of the run loop.  Every message is a composition of a few elementary moves
on the state (a call is added, a call returns, a transaction or a connection comes or goes); `Inv` is proved for
each move once.  `step_spec` is the one pass over the branches of `step`: each branch composes its moves (`Inv`
is kept), and says what it writes (`OutOk`) and what it does to the transaction table (`Keeps`).
-/
namespace Rain.UdpShared

@[simp] theorem upd_same {α : Type} (f : Nat → Option α) (k : Nat) (v : Option α) : upd f k v k = v := by
  simp [upd]

theorem upd_other {α : Type} {f : Nat → Option α} {k : Nat} {v : Option α} {i : Nat} (h : i ≠ k) :
    upd f k v i = f i := by
  simp [upd, h]

theorem upd_keep {α : Type} {f : Nat → Option α} {i k : Nat} {x : α} (h : f i = some x) (hk : f k ≠ some x)
    (v : Option α) : upd f k v i = some x :=
  (upd_other fun (e : i = k) => hk (e ▸ h)).trans h

theorem upd_eq_some {α : Type} {f : Nat → Option α} {k : Nat} {v : Option α} {i : Nat} {x : α} :
    upd f k v i = some x ↔ i = k ∧ v = some x ∨ i ≠ k ∧ f i = some x := by
  by_cases e : i = k <;> simp [upd, e]

theorem upd_none_eq_some {α : Type} {f : Nat → Option α} {k i : Nat} {x : α} :
    upd f k none i = some x ↔ i ≠ k ∧ f i = some x := by
  simp [upd_eq_some]

theorem upd_none_of_none {α : Type} {f : Nat → Option α} {k i : Nat} (h : f i = none) : upd f k none i = none := by
  unfold upd
  split
  · rfl
  · exact h

theorem upd_returned {reqs : Nat → Option Req} {r : Nat} {q' : Req} (hq' : q'.result ≠ none) :
    ∀ q, upd reqs r (some q') r = some q → q.result ≠ none := by
  intro q hq
  rw [upd_same] at hq
  cases hq
  exact hq'

theorem failAll_fst (res : Res) (ws : List Nat) (reqs : Nat → Option Req) (r : Nat) :
    (failAll res ws reqs).1 r =
      match reqs r with
      | some q => if r ∈ ws ∧ q.result = none then some { q with result := some res } else some q
      | none => none := by
  induction ws generalizing reqs with
  | nil => cases h : reqs r <;> simp [failAll, h]
  | cons w ws ih =>
    unfold failAll
    cases hw : reqs w with
    | none =>
      simp only []
      rw [ih]
      cases hr : reqs r with
      | none => rfl
      | some q =>
        have : r ≠ w := by intro e; rw [e, hw] at hr; cases hr
        simp [this]
    | some qw =>
      by_cases hq : qw.result = none
      · simp only [hq, if_true]
        rw [ih]
        by_cases e : r = w
        · subst e
          simp [hw, hq]
        · rw [upd_other e]
          cases hr : reqs r with
          | none => rfl
          | some q => simp [e]
      · simp only [hq, if_false]
        rw [ih]
        cases hr : reqs r with
        | none => rfl
        | some q =>
          by_cases e : r = w
          · subst e
            rw [hw] at hr; cases hr
            simp [hq]
          · simp [e]

theorem failAll_blocked {res : Res} {ws : List Nat} {reqs : Nat → Option Req} {r : Nat} {q : Req}
    (h : (failAll res ws reqs).1 r = some q) (hres : q.result = none) : reqs r = some q ∧ r ∉ ws := by
  rw [failAll_fst] at h
  split at h
  · rename_i q0 h0
    split at h
    · cases h; cases hres
    · rename_i hnot
      cases h
      exact ⟨h0, fun hm => hnot ⟨hm, hres⟩⟩
  · cases h

theorem failAll_dom {res : Res} {ws : List Nat} {reqs : Nat → Option Req} {r : Nat} {q : Req}
    (h : (failAll res ws reqs).1 r = some q) : ∃ q0, reqs r = some q0 := by
  rw [failAll_fst] at h
  split at h
  · rename_i q0 h0
    exact ⟨q0, h0⟩
  · cases h

theorem failAll_outs (res : Res) (ws : List Nat) (reqs : Nat → Option Req) :
    ∀ o ∈ (failAll res ws reqs).2, ∃ w, w ∈ ws ∧ o = Out.deliver w res := by
  induction ws generalizing reqs with
  | nil => simp [failAll]
  | cons w ws ih =>
    have tail : ∀ reqs', ∀ o ∈ (failAll res ws reqs').2, ∃ x, x ∈ w :: ws ∧ o = Out.deliver x res := by
      intro reqs' o ho
      obtain ⟨x, hx, e⟩ := ih reqs' o ho
      exact ⟨x, List.mem_cons_of_mem _ hx, e⟩
    unfold failAll
    split
    · split
      · intro o ho
        rcases List.mem_cons.mp ho with e | ho
        · exact ⟨w, List.mem_cons_self, e⟩
        · exact tail _ o ho
      · exact tail _
    · exact tail _

theorem failAll_emits (res : Res) (ws : List Nat) (reqs : Nat → Option Req) :
    ∀ w ∈ ws, ∀ q, reqs w = some q → q.result = none → Out.deliver w res ∈ (failAll res ws reqs).2 := by
  induction ws generalizing reqs with
  | nil => intro w hw; cases hw
  | cons x ws ih =>
    intro w hw q hq hres
    unfold failAll
    by_cases e : x = w
    · subst e
      simp [hq, hres]
    · have hw' : w ∈ ws := (List.mem_cons.mp hw).resolve_left (Ne.symm e)
      split
      · split
        · exact List.mem_cons_of_mem _ (ih _ w hw' q ((upd_other (Ne.symm e)).trans hq) hres)
        · exact ih reqs w hw' q hq hres
      · exact ih reqs w hw' q hq hres

def liveOf (reqs : Nat → Option Req) (w : Nat) : Bool :=
  match reqs w with
  | some q => !q.cancelled
  | none => false

theorem beginAll_cons (reqs : Nat → Option Req) (w : Nat) (ws : List Nat) (txs : Nat → Option Trx) (n : Nat) :
    beginAll reqs (w :: ws) txs n =
      ((beginAll reqs ws (upd txs n (some ⟨.announce w, liveOf reqs w⟩)) (n + 1)).1,
       (beginAll reqs ws (upd txs n (some ⟨.announce w, liveOf reqs w⟩)) (n + 1)).2.1,
       if liveOf reqs w then Out.send n (.announce w) :: (beginAll reqs ws (upd txs n (some ⟨.announce w, liveOf reqs w⟩)) (n + 1)).2.2
       else (beginAll reqs ws (upd txs n (some ⟨.announce w, liveOf reqs w⟩)) (n + 1)).2.2) := rfl

theorem beginAll_next (reqs : Nat → Option Req) (ws : List Nat) (txs : Nat → Option Trx) (n : Nat) :
    (beginAll reqs ws txs n).2.1 = n + ws.length := by
  induction ws generalizing txs n with
  | nil => rfl
  | cons w ws ih => rw [beginAll_cons, ih, List.length_cons]; omega

theorem beginAll_below (reqs : Nat → Option Req) (ws : List Nat) (txs : Nat → Option Trx) (n i : Nat) (h : i < n) :
    (beginAll reqs ws txs n).1 i = txs i := by
  induction ws generalizing txs n with
  | nil => rfl
  | cons w ws ih => rw [beginAll_cons, ih _ _ (by omega), upd_other (by omega)]

theorem beginAll_some (reqs : Nat → Option Req) (ws : List Nat) (txs : Nat → Option Trx) (n i : Nat) (t : Trx)
    (h : (beginAll reqs ws txs n).1 i = some t) :
    txs i = some t ∨ i < n + ws.length ∧ ∃ w, w ∈ ws ∧ t = ⟨.announce w, liveOf reqs w⟩ := by
  induction ws generalizing txs n with
  | nil => exact Or.inl h
  | cons w ws ih =>
    rw [beginAll_cons] at h
    rw [List.length_cons]
    rcases ih _ _ h with hu | ⟨hi, x, hx, e⟩
    · rcases upd_eq_some.mp hu with ⟨e, hv⟩ | ⟨_, ht⟩
      · cases hv
        exact Or.inr ⟨by omega, w, List.mem_cons_self, rfl⟩
      · exact Or.inl ht
    · exact Or.inr ⟨by omega, x, List.mem_cons_of_mem _ hx, e⟩

theorem beginAll_gets (reqs : Nat → Option Req) (ws : List Nat) (txs : Nat → Option Trx) (n w : Nat) (hw : w ∈ ws) :
    ∃ i, (beginAll reqs ws txs n).1 i = some ⟨.announce w, liveOf reqs w⟩ := by
  induction ws generalizing txs n with
  | nil => cases hw
  | cons x ws ih =>
    rw [beginAll_cons]
    rcases List.mem_cons.mp hw with e | hw
    · subst e
      exact ⟨n, by rw [beginAll_below _ _ _ _ _ (by omega), upd_same]⟩
    · exact ih _ _ hw

theorem beginAll_outs (reqs : Nat → Option Req) (ws : List Nat) (txs : Nat → Option Trx) (n : Nat) :
    ∀ o ∈ (beginAll reqs ws txs n).2.2, ∃ tx k, o = Out.send tx k ∧ n ≤ tx := by
  induction ws generalizing txs n with
  | nil => simp [beginAll]
  | cons w ws ih =>
    have tail : ∀ o ∈ (beginAll reqs ws (upd txs n (some ⟨.announce w, liveOf reqs w⟩)) (n + 1)).2.2,
        ∃ tx k, o = Out.send tx k ∧ n ≤ tx := by
      intro o ho
      obtain ⟨tx, k, e, h⟩ := ih _ _ o ho
      exact ⟨tx, k, e, by omega⟩
    rw [beginAll_cons]
    intro o ho
    split at ho
    · rcases List.mem_cons.mp ho with e | ho
      · exact ⟨n, _, e, Nat.le_refl _⟩
      · exact tail o ho
    · exact tail o ho

theorem killAnnounce_cases (r : Nat) (txs : Nat → Option Trx) (i : Nat) :
    killAnnounce r txs i = txs i ∨
      ∃ a, txs i = some ⟨.announce r, a⟩ ∧ killAnnounce r txs i = some ⟨.announce r, false⟩ := by
  unfold killAnnounce
  cases h : txs i with
  | none => exact Or.inl rfl
  | some t =>
    obtain ⟨k, a⟩ := t
    cases k with
    | connect d => exact Or.inl rfl
    | announce r' =>
      by_cases e : r' = r
      · subst e; exact Or.inr ⟨a, rfl, by simp⟩
      · exact Or.inl (by simp [e])

theorem killAnnounce_none (r : Nat) (txs : Nat → Option Trx) (i : Nat) :
    killAnnounce r txs i = none ↔ txs i = none := by
  rcases killAnnounce_cases r txs i with h | ⟨a, h1, h2⟩ <;> simp [*]

theorem killAnnounce_connect {r : Nat} {txs : Nat → Option Trx} {i d : Nat} {a : Bool} :
    killAnnounce r txs i = some ⟨.connect d, a⟩ ↔ txs i = some ⟨.connect d, a⟩ := by
  rcases killAnnounce_cases r txs i with h | ⟨a', h1, h2⟩ <;> simp [*]

theorem killAnnounce_announce_other {r : Nat} {txs : Nat → Option Trx} {i r' : Nat} {a : Bool} (hne : r' ≠ r) :
    killAnnounce r txs i = some ⟨.announce r', a⟩ ↔ txs i = some ⟨.announce r', a⟩ := by
  rcases killAnnounce_cases r txs i with h | ⟨a', h1, h2⟩ <;> simp [*, Ne.symm hne]

structure Inv (s : State) : Prop where
  /-- transaction ids are below the counter (the implementation: ids in the table are distinct) -/
  tx_lt : ∀ tx t, s.txs tx = some t → tx < s.nextTx
  /-- a connecting connection has its connect transaction in the table, retransmitting -/
  conn_tx : ∀ d tx o ws, s.conns d = some (.connecting tx o ws) → s.txs tx = some ⟨.connect d, true⟩
  /-- a connect transaction in the table belongs to a connecting connection -/
  tx_conn : ∀ tx d a, s.txs tx = some ⟨.connect d, a⟩ → ∃ o ws, s.conns d = some (.connecting tx o ws)
  /-- a call that still blocks has not been cancelled by its caller -/
  canc : ∀ r q, s.reqs r = some q → q.result = none → q.cancelled = false
  /-- **no orphan**: a call that still blocks either has a retransmitting announce transaction in the
  table or waits in the list of a connecting connection of its destination -/
  no_orphan : ∀ r q, s.reqs r = some q → q.result = none →
    (∃ tx, s.txs tx = some ⟨.announce r, true⟩) ∨
    (∃ tx o ws, s.conns q.dest = some (.connecting tx o ws) ∧ r ∈ ws)
  /-- every call is listed -/
  ids_all : ∀ r q, s.reqs r = some q → r ∈ s.ids

theorem inv_init : Inv State.init := by
  constructor <;> intros <;> simp_all [State.init]

/-! ### The elementary moves -/

variable {s : State}

theorem Inv.upd_fresh (h : Inv s) {tx : Nat} {t : Trx} (ht : s.txs tx = some t) (v : Option Trx) :
    upd s.txs s.nextTx v tx = some t :=
  upd_keep ht (fun e => Nat.lt_irrefl _ (h.tx_lt _ _ e)) v

theorem Inv.tx_lt_fresh (h : Inv s) (v : Option Trx) (tx : Nat) (t : Trx)
    (ht : upd s.txs s.nextTx v tx = some t) : tx < s.nextTx + 1 := by
  rcases upd_eq_some.mp ht with ⟨e, _⟩ | ⟨_, ht⟩
  · omega
  · exact Nat.lt_succ_of_lt (h.tx_lt _ _ ht)

theorem Inv.addTx (h : Inv s) (r : Nat) (a : Bool) :
    Inv { s with txs := upd s.txs s.nextTx (some ⟨.announce r, a⟩), nextTx := s.nextTx + 1 } := by
  refine ⟨h.tx_lt_fresh _, ?_, ?_, h.canc, ?_, h.ids_all⟩
  · intro d tx o ws hc
    exact h.upd_fresh (h.conn_tx _ _ _ _ hc) _
  · intro tx d a' ht
    rcases upd_eq_some.mp ht with ⟨_, hv⟩ | ⟨_, ht⟩
    · cases hv
    · exact h.tx_conn _ _ _ ht
  · intro r' q hq hres
    rcases h.no_orphan _ _ hq hres with ⟨tx, ht⟩ | hc
    · exact Or.inl ⟨tx, h.upd_fresh ht _⟩
    · exact Or.inr hc

/-- A destination without connection starts to connect under the context of call `o`. -/
theorem Inv.openConn (h : Inv s) {d : Nat} (hd : s.conns d = none) (o : Nat) :
    Inv { s with conns := upd s.conns d (some (.connecting s.nextTx o [o])),
                 txs := upd s.txs s.nextTx (some ⟨.connect d, true⟩), nextTx := s.nextTx + 1 } := by
  refine ⟨h.tx_lt_fresh _, ?_, ?_, h.canc, ?_, h.ids_all⟩
  · intro d' tx o' ws hc
    rcases upd_eq_some.mp hc with ⟨e, hv⟩ | ⟨_, hc⟩
    · cases hv; subst e; exact upd_same ..
    · exact h.upd_fresh (h.conn_tx _ _ _ _ hc) _
  · intro tx d' a ht
    rcases upd_eq_some.mp ht with ⟨e, hv⟩ | ⟨_, ht⟩
    · cases hv; subst e; exact ⟨o, [o], upd_same ..⟩
    · obtain ⟨o', ws, hc⟩ := h.tx_conn _ _ _ ht
      exact ⟨o', ws, upd_keep hc (by rw [hd]; nofun) _⟩
  · intro r' q hq hres
    rcases h.no_orphan _ _ hq hres with ⟨tx, ht⟩ | ⟨tx, o', ws, hc, hm⟩
    · exact Or.inl ⟨tx, h.upd_fresh ht _⟩
    · exact Or.inr ⟨tx, o', ws, upd_keep hc (by rw [hd]; nofun) _, hm⟩

theorem Inv.joinConn (h : Inv s) {d tx o : Nat} {ws : List Nat} (hd : s.conns d = some (.connecting tx o ws))
    (r : Nat) : Inv { s with conns := upd s.conns d (some (.connecting tx o (ws ++ [r]))) } := by
  refine ⟨h.tx_lt, ?_, ?_, h.canc, ?_, h.ids_all⟩
  · intro d' tx' o' ws' hc
    rcases upd_eq_some.mp hc with ⟨e, hv⟩ | ⟨_, hc⟩
    · cases hv; subst e; exact h.conn_tx _ _ _ _ hd
    · exact h.conn_tx _ _ _ _ hc
  · intro tx' d' a ht
    obtain ⟨o', ws', hc⟩ := h.tx_conn _ _ _ ht
    by_cases e : d' = d
    · subst e; rw [hd] at hc; cases hc
      exact ⟨o, ws ++ [r], upd_same ..⟩
    · exact ⟨o', ws', (upd_other e).trans hc⟩
  · intro r' q hq hres
    rcases h.no_orphan _ _ hq hres with hx | ⟨tx', o', ws', hc, hm⟩
    · exact Or.inl hx
    · by_cases e : q.dest = d
      · rw [e, hd] at hc; cases hc
        exact Or.inr ⟨tx, o, ws ++ [r], by rw [e]; exact upd_same .., List.mem_append_left _ hm⟩
      · exact Or.inr ⟨tx', o', ws', (upd_other e).trans hc, hm⟩

/-- A call is added; if it blocks, somebody already works on its answer. -/
theorem Inv.addReq (h : Inv s) (r d : Nat) (res : Option Res)
    (hw : res = none → (∃ tx, s.txs tx = some ⟨.announce r, true⟩) ∨
      ∃ tx o ws, s.conns d = some (.connecting tx o ws) ∧ r ∈ ws) :
    Inv { s with reqs := upd s.reqs r (some ⟨d, false, res⟩), ids := s.ids ++ [r] } := by
  refine ⟨h.tx_lt, h.conn_tx, h.tx_conn, ?_, ?_, ?_⟩
  · intro r' q hq hres
    rcases upd_eq_some.mp hq with ⟨_, hv⟩ | ⟨_, hq⟩
    · cases hv; rfl
    · exact h.canc _ _ hq hres
  · intro r' q hq hres
    rcases upd_eq_some.mp hq with ⟨e, hv⟩ | ⟨_, hq⟩
    · cases hv; subst e; exact hw hres
    · exact h.no_orphan _ _ hq hres
  · intro r' q hq
    rcases upd_eq_some.mp hq with ⟨e, _⟩ | ⟨_, hq⟩
    · subst e; exact List.mem_append_right _ (List.mem_singleton_self _)
    · exact List.mem_append_left _ (h.ids_all _ _ hq)

theorem Inv.settle (h : Inv s) {r : Nat} {q : Req} (hr : s.reqs r = some q) (q' : Req) (hq' : q'.result ≠ none) :
    Inv { s with reqs := upd s.reqs r (some q') } := by
  have blocked : ∀ {r' q''}, upd s.reqs r (some q') r' = some q'' → q''.result = none → s.reqs r' = some q'' := by
    intro r' q'' hh hres
    rcases upd_eq_some.mp hh with ⟨_, hv⟩ | ⟨_, hh⟩
    · cases hv; exact absurd hres hq'
    · exact hh
  refine ⟨h.tx_lt, h.conn_tx, h.tx_conn, ?_, ?_, ?_⟩
  · intro r' q'' hh hres
    exact h.canc _ _ (blocked hh hres) hres
  · intro r' q'' hh hres
    exact h.no_orphan _ _ (blocked hh hres) hres
  · intro r' q'' hh
    rcases upd_eq_some.mp hh with ⟨e, _⟩ | ⟨_, hh⟩
    · subst e; exact h.ids_all _ _ hr
    · exact h.ids_all _ _ hh

theorem Inv.silence (h : Inv s) {r : Nat} (hr : ∀ q, s.reqs r = some q → q.result ≠ none) :
    Inv { s with txs := killAnnounce r s.txs } := by
  refine ⟨?_, ?_, ?_, h.canc, ?_, h.ids_all⟩
  · intro tx t ht
    rcases killAnnounce_cases r s.txs tx with e | ⟨a, e, _⟩
    · exact h.tx_lt _ _ (e.symm.trans ht)
    · exact h.tx_lt _ _ e
  · intro d tx o ws hc
    exact killAnnounce_connect.mpr (h.conn_tx _ _ _ _ hc)
  · intro tx d a ht
    exact h.tx_conn _ _ _ (killAnnounce_connect.mp ht)
  · intro r' q hq hres
    have e : r' ≠ r := fun e => hr q (e ▸ hq) hres
    rcases h.no_orphan _ _ hq hres with ⟨tx, ht⟩ | hc
    · exact Or.inl ⟨tx, (killAnnounce_announce_other e).mpr ht⟩
    · exact Or.inr hc

theorem Inv.dropTx (h : Inv s) {tx r : Nat} {a : Bool} (ht : s.txs tx = some ⟨.announce r, a⟩)
    (hr : ∀ q, s.reqs r = some q → q.result ≠ none) : Inv { s with txs := upd s.txs tx none } := by
  have keep : ∀ {tx' t}, s.txs tx' = some t → t.kind ≠ .announce r → upd s.txs tx none tx' = some t := by
    intro tx' t hx hk
    exact upd_keep hx (by rw [ht]; intro e; cases e; exact hk rfl) _
  refine ⟨?_, ?_, ?_, h.canc, ?_, h.ids_all⟩
  · intro tx' t hh
    exact h.tx_lt _ _ (upd_none_eq_some.mp hh).2
  · intro d tx' o ws hc
    exact keep (h.conn_tx _ _ _ _ hc) nofun
  · intro tx' d a' hh
    exact h.tx_conn _ _ _ (upd_none_eq_some.mp hh).2
  · intro r' q hq hres
    have e : r' ≠ r := fun e => hr q (e ▸ hq) hres
    rcases h.no_orphan _ _ hq hres with ⟨tx', hx⟩ | hc
    · exact Or.inl ⟨tx', keep hx (fun e2 => e (Kind.announce.inj e2))⟩
    · exact Or.inr hc

/-- A connect ends without a connection id: every call waiting for it returns `res`. -/
theorem Inv.dropConn (h : Inv s) {d tx o : Nat} {ws : List Nat} (hd : s.conns d = some (.connecting tx o ws))
    (res : Res) :
    Inv { s with reqs := (failAll res ws s.reqs).1, txs := upd s.txs tx none, conns := upd s.conns d none } := by
  have htx := h.conn_tx _ _ _ _ hd
  refine ⟨?_, ?_, ?_, ?_, ?_, ?_⟩
  · intro tx' t hh
    exact h.tx_lt _ _ (upd_none_eq_some.mp hh).2
  · intro d' tx' o' ws' hc
    obtain ⟨e, hc⟩ := upd_none_eq_some.mp hc
    exact upd_keep (h.conn_tx _ _ _ _ hc) (by rw [htx]; intro e2; cases e2; exact e rfl) _
  · intro tx' d' a hh
    obtain ⟨e, hh⟩ := upd_none_eq_some.mp hh
    obtain ⟨o', ws', hc⟩ := h.tx_conn _ _ _ hh
    exact ⟨o', ws', upd_keep hc (by rw [hd]; intro e2; cases e2; exact e rfl) _⟩
  · intro r q hq hres
    exact h.canc _ _ (failAll_blocked hq hres).1 hres
  · intro r q hq hres
    obtain ⟨h0, hnw⟩ := failAll_blocked hq hres
    rcases h.no_orphan _ _ h0 hres with ⟨tx', hx⟩ | ⟨tx', o', ws', hc, hm⟩
    · exact Or.inl ⟨tx', upd_keep hx (by rw [htx]; nofun) _⟩
    · exact Or.inr ⟨tx', o', ws', upd_keep hc (by rw [hd]; intro e; cases e; exact hnw hm) _, hm⟩
  · intro r q hq
    obtain ⟨q0, h0⟩ := failAll_dom hq
    exact h.ids_all _ _ h0

/-- The connection id arrives: the connect transaction goes and every waiting call gets an announce
transaction, retransmitting unless its caller has cancelled it. -/
theorem Inv.connected (h : Inv s) {d tx o : Nat} {ws : List Nat} (hd : s.conns d = some (.connecting tx o ws)) :
    Inv { s with txs := (beginAll s.reqs ws (upd s.txs tx none) s.nextTx).1,
                 nextTx := (beginAll s.reqs ws (upd s.txs tx none) s.nextTx).2.1,
                 conns := upd s.conns d (some .connected) } := by
  have htx := h.conn_tx _ _ _ _ hd
  have keep : ∀ {i t}, s.txs i = some t → i ≠ tx →
      (beginAll s.reqs ws (upd s.txs tx none) s.nextTx).1 i = some t := by
    intro i t hx hi
    rw [beginAll_below _ _ _ _ _ (h.tx_lt _ _ hx), upd_other hi, hx]
  refine ⟨?_, ?_, ?_, h.canc, ?_, h.ids_all⟩
  · intro i t hh
    show i < (beginAll s.reqs ws (upd s.txs tx none) s.nextTx).2.1
    rw [beginAll_next]
    rcases beginAll_some _ _ _ _ _ _ hh with hu | ⟨hi, _⟩
    · exact Nat.lt_add_right _ (h.tx_lt _ _ (upd_none_eq_some.mp hu).2)
    · exact hi
  · intro d' tx' o' ws' hc
    rcases upd_eq_some.mp hc with ⟨_, hv⟩ | ⟨e, hc⟩
    · cases hv
    · have hx := h.conn_tx _ _ _ _ hc
      exact keep hx (fun e2 => by subst e2; rw [htx] at hx; cases hx; exact e rfl)
  · intro i d' a hh
    rcases beginAll_some _ _ _ _ _ _ hh with hu | ⟨_, w, _, e⟩
    · obtain ⟨e, hx⟩ := upd_none_eq_some.mp hu
      obtain ⟨o', ws', hc⟩ := h.tx_conn _ _ _ hx
      exact ⟨o', ws', upd_keep hc (by rw [hd]; intro e2; cases e2; exact e rfl) _⟩
    · cases e
  · intro r q (hq : s.reqs r = some q) hres
    rcases h.no_orphan _ _ hq hres with ⟨tx', hx⟩ | ⟨tx', o', ws', hc, hm⟩
    · exact Or.inl ⟨tx', keep hx (fun e => by subst e; rw [htx] at hx; cases hx)⟩
    · by_cases e : q.dest = d
      · rw [e, hd] at hc; cases hc
        obtain ⟨i, hi⟩ := beginAll_gets s.reqs ws (upd s.txs tx none) s.nextTx r hm
        have hl : liveOf s.reqs r = true := by simp [liveOf, hq, h.canc _ _ hq hres]
        rw [hl] at hi
        exact Or.inl ⟨i, hi⟩
      · exact Or.inr ⟨tx', o', ws', (upd_other e).trans hc, hm⟩

/-! ### What a step makes visible -/

/-- A datagram written belongs to a transaction begun in this step or to one in the table that still
retransmits; reply bytes are returned only by the step that handles a datagram with the id of the
call's own announce transaction. -/
def OutOk (s : State) (i : In) : Out → Prop
  | .send tx k => s.nextTx ≤ tx ∨ s.txs tx = some ⟨k, true⟩
  | .deliver r (.reply tx c) => i = .dgram (some tx) c ∧ ∃ a, s.txs tx = some ⟨.announce r, a⟩
  | .deliver _ _ => True

theorem outOk_failAll (s : State) (i : In) {res : Res} (hres : ∀ tx c, res ≠ .reply tx c) (ws : List Nat)
    (reqs : Nat → Option Req) : ∀ o ∈ (failAll res ws reqs).2, OutOk s i o := by
  intro o ho
  obtain ⟨w, _, e⟩ := failAll_outs _ _ _ o ho
  subst e
  cases res with
  | reply tx c => exact absurd rfl (hres tx c)
  | canceled => exact True.intro
  | connectFailed c => exact True.intro
  | closed => exact True.intro

/-- The table `t'` with counter `n'` comes from `t` with counter `n` by removing entries, silencing them
and beginning transactions at the counter: an id below `n` that was free stays free. -/
def Keeps (n : Nat) (t : Nat → Option Trx) (n' : Nat) (t' : Nat → Option Trx) : Prop :=
  n ≤ n' ∧ ∀ tx, tx < n → t tx = none → t' tx = none

theorem Keeps.rfl {n : Nat} {t : Nat → Option Trx} : Keeps n t n t := ⟨Nat.le_refl n, fun _ _ h => h⟩

theorem Keeps.fresh {n : Nat} {t : Nat → Option Trx} (v : Option Trx) : Keeps n t (n + 1) (upd t n v) :=
  ⟨Nat.le_succ n, fun _ hlt h => (upd_other (Nat.ne_of_lt hlt)).trans h⟩

theorem Keeps.kill {n : Nat} {t : Nat → Option Trx} (r : Nat) : Keeps n t n (killAnnounce r t) :=
  ⟨Nat.le_refl n, fun _ _ h => (killAnnounce_none _ _ _).mpr h⟩

theorem Keeps.drop {n n' : Nat} {t t' : Nat → Option Trx} (h : Keeps n t n' t') (tx : Nat) :
    Keeps n t n' (upd t' tx none) :=
  ⟨h.1, fun x hlt hx => upd_none_of_none (h.2 x hlt hx)⟩

theorem Keeps.begin {n n' : Nat} {t t' : Nat → Option Trx} (h : Keeps n t n' t') (reqs : Nat → Option Req)
    (ws : List Nat) : Keeps n t (beginAll reqs ws t' n').2.1 (beginAll reqs ws t' n').1 :=
  ⟨by rw [beginAll_next]; exact Nat.le_trans h.1 (Nat.le_add_right _ _),
   fun x hlt hx => (beginAll_below _ _ _ _ _ (Nat.lt_of_lt_of_le hlt h.1)).trans (h.2 x hlt hx)⟩

theorem step_spec (s : State) (i : In) :
    (Inv s → Inv (step s i).1) ∧ (∀ o ∈ (step s i).2, OutOk s i o) ∧
      Keeps s.nextTx s.txs (step s i).1.nextTx (step s i).1.txs := by
  have nil : ∀ o ∈ ([] : List Out), OutOk s i o := fun _ h => nomatch h
  have same : (Inv s → Inv s) ∧ (∀ o ∈ ([] : List Out), OutOk s i o) ∧ Keeps s.nextTx s.txs s.nextTx s.txs :=
    ⟨id, nil, .rfl⟩
  cases i with
  | request r d =>
    cases hr : s.reqs r with
    | some q => simp only [step, hr]; exact same
    | none =>
      simp only [step, hr]
      split
      · exact ⟨fun h => h.addReq r d (some .closed) nofun, List.forall_mem_singleton.2 True.intro, .rfl⟩
      · cases hd : s.conns d with
        | none =>
          exact ⟨fun h => (h.openConn hd r).addReq r d none fun _ =>
              Or.inr ⟨s.nextTx, r, [r], upd_same .., List.mem_singleton_self _⟩,
            List.forall_mem_singleton.2 (Or.inl (Nat.le_refl _)), .fresh _⟩
        | some cn =>
          cases cn with
          | connected =>
            exact ⟨fun h => (h.addTx r true).addReq r d none fun _ => Or.inl ⟨s.nextTx, upd_same ..⟩,
              List.forall_mem_singleton.2 (Or.inl (Nat.le_refl _)), .fresh _⟩
          | connecting tx o ws =>
            exact ⟨fun h => (h.joinConn hd r).addReq r d none fun _ =>
                Or.inr ⟨tx, o, ws ++ [r], upd_same .., List.mem_append_right _ (List.mem_singleton_self _)⟩,
              nil, .rfl⟩
  | cancel r =>
    cases hr : s.reqs r with
    | none => simp only [step, hr]; exact same
    | some q =>
      by_cases hq : q.result = none
      · -- the call returns and its own announce stops
        have plain : (Inv s → Inv { s with
              reqs := upd s.reqs r (some { q with cancelled := true, result := some .canceled }),
              txs := killAnnounce r s.txs }) ∧
            (∀ o ∈ [Out.deliver r .canceled], OutOk s (.cancel r) o) ∧
            Keeps s.nextTx s.txs s.nextTx (killAnnounce r s.txs) :=
          ⟨fun h => (h.settle hr _ (by nofun)).silence (upd_returned (by nofun)),
           List.forall_mem_singleton.2 True.intro, .kill r⟩
        simp only [step, hr, hq, ne_eq, not_true_eq_false, if_false]
        cases hd : s.conns q.dest with
        | none => exact plain
        | some cn =>
          cases cn with
          | connected => exact plain
          | connecting tx o ws =>
            dsimp only []
            split
            · exact ⟨fun h => (plain.1 h).dropConn hd .canceled,
                List.forall_mem_cons.2 ⟨True.intro, outOk_failAll s _ (by intro _ _ h; cases h) _ _⟩,
                (Keeps.kill r).drop tx⟩
            · exact plain
      · simp only [step, hr, ne_eq, hq, not_false_eq_true, if_true]
        exact same
  | dgram tx? c =>
    cases tx? with
    | none => exact same
    | some tx =>
      cases ht : s.txs tx with
      | none => simp only [step, ht]; exact same
      | some t =>
        obtain ⟨k, a⟩ := t
        cases k with
        | announce r =>
          cases hr : s.reqs r with
          | none =>
            simp only [step, ht, hr]
            exact ⟨fun h => h.dropTx ht (by intro q hq; rw [hr] at hq; cases hq), nil, Keeps.rfl.drop tx⟩
          | some q =>
            by_cases hq : q.result = none
            · simp only [step, ht, hr, hq, if_true]
              exact ⟨fun h => (h.settle hr _ (by nofun)).dropTx ht (upd_returned (by nofun)),
                List.forall_mem_singleton.2 ⟨rfl, a, ht⟩, Keeps.rfl.drop tx⟩
            · simp only [step, ht, hr, hq, if_false]
              exact ⟨fun h => h.dropTx ht (by intro q' hq'; rw [hr] at hq'; cases hq'; exact hq), nil,
                Keeps.rfl.drop tx⟩
        | connect d =>
          have hcn : Inv s → ∃ o ws, s.conns d = some (.connecting tx o ws) := fun h => h.tx_conn _ _ _ ht
          cases hd : s.conns d with
          | none =>
            simp only [step, ht, hd]
            exact ⟨fun h => by have := hcn h; simp [hd] at this, nil, Keeps.rfl.drop tx⟩
          | some cn =>
            cases cn with
            | connected =>
              simp only [step, ht, hd]
              exact ⟨fun h => by have := hcn h; simp [hd] at this, nil, Keeps.rfl.drop tx⟩
            | connecting tx' o ws =>
              have own : Inv s → s.conns d = some (.connecting tx o ws) := fun h => by
                obtain ⟨_, _, e⟩ := hcn h
                rw [hd] at e; cases e; exact hd
              by_cases hc : c = .good
              · subst hc
                simp only [step, ht, hd, if_true]
                refine ⟨fun h => h.connected (own h), fun o' ho' => ?_, (Keeps.rfl.drop tx).begin s.reqs ws⟩
                obtain ⟨tx3, k3, e, hge⟩ := beginAll_outs _ _ _ _ o' ho'
                subst e
                exact Or.inl hge
              · simp only [step, ht, hd, hc, if_false]
                exact ⟨fun h => h.dropConn (own h) _, outOk_failAll s _ (by intro _ _ h; cases h) _ _,
                  Keeps.rfl.drop tx⟩
  | tick tx =>
    simp only [step]
    split
    · next k hk => exact ⟨id, List.forall_mem_singleton.2 (Or.inr hk), .rfl⟩
    · exact same
  | close =>
    cases hc : s.closed with
    | true => simp only [step, hc, if_true]; exact same
    | false =>
      simp only [step, hc, Bool.false_eq_true, if_false]
      refine ⟨fun h => ⟨nofun, nofun, nofun, ?_, ?_, ?_⟩, outOk_failAll s _ (by intro _ _ h; cases h) _ _,
        Nat.le_refl _, fun _ _ _ => rfl⟩
      · intro r q hq hres
        exact h.canc _ _ (failAll_blocked hq hres).1 hres
      · intro r q hq hres
        obtain ⟨h0, hn⟩ := failAll_blocked hq hres
        exact absurd (h.ids_all _ _ h0) hn
      · intro r q hq
        obtain ⟨q0, h0⟩ := failAll_dom hq
        exact h.ids_all _ _ h0

theorem step_inv (s : State) (h : Inv s) (i : In) : Inv (step s i).1 := (step_spec s i).1 h

theorem run_inv (s : State) (h : Inv s) (is : List In) : Inv (run s is).1 := by
  induction is generalizing s with
  | nil => exact h
  | cons i is ih => simp only [run]; exact ih _ (step_inv s h i)


end Rain.UdpShared
