import RainModel.Lemmas.LoopFrameCmd
import RainModel.Lemmas.LoopHmd
/-!
What the remaining handlers write.  A metadata block for a running download has its case principle here
(`hmdBlock_cases`, the cases stated as `Writes` facts): `hmdBlock_writes` is an instance, and `handleMetadataData_cases`
(`LoopDispatch`) rests on it.
-/
namespace Rain.Loop
open Fld

structure Fr_handleExtHandshake (s s' : St) : Prop where
  cfg : s'.cfg = s.cfg
  info : s'.info = s.info
  infoAtAdd : s'.infoAtAdd = s.infoAtAdd
  errC : s'.errC = s.errC
  stopAnn : s'.stopAnn = s.stopAnn
  allocator : s'.allocator = s.allocator
  verifier : s'.verifier = s.verifier
  completed : s'.completed = s.completed
  completeCClosed : s'.completeCClosed = s.completeCClosed
  doVerify : s'.doVerify = s.doVerify
  lastErr : s'.lastErr = s.lastErr
  loaded : s'.loaded = s.loaded
  gen : s'.gen = s.gen
  acceptor : s'.acceptor = s.acceptor
  openFiles : s'.openFiles = s.openFiles
  leaked : s'.leaked = s.leaked
  bf : s'.bf = s.bf
  done : s'.done = s.done
  writing : s'.writing = s.writing
  wflag : s'.wflag = s.wflag
  fileExists : s'.fileExists = s.fileExists
  known : s'.known = s.known
  bad : s'.bad = s.bad
  dls : s'.dls = s.dls
  idls : s'.idls = s.idls
  isize : s'.isize = s.isize
  maxMeta : s'.maxMeta = s.maxMeta
  parMeta : s'.parMeta = s.parMeta
  metaDone : s'.metaDone = s.metaDone
  unchoked : s'.unchoked = s.unchoked
  optimistic : s'.optimistic = s.optimistic
  nUnchoke : s'.nUnchoke = s.nUnchoke
  nOptimistic : s'.nOptimistic = s.nOptimistic
  stopHang : s'.stopHang = s.stopHang
  dials : s'.dials = s.dials
  banned : s'.banned = s.banned
  panicked : s'.panicked = s.panicked
  gateOpen : s'.gateOpen = s.gateOpen
  gateWrite : s'.gateWrite = s.gateWrite
  gateRead : s'.gateRead = s.gateRead
  failWrite : s'.failWrite = s.failWrite
  failOpen : s'.failOpen = s.failOpen
  failAt : s'.failAt = s.failAt
  gateWriteDone : s'.gateWriteDone = s.gateWriteDone
  sto : s'.sto = s.sto
  mayStart : s'.mayStart = s.mayStart
  closedDl : s'.closedDl = s.closedDl
  persisted : s'.persisted = s.persisted
  tainted : s'.tainted = s.tainted
@[frame] theorem handleExtHandshake_writes (m : M) (k : Nat) (hm : Bool) (sz : Nat) (hp : Bool) :
    Writes [peers, mayStartI]
    m.1 (handleExtHandshake m k hm sz hp).1 :=
  .intro (by unfold handleExtHandshake; cases h : m.1.findPeer k <;> frame)
theorem handleExtHandshake_frame (m : M) (k : Nat) (hm : Bool) (sz : Nat) (hp : Bool) : Fr_handleExtHandshake m.1 (handleExtHandshake m k hm sz hp).1 :=
  have h := handleExtHandshake_writes m k hm sz hp
  ⟨h.cfg, h.info, h.infoAtAdd, h.errC, h.stopAnn, h.allocator, h.verifier, h.completed, h.completeCClosed,
   h.doVerify, h.lastErr, h.loaded, h.gen, h.acceptor, h.openFiles, h.leaked, h.bf, h.done, h.writing, h.wflag,
   h.fileExists, h.known, h.bad, h.dls, h.idls, h.isize, h.maxMeta, h.parMeta, h.metaDone, h.unchoked,
   h.optimistic, h.nUnchoke, h.nOptimistic, h.stopHang, h.dials, h.banned, h.panicked, h.gateOpen, h.gateWrite,
   h.gateRead, h.failWrite, h.failOpen, h.failAt, h.gateWriteDone, h.sto, h.mayStart, h.closedDl, h.persisted,
   h.tainted⟩
@[simp] theorem handleExtHandshake_lastErr (m : M) (k : Nat) (hm : Bool) (sz : Nat) (hp : Bool) : (handleExtHandshake m k hm sz hp).1.lastErr = m.1.lastErr := (handleExtHandshake_frame m k hm sz hp).lastErr
@[simp] theorem handleExtHandshake_acceptor (m : M) (k : Nat) (hm : Bool) (sz : Nat) (hp : Bool) : (handleExtHandshake m k hm sz hp).1.acceptor = m.1.acceptor := (handleExtHandshake_frame m k hm sz hp).acceptor
@[simp] theorem handleExtHandshake_openFiles (m : M) (k : Nat) (hm : Bool) (sz : Nat) (hp : Bool) : (handleExtHandshake m k hm sz hp).1.openFiles = m.1.openFiles := (handleExtHandshake_frame m k hm sz hp).openFiles
@[simp] theorem handleExtHandshake_done (m : M) (k : Nat) (hm : Bool) (sz : Nat) (hp : Bool) : (handleExtHandshake m k hm sz hp).1.done = m.1.done := (handleExtHandshake_frame m k hm sz hp).done
@[simp] theorem handleExtHandshake_wflag (m : M) (k : Nat) (hm : Bool) (sz : Nat) (hp : Bool) : (handleExtHandshake m k hm sz hp).1.wflag = m.1.wflag := (handleExtHandshake_frame m k hm sz hp).wflag
@[simp] theorem handleExtHandshake_known (m : M) (k : Nat) (hm : Bool) (sz : Nat) (hp : Bool) : (handleExtHandshake m k hm sz hp).1.known = m.1.known := (handleExtHandshake_frame m k hm sz hp).known
@[simp] theorem handleExtHandshake_metaDone (m : M) (k : Nat) (hm : Bool) (sz : Nat) (hp : Bool) : (handleExtHandshake m k hm sz hp).1.metaDone = m.1.metaDone := (handleExtHandshake_frame m k hm sz hp).metaDone
@[simp] theorem handleExtHandshake_unchoked (m : M) (k : Nat) (hm : Bool) (sz : Nat) (hp : Bool) : (handleExtHandshake m k hm sz hp).1.unchoked = m.1.unchoked := (handleExtHandshake_frame m k hm sz hp).unchoked
@[simp] theorem handleExtHandshake_optimistic (m : M) (k : Nat) (hm : Bool) (sz : Nat) (hp : Bool) : (handleExtHandshake m k hm sz hp).1.optimistic = m.1.optimistic := (handleExtHandshake_frame m k hm sz hp).optimistic
@[simp] theorem handleExtHandshake_nUnchoke (m : M) (k : Nat) (hm : Bool) (sz : Nat) (hp : Bool) : (handleExtHandshake m k hm sz hp).1.nUnchoke = m.1.nUnchoke := (handleExtHandshake_frame m k hm sz hp).nUnchoke
@[simp] theorem handleExtHandshake_nOptimistic (m : M) (k : Nat) (hm : Bool) (sz : Nat) (hp : Bool) : (handleExtHandshake m k hm sz hp).1.nOptimistic = m.1.nOptimistic := (handleExtHandshake_frame m k hm sz hp).nOptimistic
@[simp] theorem handleExtHandshake_stopHang (m : M) (k : Nat) (hm : Bool) (sz : Nat) (hp : Bool) : (handleExtHandshake m k hm sz hp).1.stopHang = m.1.stopHang := (handleExtHandshake_frame m k hm sz hp).stopHang
@[simp] theorem handleExtHandshake_banned (m : M) (k : Nat) (hm : Bool) (sz : Nat) (hp : Bool) : (handleExtHandshake m k hm sz hp).1.banned = m.1.banned := (handleExtHandshake_frame m k hm sz hp).banned
@[simp] theorem handleExtHandshake_gateOpen (m : M) (k : Nat) (hm : Bool) (sz : Nat) (hp : Bool) : (handleExtHandshake m k hm sz hp).1.gateOpen = m.1.gateOpen := (handleExtHandshake_frame m k hm sz hp).gateOpen
@[simp] theorem handleExtHandshake_gateWrite (m : M) (k : Nat) (hm : Bool) (sz : Nat) (hp : Bool) : (handleExtHandshake m k hm sz hp).1.gateWrite = m.1.gateWrite := (handleExtHandshake_frame m k hm sz hp).gateWrite
@[simp] theorem handleExtHandshake_gateRead (m : M) (k : Nat) (hm : Bool) (sz : Nat) (hp : Bool) : (handleExtHandshake m k hm sz hp).1.gateRead = m.1.gateRead := (handleExtHandshake_frame m k hm sz hp).gateRead
@[simp] theorem handleExtHandshake_failWrite (m : M) (k : Nat) (hm : Bool) (sz : Nat) (hp : Bool) : (handleExtHandshake m k hm sz hp).1.failWrite = m.1.failWrite := (handleExtHandshake_frame m k hm sz hp).failWrite
@[simp] theorem handleExtHandshake_failOpen (m : M) (k : Nat) (hm : Bool) (sz : Nat) (hp : Bool) : (handleExtHandshake m k hm sz hp).1.failOpen = m.1.failOpen := (handleExtHandshake_frame m k hm sz hp).failOpen
@[simp] theorem handleExtHandshake_failAt (m : M) (k : Nat) (hm : Bool) (sz : Nat) (hp : Bool) : (handleExtHandshake m k hm sz hp).1.failAt = m.1.failAt := (handleExtHandshake_frame m k hm sz hp).failAt
@[simp] theorem handleExtHandshake_gateWriteDone (m : M) (k : Nat) (hm : Bool) (sz : Nat) (hp : Bool) : (handleExtHandshake m k hm sz hp).1.gateWriteDone = m.1.gateWriteDone := (handleExtHandshake_frame m k hm sz hp).gateWriteDone
@[simp] theorem handleExtHandshake_sto (m : M) (k : Nat) (hm : Bool) (sz : Nat) (hp : Bool) : (handleExtHandshake m k hm sz hp).1.sto = m.1.sto := (handleExtHandshake_frame m k hm sz hp).sto
@[simp] theorem handleExtHandshake_mayStart (m : M) (k : Nat) (hm : Bool) (sz : Nat) (hp : Bool) : (handleExtHandshake m k hm sz hp).1.mayStart = m.1.mayStart := (handleExtHandshake_frame m k hm sz hp).mayStart
@[simp] theorem handleExtHandshake_closedDl (m : M) (k : Nat) (hm : Bool) (sz : Nat) (hp : Bool) : (handleExtHandshake m k hm sz hp).1.closedDl = m.1.closedDl := (handleExtHandshake_frame m k hm sz hp).closedDl
@[simp] theorem handleExtHandshake_tainted (m : M) (k : Nat) (hm : Bool) (sz : Nat) (hp : Bool) : (handleExtHandshake m k hm sz hp).1.tainted = m.1.tainted := (handleExtHandshake_frame m k hm sz hp).tainted
@[simp] theorem handleExtHandshake_status (m : M) (k : Nat) (hm : Bool) (sz : Nat) (hp : Bool) : (handleExtHandshake m k hm sz hp).1.status = m.1.status := (handleExtHandshake_writes m k hm sz hp).status
@[simp] theorem handleExtHandshake_n (m : M) (k : Nat) (hm : Bool) (sz : Nat) (hp : Bool) : (handleExtHandshake m k hm sz hp).1.n = m.1.n := (handleExtHandshake_writes m k hm sz hp).n
@[simp] theorem handleExtHandshake_diskOKi (m : M) (k : Nat) (hm : Bool) (sz : Nat) (hp : Bool) (i : Nat) : (handleExtHandshake m k hm sz hp).1.diskOKi i = m.1.diskOKi i := (handleExtHandshake_writes m k hm sz hp).diskOKi i
@[simp] theorem handleExtHandshake_diskOK (m : M) (k : Nat) (hm : Bool) (sz : Nat) (hp : Bool) : (handleExtHandshake m k hm sz hp).1.diskOK = m.1.diskOK := (handleExtHandshake_writes m k hm sz hp).diskOK
@[simp] theorem handleExtHandshake_findDl (m : M) (k : Nat) (hm : Bool) (sz : Nat) (hp : Bool) (k' : Nat) : (handleExtHandshake m k hm sz hp).1.findDl k' = m.1.findDl k' := (handleExtHandshake_writes m k hm sz hp).findDl k'

structure Fr_hmdStart (s s' : St) : Prop where
  cfg : s'.cfg = s.cfg
  info : s'.info = s.info
  infoAtAdd : s'.infoAtAdd = s.infoAtAdd
  errC : s'.errC = s.errC
  completed : s'.completed = s.completed
  completeCClosed : s'.completeCClosed = s.completeCClosed
  gen : s'.gen = s.gen
  leaked : s'.leaked = s.leaked
  writing : s'.writing = s.writing
  bad : s'.bad = s.bad
  isize : s'.isize = s.isize
  maxMeta : s'.maxMeta = s.maxMeta
  parMeta : s'.parMeta = s.parMeta
  metaDone : s'.metaDone = s.metaDone
  nUnchoke : s'.nUnchoke = s.nUnchoke
  nOptimistic : s'.nOptimistic = s.nOptimistic
  stopHang : s'.stopHang = s.stopHang
  dials : s'.dials = s.dials
  banned : s'.banned = s.banned
  gateWrite : s'.gateWrite = s.gateWrite
  failWrite : s'.failWrite = s.failWrite
  failOpen : s'.failOpen = s.failOpen
  failAt : s'.failAt = s.failAt
  gateWriteDone : s'.gateWriteDone = s.gateWriteDone
  tainted : s'.tainted = s.tainted
theorem hmdStart_alloc_writes (m : M) : Writes [allocator, panicked] m.1
    (onSt m fun s => if s.allocator then s.crash "allocator exists" else { s with allocator := true }).1 :=
  .onSt (ite_ind (P := Writes _ m.1) (fun _ => (crash_writes ..).mono) fun _ => .intro rfl)
@[frame] theorem hmdStart_writes (m : M) :
    Writes [stopAnn, allocator, verifier, doVerify, lastErr, loaded, acceptor, openFiles, bf, done, wflag,
      fileExists, known, peers, dls, idls, mayStartI, unchoked, optimistic, panicked, gateOpen, gateRead, sto,
      mayStart, closedDl, persisted]
    m.1 (hmdStart m).1 :=
  hmdStart_cases (P := fun r => Writes _ m.1 r.1) m (fun _ => .onSt (stop_writes _ false))
    fun _ => (hmdStart_alloc_writes m).mono
theorem hmdStart_frame (m : M) : Fr_hmdStart m.1 (hmdStart m).1 :=
  have h := hmdStart_writes m
  ⟨h.cfg, h.info, h.infoAtAdd, h.errC, h.completed, h.completeCClosed, h.gen, h.leaked, h.writing, h.bad,
   h.isize, h.maxMeta, h.parMeta, h.metaDone, h.nUnchoke, h.nOptimistic, h.stopHang, h.dials, h.banned,
   h.gateWrite, h.failWrite, h.failOpen, h.failAt, h.gateWriteDone, h.tainted⟩
@[simp] theorem hmdStart_metaDone (m : M) : (hmdStart m).1.metaDone = m.1.metaDone := (hmdStart_frame m).metaDone
@[simp] theorem hmdStart_n (m : M) : (hmdStart m).1.n = m.1.n := (hmdStart_writes m).n
@[simp] theorem hmdStart_diskOKi (m : M) (i : Nat) : (hmdStart m).1.diskOKi i = m.1.diskOKi i := (hmdStart_writes m).diskOKi i
@[simp] theorem hmdStart_diskOK (m : M) : (hmdStart m).1.diskOK = m.1.diskOK := (hmdStart_writes m).diskOK

structure Fr_hmdAdopt (s s' : St) : Prop where
  cfg : s'.cfg = s.cfg
  infoAtAdd : s'.infoAtAdd = s.infoAtAdd
  errC : s'.errC = s.errC
  completed : s'.completed = s.completed
  completeCClosed : s'.completeCClosed = s.completeCClosed
  gen : s'.gen = s.gen
  leaked : s'.leaked = s.leaked
  writing : s'.writing = s.writing
  bad : s'.bad = s.bad
  isize : s'.isize = s.isize
  maxMeta : s'.maxMeta = s.maxMeta
  parMeta : s'.parMeta = s.parMeta
  nUnchoke : s'.nUnchoke = s.nUnchoke
  nOptimistic : s'.nOptimistic = s.nOptimistic
  stopHang : s'.stopHang = s.stopHang
  dials : s'.dials = s.dials
  banned : s'.banned = s.banned
  gateWrite : s'.gateWrite = s.gateWrite
  failWrite : s'.failWrite = s.failWrite
  failOpen : s'.failOpen = s.failOpen
  failAt : s'.failAt = s.failAt
  gateWriteDone : s'.gateWriteDone = s.gateWriteDone
  tainted : s'.tainted = s.tainted
@[frame] theorem hmdAdopt_writes (m : M) :
    Writes [info, stopAnn, allocator, verifier, doVerify, lastErr, loaded, acceptor, openFiles, bf, done,
      wflag, fileExists, known, peers, dls, idls, mayStartI, metaDone, unchoked, optimistic, panicked,
      gateOpen, gateRead, sto, mayStart, closedDl, persisted]
    m.1 (hmdAdopt m).1 :=
  have h : Writes [idls] m.1 (onSt m fun s => { s with idls := [] }).1 := .intro rfl
  hmdAdopt_cases (P := fun r => Writes _ m.1 r.1) m (fun _ => .mono (h.trans (.onSt (stop_writes _ true))))
    fun _ _ => .mono ((h.trans (w₂ := [info, metaDone]) (.onSt (.intro rfl))).trans (hmdStart_writes _))
theorem hmdAdopt_frame (m : M) : Fr_hmdAdopt m.1 (hmdAdopt m).1 :=
  have h := hmdAdopt_writes m
  ⟨h.cfg, h.infoAtAdd, h.errC, h.completed, h.completeCClosed, h.gen, h.leaked, h.writing, h.bad, h.isize,
   h.maxMeta, h.parMeta, h.nUnchoke, h.nOptimistic, h.stopHang, h.dials, h.banned, h.gateWrite, h.failWrite,
   h.failOpen, h.failAt, h.gateWriteDone, h.tainted⟩
@[simp] theorem hmdAdopt_stopHang (m : M) : (hmdAdopt m).1.stopHang = m.1.stopHang := (hmdAdopt_frame m).stopHang
@[simp] theorem hmdAdopt_n (m : M) : (hmdAdopt m).1.n = m.1.n := (hmdAdopt_writes m).n
@[simp] theorem hmdAdopt_diskOKi (m : M) (i : Nat) : (hmdAdopt m).1.diskOKi i = m.1.diskOKi i := (hmdAdopt_writes m).diskOKi i
@[simp] theorem hmdAdopt_diskOK (m : M) : (hmdAdopt m).1.diskOK = m.1.diskOK := (hmdAdopt_writes m).diskOK

/-- The peer is closed or the block stored (`hw`: one `Writes` case, the messages untouched), or it was the last block,
size and hash are right, and the metadata is adopted (`ha`). -/
theorem hmdBlock_cases (P : M → Prop) (m : M) (d : IDl) (k i len : Nat) (g : Bool)
    (hw : ∀ s', Writes [peers, dls, idls, mayStartI, unchoked, optimistic, mayStart, closedDl] m.1 s' → P (s', m.2))
    (ha : (m.1.idls.find? (·.k = k) = some d → HmdComplete m d k i len g) → P (hmdAdopt (hmdStored m d k i g))) :
    P (hmdBlock m d k i len g) := by
  have hC : ∀ l v, P ({ ({ m.1 with idls := l } : St).closePeer k with mayStartI := v }, m.2) :=
    fun _ _ => hw _ (.intro (by frame))
  unfold hmdBlock
  exact ite_ind (fun _ => hC m.1.idls _) fun h1 => ite_ind (fun _ => hC m.1.idls _) fun h2 =>
    ite_ind (fun _ => hC m.1.idls _) fun h3 => ite_ind (fun _ => hw _ (.intro (by frame))) fun h4 =>
    ite_ind (fun _ => hC _ _) fun h5 => ha fun hd => ⟨hd, Nat.lt_of_not_le h1, Decidable.not_not.1 h2, by simpa using h3,
      Decidable.not_not.1 h4, by simpa using h5⟩

structure Fr_hmdBlock (s s' : St) : Prop where
  cfg : s'.cfg = s.cfg
  infoAtAdd : s'.infoAtAdd = s.infoAtAdd
  errC : s'.errC = s.errC
  completed : s'.completed = s.completed
  completeCClosed : s'.completeCClosed = s.completeCClosed
  gen : s'.gen = s.gen
  leaked : s'.leaked = s.leaked
  writing : s'.writing = s.writing
  bad : s'.bad = s.bad
  isize : s'.isize = s.isize
  maxMeta : s'.maxMeta = s.maxMeta
  parMeta : s'.parMeta = s.parMeta
  nUnchoke : s'.nUnchoke = s.nUnchoke
  nOptimistic : s'.nOptimistic = s.nOptimistic
  stopHang : s'.stopHang = s.stopHang
  dials : s'.dials = s.dials
  banned : s'.banned = s.banned
  gateWrite : s'.gateWrite = s.gateWrite
  failWrite : s'.failWrite = s.failWrite
  failOpen : s'.failOpen = s.failOpen
  failAt : s'.failAt = s.failAt
  gateWriteDone : s'.gateWriteDone = s.gateWriteDone
  tainted : s'.tainted = s.tainted
@[frame] theorem hmdBlock_writes (m : M) (d : IDl) (k i len : Nat) (g : Bool) :
    Writes [info, stopAnn, allocator, verifier, doVerify, lastErr, loaded, acceptor, openFiles, bf, done,
      wflag, fileExists, known, peers, dls, idls, mayStartI, metaDone, unchoked, optimistic, panicked,
      gateOpen, gateRead, sto, mayStart, closedDl, persisted]
    m.1 (hmdBlock m d k i len g).1 :=
  hmdBlock_cases (fun r => Writes _ m.1 r.1) m d k i len g (fun _ h => h.mono)
    fun _ => .mono (.trans (w₁ := [idls]) (b := (hmdStored m d k i g).1) (.intro rfl) (hmdAdopt_writes _))
theorem hmdBlock_frame (m : M) (d : IDl) (k i len : Nat) (g : Bool) : Fr_hmdBlock m.1 (hmdBlock m d k i len g).1 :=
  have h := hmdBlock_writes m d k i len g
  ⟨h.cfg, h.infoAtAdd, h.errC, h.completed, h.completeCClosed, h.gen, h.leaked, h.writing, h.bad, h.isize,
   h.maxMeta, h.parMeta, h.nUnchoke, h.nOptimistic, h.stopHang, h.dials, h.banned, h.gateWrite, h.failWrite,
   h.failOpen, h.failAt, h.gateWriteDone, h.tainted⟩
@[simp] theorem hmdBlock_n (m : M) (d : IDl) (k i len : Nat) (g : Bool) : (hmdBlock m d k i len g).1.n = m.1.n := (hmdBlock_writes m d k i len g).n
@[simp] theorem hmdBlock_diskOKi (m : M) (d : IDl) (k i len : Nat) (g : Bool) (i : Nat) : (hmdBlock m d k i len g).1.diskOKi i = m.1.diskOKi i := (hmdBlock_writes m d k i len g).diskOKi i
@[simp] theorem hmdBlock_diskOK (m : M) (d : IDl) (k i len : Nat) (g : Bool) : (hmdBlock m d k i len g).1.diskOK = m.1.diskOK := (hmdBlock_writes m d k i len g).diskOK

structure Fr_handleMetadataData (s s' : St) : Prop where
  cfg : s'.cfg = s.cfg
  infoAtAdd : s'.infoAtAdd = s.infoAtAdd
  errC : s'.errC = s.errC
  completed : s'.completed = s.completed
  completeCClosed : s'.completeCClosed = s.completeCClosed
  gen : s'.gen = s.gen
  leaked : s'.leaked = s.leaked
  writing : s'.writing = s.writing
  bad : s'.bad = s.bad
  isize : s'.isize = s.isize
  maxMeta : s'.maxMeta = s.maxMeta
  parMeta : s'.parMeta = s.parMeta
  nUnchoke : s'.nUnchoke = s.nUnchoke
  nOptimistic : s'.nOptimistic = s.nOptimistic
  stopHang : s'.stopHang = s.stopHang
  dials : s'.dials = s.dials
  banned : s'.banned = s.banned
  gateWrite : s'.gateWrite = s.gateWrite
  failWrite : s'.failWrite = s.failWrite
  failOpen : s'.failOpen = s.failOpen
  failAt : s'.failAt = s.failAt
  gateWriteDone : s'.gateWriteDone = s.gateWriteDone
  tainted : s'.tainted = s.tainted
@[frame] theorem handleMetadataData_writes (m : M) (k : Nat) (i len : Nat) (g : Bool) :
    Writes [info, stopAnn, allocator, verifier, doVerify, lastErr, loaded, acceptor, openFiles, bf, done,
      wflag, fileExists, known, peers, dls, idls, mayStartI, metaDone, unchoked, optimistic, panicked,
      gateOpen, gateRead, sto, mayStart, closedDl, persisted]
    m.1 (handleMetadataData m k i len g).1 := by
  rw [handleMetadataData_eq]
  split
  · exact .intro rfl
  · exact hmdBlock_writes ..
theorem handleMetadataData_frame (m : M) (k : Nat) (i len : Nat) (g : Bool) : Fr_handleMetadataData m.1 (handleMetadataData m k i len g).1 :=
  have h := handleMetadataData_writes m k i len g
  ⟨h.cfg, h.infoAtAdd, h.errC, h.completed, h.completeCClosed, h.gen, h.leaked, h.writing, h.bad, h.isize,
   h.maxMeta, h.parMeta, h.nUnchoke, h.nOptimistic, h.stopHang, h.dials, h.banned, h.gateWrite, h.failWrite,
   h.failOpen, h.failAt, h.gateWriteDone, h.tainted⟩
@[simp] theorem handleMetadataData_errC (m : M) (k : Nat) (i len : Nat) (g : Bool) : (handleMetadataData m k i len g).1.errC = m.1.errC := (handleMetadataData_frame m k i len g).errC
@[simp] theorem handleMetadataData_completed (m : M) (k : Nat) (i len : Nat) (g : Bool) : (handleMetadataData m k i len g).1.completed = m.1.completed := (handleMetadataData_frame m k i len g).completed
@[simp] theorem handleMetadataData_completeCClosed (m : M) (k : Nat) (i len : Nat) (g : Bool) : (handleMetadataData m k i len g).1.completeCClosed = m.1.completeCClosed := (handleMetadataData_frame m k i len g).completeCClosed
@[simp] theorem handleMetadataData_gen (m : M) (k : Nat) (i len : Nat) (g : Bool) : (handleMetadataData m k i len g).1.gen = m.1.gen := (handleMetadataData_frame m k i len g).gen
@[simp] theorem handleMetadataData_writing (m : M) (k : Nat) (i len : Nat) (g : Bool) : (handleMetadataData m k i len g).1.writing = m.1.writing := (handleMetadataData_frame m k i len g).writing
@[simp] theorem handleMetadataData_nUnchoke (m : M) (k : Nat) (i len : Nat) (g : Bool) : (handleMetadataData m k i len g).1.nUnchoke = m.1.nUnchoke := (handleMetadataData_frame m k i len g).nUnchoke
@[simp] theorem handleMetadataData_nOptimistic (m : M) (k : Nat) (i len : Nat) (g : Bool) : (handleMetadataData m k i len g).1.nOptimistic = m.1.nOptimistic := (handleMetadataData_frame m k i len g).nOptimistic
@[simp] theorem handleMetadataData_stopHang (m : M) (k : Nat) (i len : Nat) (g : Bool) : (handleMetadataData m k i len g).1.stopHang = m.1.stopHang := (handleMetadataData_frame m k i len g).stopHang
@[simp] theorem handleMetadataData_banned (m : M) (k : Nat) (i len : Nat) (g : Bool) : (handleMetadataData m k i len g).1.banned = m.1.banned := (handleMetadataData_frame m k i len g).banned
@[simp] theorem handleMetadataData_gateWrite (m : M) (k : Nat) (i len : Nat) (g : Bool) : (handleMetadataData m k i len g).1.gateWrite = m.1.gateWrite := (handleMetadataData_frame m k i len g).gateWrite
@[simp] theorem handleMetadataData_failWrite (m : M) (k : Nat) (i len : Nat) (g : Bool) : (handleMetadataData m k i len g).1.failWrite = m.1.failWrite := (handleMetadataData_frame m k i len g).failWrite
@[simp] theorem handleMetadataData_failOpen (m : M) (k : Nat) (i len : Nat) (g : Bool) : (handleMetadataData m k i len g).1.failOpen = m.1.failOpen := (handleMetadataData_frame m k i len g).failOpen
@[simp] theorem handleMetadataData_failAt (m : M) (k : Nat) (i len : Nat) (g : Bool) : (handleMetadataData m k i len g).1.failAt = m.1.failAt := (handleMetadataData_frame m k i len g).failAt
@[simp] theorem handleMetadataData_gateWriteDone (m : M) (k : Nat) (i len : Nat) (g : Bool) : (handleMetadataData m k i len g).1.gateWriteDone = m.1.gateWriteDone := (handleMetadataData_frame m k i len g).gateWriteDone
@[simp] theorem handleMetadataData_tainted (m : M) (k : Nat) (i len : Nat) (g : Bool) : (handleMetadataData m k i len g).1.tainted = m.1.tainted := (handleMetadataData_frame m k i len g).tainted
@[simp] theorem handleMetadataData_n (m : M) (k : Nat) (i len : Nat) (g : Bool) : (handleMetadataData m k i len g).1.n = m.1.n := (handleMetadataData_writes m k i len g).n
@[simp] theorem handleMetadataData_diskOKi (m : M) (k : Nat) (i len : Nat) (g : Bool) (i : Nat) : (handleMetadataData m k i len g).1.diskOKi i = m.1.diskOKi i := (handleMetadataData_writes m k i len g).diskOKi i
@[simp] theorem handleMetadataData_diskOK (m : M) (k : Nat) (i len : Nat) (g : Bool) : (handleMetadataData m k i len g).1.diskOK = m.1.diskOK := (handleMetadataData_writes m k i len g).diskOK

structure Fr_handleMetadataReject (s s' : St) : Prop where
  cfg : s'.cfg = s.cfg
  info : s'.info = s.info
  infoAtAdd : s'.infoAtAdd = s.infoAtAdd
  errC : s'.errC = s.errC
  stopAnn : s'.stopAnn = s.stopAnn
  allocator : s'.allocator = s.allocator
  verifier : s'.verifier = s.verifier
  completed : s'.completed = s.completed
  completeCClosed : s'.completeCClosed = s.completeCClosed
  doVerify : s'.doVerify = s.doVerify
  lastErr : s'.lastErr = s.lastErr
  loaded : s'.loaded = s.loaded
  gen : s'.gen = s.gen
  acceptor : s'.acceptor = s.acceptor
  openFiles : s'.openFiles = s.openFiles
  leaked : s'.leaked = s.leaked
  bf : s'.bf = s.bf
  done : s'.done = s.done
  writing : s'.writing = s.writing
  wflag : s'.wflag = s.wflag
  fileExists : s'.fileExists = s.fileExists
  known : s'.known = s.known
  bad : s'.bad = s.bad
  isize : s'.isize = s.isize
  maxMeta : s'.maxMeta = s.maxMeta
  parMeta : s'.parMeta = s.parMeta
  metaDone : s'.metaDone = s.metaDone
  nUnchoke : s'.nUnchoke = s.nUnchoke
  nOptimistic : s'.nOptimistic = s.nOptimistic
  stopHang : s'.stopHang = s.stopHang
  dials : s'.dials = s.dials
  banned : s'.banned = s.banned
  panicked : s'.panicked = s.panicked
  gateOpen : s'.gateOpen = s.gateOpen
  gateWrite : s'.gateWrite = s.gateWrite
  gateRead : s'.gateRead = s.gateRead
  failWrite : s'.failWrite = s.failWrite
  failOpen : s'.failOpen = s.failOpen
  failAt : s'.failAt = s.failAt
  gateWriteDone : s'.gateWriteDone = s.gateWriteDone
  sto : s'.sto = s.sto
  persisted : s'.persisted = s.persisted
  tainted : s'.tainted = s.tainted
@[frame] theorem handleMetadataReject_writes (m : M) (k : Nat) :
    Writes [peers, dls, idls, mayStartI, unchoked, optimistic, mayStart, closedDl]
    m.1 (handleMetadataReject m k).1 :=
  .intro (by unfold handleMetadataReject; frame)
theorem handleMetadataReject_frame (m : M) (k : Nat) : Fr_handleMetadataReject m.1 (handleMetadataReject m k).1 :=
  have h := handleMetadataReject_writes m k
  ⟨h.cfg, h.info, h.infoAtAdd, h.errC, h.stopAnn, h.allocator, h.verifier, h.completed, h.completeCClosed,
   h.doVerify, h.lastErr, h.loaded, h.gen, h.acceptor, h.openFiles, h.leaked, h.bf, h.done, h.writing, h.wflag,
   h.fileExists, h.known, h.bad, h.isize, h.maxMeta, h.parMeta, h.metaDone, h.nUnchoke, h.nOptimistic,
   h.stopHang, h.dials, h.banned, h.panicked, h.gateOpen, h.gateWrite, h.gateRead, h.failWrite, h.failOpen,
   h.failAt, h.gateWriteDone, h.sto, h.persisted, h.tainted⟩
@[simp] theorem handleMetadataReject_lastErr (m : M) (k : Nat) : (handleMetadataReject m k).1.lastErr = m.1.lastErr := (handleMetadataReject_frame m k).lastErr
@[simp] theorem handleMetadataReject_acceptor (m : M) (k : Nat) : (handleMetadataReject m k).1.acceptor = m.1.acceptor := (handleMetadataReject_frame m k).acceptor
@[simp] theorem handleMetadataReject_openFiles (m : M) (k : Nat) : (handleMetadataReject m k).1.openFiles = m.1.openFiles := (handleMetadataReject_frame m k).openFiles
@[simp] theorem handleMetadataReject_done (m : M) (k : Nat) : (handleMetadataReject m k).1.done = m.1.done := (handleMetadataReject_frame m k).done
@[simp] theorem handleMetadataReject_wflag (m : M) (k : Nat) : (handleMetadataReject m k).1.wflag = m.1.wflag := (handleMetadataReject_frame m k).wflag
@[simp] theorem handleMetadataReject_known (m : M) (k : Nat) : (handleMetadataReject m k).1.known = m.1.known := (handleMetadataReject_frame m k).known
@[simp] theorem handleMetadataReject_metaDone (m : M) (k : Nat) : (handleMetadataReject m k).1.metaDone = m.1.metaDone := (handleMetadataReject_frame m k).metaDone
@[simp] theorem handleMetadataReject_nUnchoke (m : M) (k : Nat) : (handleMetadataReject m k).1.nUnchoke = m.1.nUnchoke := (handleMetadataReject_frame m k).nUnchoke
@[simp] theorem handleMetadataReject_nOptimistic (m : M) (k : Nat) : (handleMetadataReject m k).1.nOptimistic = m.1.nOptimistic := (handleMetadataReject_frame m k).nOptimistic
@[simp] theorem handleMetadataReject_stopHang (m : M) (k : Nat) : (handleMetadataReject m k).1.stopHang = m.1.stopHang := (handleMetadataReject_frame m k).stopHang
@[simp] theorem handleMetadataReject_banned (m : M) (k : Nat) : (handleMetadataReject m k).1.banned = m.1.banned := (handleMetadataReject_frame m k).banned
@[simp] theorem handleMetadataReject_gateOpen (m : M) (k : Nat) : (handleMetadataReject m k).1.gateOpen = m.1.gateOpen := (handleMetadataReject_frame m k).gateOpen
@[simp] theorem handleMetadataReject_gateWrite (m : M) (k : Nat) : (handleMetadataReject m k).1.gateWrite = m.1.gateWrite := (handleMetadataReject_frame m k).gateWrite
@[simp] theorem handleMetadataReject_gateRead (m : M) (k : Nat) : (handleMetadataReject m k).1.gateRead = m.1.gateRead := (handleMetadataReject_frame m k).gateRead
@[simp] theorem handleMetadataReject_failWrite (m : M) (k : Nat) : (handleMetadataReject m k).1.failWrite = m.1.failWrite := (handleMetadataReject_frame m k).failWrite
@[simp] theorem handleMetadataReject_failOpen (m : M) (k : Nat) : (handleMetadataReject m k).1.failOpen = m.1.failOpen := (handleMetadataReject_frame m k).failOpen
@[simp] theorem handleMetadataReject_failAt (m : M) (k : Nat) : (handleMetadataReject m k).1.failAt = m.1.failAt := (handleMetadataReject_frame m k).failAt
@[simp] theorem handleMetadataReject_gateWriteDone (m : M) (k : Nat) : (handleMetadataReject m k).1.gateWriteDone = m.1.gateWriteDone := (handleMetadataReject_frame m k).gateWriteDone
@[simp] theorem handleMetadataReject_sto (m : M) (k : Nat) : (handleMetadataReject m k).1.sto = m.1.sto := (handleMetadataReject_frame m k).sto
@[simp] theorem handleMetadataReject_tainted (m : M) (k : Nat) : (handleMetadataReject m k).1.tainted = m.1.tainted := (handleMetadataReject_frame m k).tainted
@[simp] theorem handleMetadataReject_status (m : M) (k : Nat) : (handleMetadataReject m k).1.status = m.1.status := (handleMetadataReject_writes m k).status
@[simp] theorem handleMetadataReject_n (m : M) (k : Nat) : (handleMetadataReject m k).1.n = m.1.n := (handleMetadataReject_writes m k).n
@[simp] theorem handleMetadataReject_diskOKi (m : M) (k : Nat) (i : Nat) : (handleMetadataReject m k).1.diskOKi i = m.1.diskOKi i := (handleMetadataReject_writes m k).diskOKi i
@[simp] theorem handleMetadataReject_diskOK (m : M) (k : Nat) : (handleMetadataReject m k).1.diskOK = m.1.diskOK := (handleMetadataReject_writes m k).diskOK

structure Fr_handleNewPeers (s s' : St) : Prop where
  cfg : s'.cfg = s.cfg
  info : s'.info = s.info
  infoAtAdd : s'.infoAtAdd = s.infoAtAdd
  errC : s'.errC = s.errC
  stopAnn : s'.stopAnn = s.stopAnn
  allocator : s'.allocator = s.allocator
  verifier : s'.verifier = s.verifier
  completed : s'.completed = s.completed
  completeCClosed : s'.completeCClosed = s.completeCClosed
  doVerify : s'.doVerify = s.doVerify
  lastErr : s'.lastErr = s.lastErr
  loaded : s'.loaded = s.loaded
  gen : s'.gen = s.gen
  acceptor : s'.acceptor = s.acceptor
  openFiles : s'.openFiles = s.openFiles
  leaked : s'.leaked = s.leaked
  bf : s'.bf = s.bf
  done : s'.done = s.done
  writing : s'.writing = s.writing
  wflag : s'.wflag = s.wflag
  fileExists : s'.fileExists = s.fileExists
  known : s'.known = s.known
  bad : s'.bad = s.bad
  peers : s'.peers = s.peers
  dls : s'.dls = s.dls
  idls : s'.idls = s.idls
  isize : s'.isize = s.isize
  maxMeta : s'.maxMeta = s.maxMeta
  parMeta : s'.parMeta = s.parMeta
  mayStartI : s'.mayStartI = s.mayStartI
  metaDone : s'.metaDone = s.metaDone
  unchoked : s'.unchoked = s.unchoked
  optimistic : s'.optimistic = s.optimistic
  nUnchoke : s'.nUnchoke = s.nUnchoke
  nOptimistic : s'.nOptimistic = s.nOptimistic
  stopHang : s'.stopHang = s.stopHang
  banned : s'.banned = s.banned
  panicked : s'.panicked = s.panicked
  gateOpen : s'.gateOpen = s.gateOpen
  gateWrite : s'.gateWrite = s.gateWrite
  gateRead : s'.gateRead = s.gateRead
  failWrite : s'.failWrite = s.failWrite
  failOpen : s'.failOpen = s.failOpen
  failAt : s'.failAt = s.failAt
  gateWriteDone : s'.gateWriteDone = s.gateWriteDone
  sto : s'.sto = s.sto
  mayStart : s'.mayStart = s.mayStart
  closedDl : s'.closedDl = s.closedDl
  persisted : s'.persisted = s.persisted
  tainted : s'.tainted = s.tainted
@[frame] theorem handleNewPeers_writes (m : M) (ne : Bool) : Writes [dials] m.1 (handleNewPeers m ne).1 :=
  .intro (by unfold handleNewPeers; frame)
theorem handleNewPeers_frame (m : M) (ne : Bool) : Fr_handleNewPeers m.1 (handleNewPeers m ne).1 :=
  have h := handleNewPeers_writes m ne
  ⟨h.cfg, h.info, h.infoAtAdd, h.errC, h.stopAnn, h.allocator, h.verifier, h.completed, h.completeCClosed,
   h.doVerify, h.lastErr, h.loaded, h.gen, h.acceptor, h.openFiles, h.leaked, h.bf, h.done, h.writing, h.wflag,
   h.fileExists, h.known, h.bad, h.peers, h.dls, h.idls, h.isize, h.maxMeta, h.parMeta, h.mayStartI,
   h.metaDone, h.unchoked, h.optimistic, h.nUnchoke, h.nOptimistic, h.stopHang, h.banned, h.panicked,
   h.gateOpen, h.gateWrite, h.gateRead, h.failWrite, h.failOpen, h.failAt, h.gateWriteDone, h.sto, h.mayStart,
   h.closedDl, h.persisted, h.tainted⟩
@[simp] theorem handleNewPeers_status (m : M) (ne : Bool) : (handleNewPeers m ne).1.status = m.1.status := (handleNewPeers_writes m ne).status
@[simp] theorem handleNewPeers_n (m : M) (ne : Bool) : (handleNewPeers m ne).1.n = m.1.n := (handleNewPeers_writes m ne).n
@[simp] theorem handleNewPeers_diskOKi (m : M) (ne : Bool) (i : Nat) : (handleNewPeers m ne).1.diskOKi i = m.1.diskOKi i := (handleNewPeers_writes m ne).diskOKi i
@[simp] theorem handleNewPeers_diskOK (m : M) (ne : Bool) : (handleNewPeers m ne).1.diskOK = m.1.diskOK := (handleNewPeers_writes m ne).diskOK
@[simp] theorem handleNewPeers_findPeer (m : M) (ne : Bool) (k' : Nat) : (handleNewPeers m ne).1.findPeer k' = m.1.findPeer k' := (handleNewPeers_writes m ne).findPeer k'
@[simp] theorem handleNewPeers_findDl (m : M) (ne : Bool) (k' : Nat) : (handleNewPeers m ne).1.findDl k' = m.1.findDl k' := (handleNewPeers_writes m ne).findDl k'

structure Fr_handlePex (s s' : St) : Prop where
  cfg : s'.cfg = s.cfg
  info : s'.info = s.info
  infoAtAdd : s'.infoAtAdd = s.infoAtAdd
  errC : s'.errC = s.errC
  stopAnn : s'.stopAnn = s.stopAnn
  allocator : s'.allocator = s.allocator
  verifier : s'.verifier = s.verifier
  completed : s'.completed = s.completed
  completeCClosed : s'.completeCClosed = s.completeCClosed
  doVerify : s'.doVerify = s.doVerify
  lastErr : s'.lastErr = s.lastErr
  loaded : s'.loaded = s.loaded
  gen : s'.gen = s.gen
  acceptor : s'.acceptor = s.acceptor
  openFiles : s'.openFiles = s.openFiles
  leaked : s'.leaked = s.leaked
  bf : s'.bf = s.bf
  done : s'.done = s.done
  writing : s'.writing = s.writing
  wflag : s'.wflag = s.wflag
  fileExists : s'.fileExists = s.fileExists
  known : s'.known = s.known
  bad : s'.bad = s.bad
  peers : s'.peers = s.peers
  dls : s'.dls = s.dls
  idls : s'.idls = s.idls
  isize : s'.isize = s.isize
  maxMeta : s'.maxMeta = s.maxMeta
  parMeta : s'.parMeta = s.parMeta
  mayStartI : s'.mayStartI = s.mayStartI
  metaDone : s'.metaDone = s.metaDone
  unchoked : s'.unchoked = s.unchoked
  optimistic : s'.optimistic = s.optimistic
  nUnchoke : s'.nUnchoke = s.nUnchoke
  nOptimistic : s'.nOptimistic = s.nOptimistic
  stopHang : s'.stopHang = s.stopHang
  banned : s'.banned = s.banned
  panicked : s'.panicked = s.panicked
  gateOpen : s'.gateOpen = s.gateOpen
  gateWrite : s'.gateWrite = s.gateWrite
  gateRead : s'.gateRead = s.gateRead
  failWrite : s'.failWrite = s.failWrite
  failOpen : s'.failOpen = s.failOpen
  failAt : s'.failAt = s.failAt
  gateWriteDone : s'.gateWriteDone = s.gateWriteDone
  sto : s'.sto = s.sto
  mayStart : s'.mayStart = s.mayStart
  closedDl : s'.closedDl = s.closedDl
  persisted : s'.persisted = s.persisted
  tainted : s'.tainted = s.tainted
@[frame] theorem handlePex_writes (m : M) (a d : Bool) : Writes [dials] m.1 (handlePex m a d).1 :=
  .intro (by unfold handlePex; frame)
theorem handlePex_frame (m : M) (a d : Bool) : Fr_handlePex m.1 (handlePex m a d).1 :=
  have h := handlePex_writes m a d
  ⟨h.cfg, h.info, h.infoAtAdd, h.errC, h.stopAnn, h.allocator, h.verifier, h.completed, h.completeCClosed,
   h.doVerify, h.lastErr, h.loaded, h.gen, h.acceptor, h.openFiles, h.leaked, h.bf, h.done, h.writing, h.wflag,
   h.fileExists, h.known, h.bad, h.peers, h.dls, h.idls, h.isize, h.maxMeta, h.parMeta, h.mayStartI,
   h.metaDone, h.unchoked, h.optimistic, h.nUnchoke, h.nOptimistic, h.stopHang, h.banned, h.panicked,
   h.gateOpen, h.gateWrite, h.gateRead, h.failWrite, h.failOpen, h.failAt, h.gateWriteDone, h.sto, h.mayStart,
   h.closedDl, h.persisted, h.tainted⟩
@[simp] theorem handlePex_lastErr (m : M) (a d : Bool) : (handlePex m a d).1.lastErr = m.1.lastErr := (handlePex_frame m a d).lastErr
@[simp] theorem handlePex_known (m : M) (a d : Bool) : (handlePex m a d).1.known = m.1.known := (handlePex_frame m a d).known
@[simp] theorem handlePex_mayStartI (m : M) (a d : Bool) : (handlePex m a d).1.mayStartI = m.1.mayStartI := (handlePex_frame m a d).mayStartI
@[simp] theorem handlePex_metaDone (m : M) (a d : Bool) : (handlePex m a d).1.metaDone = m.1.metaDone := (handlePex_frame m a d).metaDone
@[simp] theorem handlePex_unchoked (m : M) (a d : Bool) : (handlePex m a d).1.unchoked = m.1.unchoked := (handlePex_frame m a d).unchoked
@[simp] theorem handlePex_optimistic (m : M) (a d : Bool) : (handlePex m a d).1.optimistic = m.1.optimistic := (handlePex_frame m a d).optimistic
@[simp] theorem handlePex_nUnchoke (m : M) (a d : Bool) : (handlePex m a d).1.nUnchoke = m.1.nUnchoke := (handlePex_frame m a d).nUnchoke
@[simp] theorem handlePex_nOptimistic (m : M) (a d : Bool) : (handlePex m a d).1.nOptimistic = m.1.nOptimistic := (handlePex_frame m a d).nOptimistic
@[simp] theorem handlePex_stopHang (m : M) (a d : Bool) : (handlePex m a d).1.stopHang = m.1.stopHang := (handlePex_frame m a d).stopHang
@[simp] theorem handlePex_banned (m : M) (a d : Bool) : (handlePex m a d).1.banned = m.1.banned := (handlePex_frame m a d).banned
@[simp] theorem handlePex_gateOpen (m : M) (a d : Bool) : (handlePex m a d).1.gateOpen = m.1.gateOpen := (handlePex_frame m a d).gateOpen
@[simp] theorem handlePex_gateWrite (m : M) (a d : Bool) : (handlePex m a d).1.gateWrite = m.1.gateWrite := (handlePex_frame m a d).gateWrite
@[simp] theorem handlePex_gateRead (m : M) (a d : Bool) : (handlePex m a d).1.gateRead = m.1.gateRead := (handlePex_frame m a d).gateRead
@[simp] theorem handlePex_failWrite (m : M) (a d : Bool) : (handlePex m a d).1.failWrite = m.1.failWrite := (handlePex_frame m a d).failWrite
@[simp] theorem handlePex_failOpen (m : M) (a d : Bool) : (handlePex m a d).1.failOpen = m.1.failOpen := (handlePex_frame m a d).failOpen
@[simp] theorem handlePex_failAt (m : M) (a d : Bool) : (handlePex m a d).1.failAt = m.1.failAt := (handlePex_frame m a d).failAt
@[simp] theorem handlePex_gateWriteDone (m : M) (a d : Bool) : (handlePex m a d).1.gateWriteDone = m.1.gateWriteDone := (handlePex_frame m a d).gateWriteDone
@[simp] theorem handlePex_sto (m : M) (a d : Bool) : (handlePex m a d).1.sto = m.1.sto := (handlePex_frame m a d).sto
@[simp] theorem handlePex_mayStart (m : M) (a d : Bool) : (handlePex m a d).1.mayStart = m.1.mayStart := (handlePex_frame m a d).mayStart
@[simp] theorem handlePex_closedDl (m : M) (a d : Bool) : (handlePex m a d).1.closedDl = m.1.closedDl := (handlePex_frame m a d).closedDl
@[simp] theorem handlePex_tainted (m : M) (a d : Bool) : (handlePex m a d).1.tainted = m.1.tainted := (handlePex_frame m a d).tainted
@[simp] theorem handlePex_status (m : M) (a d : Bool) : (handlePex m a d).1.status = m.1.status := (handlePex_writes m a d).status
@[simp] theorem handlePex_n (m : M) (a d : Bool) : (handlePex m a d).1.n = m.1.n := (handlePex_writes m a d).n
@[simp] theorem handlePex_diskOKi (m : M) (a d : Bool) (i : Nat) : (handlePex m a d).1.diskOKi i = m.1.diskOKi i := (handlePex_writes m a d).diskOKi i
@[simp] theorem handlePex_diskOK (m : M) (a d : Bool) : (handlePex m a d).1.diskOK = m.1.diskOK := (handlePex_writes m a d).diskOK
@[simp] theorem handlePex_findPeer (m : M) (a d : Bool) (k' : Nat) : (handlePex m a d).1.findPeer k' = m.1.findPeer k' := (handlePex_writes m a d).findPeer k'
@[simp] theorem handlePex_findDl (m : M) (a d : Bool) (k' : Nat) : (handlePex m a d).1.findDl k' = m.1.findDl k' := (handlePex_writes m a d).findDl k'

structure Fr_handleDhtPeers (s s' : St) : Prop where
  cfg : s'.cfg = s.cfg
  info : s'.info = s.info
  infoAtAdd : s'.infoAtAdd = s.infoAtAdd
  errC : s'.errC = s.errC
  stopAnn : s'.stopAnn = s.stopAnn
  allocator : s'.allocator = s.allocator
  verifier : s'.verifier = s.verifier
  completed : s'.completed = s.completed
  completeCClosed : s'.completeCClosed = s.completeCClosed
  doVerify : s'.doVerify = s.doVerify
  lastErr : s'.lastErr = s.lastErr
  loaded : s'.loaded = s.loaded
  gen : s'.gen = s.gen
  acceptor : s'.acceptor = s.acceptor
  openFiles : s'.openFiles = s.openFiles
  leaked : s'.leaked = s.leaked
  bf : s'.bf = s.bf
  done : s'.done = s.done
  writing : s'.writing = s.writing
  wflag : s'.wflag = s.wflag
  fileExists : s'.fileExists = s.fileExists
  known : s'.known = s.known
  bad : s'.bad = s.bad
  peers : s'.peers = s.peers
  dls : s'.dls = s.dls
  idls : s'.idls = s.idls
  isize : s'.isize = s.isize
  maxMeta : s'.maxMeta = s.maxMeta
  parMeta : s'.parMeta = s.parMeta
  mayStartI : s'.mayStartI = s.mayStartI
  metaDone : s'.metaDone = s.metaDone
  unchoked : s'.unchoked = s.unchoked
  optimistic : s'.optimistic = s.optimistic
  nUnchoke : s'.nUnchoke = s.nUnchoke
  nOptimistic : s'.nOptimistic = s.nOptimistic
  stopHang : s'.stopHang = s.stopHang
  banned : s'.banned = s.banned
  panicked : s'.panicked = s.panicked
  gateOpen : s'.gateOpen = s.gateOpen
  gateWrite : s'.gateWrite = s.gateWrite
  gateRead : s'.gateRead = s.gateRead
  failWrite : s'.failWrite = s.failWrite
  failOpen : s'.failOpen = s.failOpen
  failAt : s'.failAt = s.failAt
  gateWriteDone : s'.gateWriteDone = s.gateWriteDone
  sto : s'.sto = s.sto
  mayStart : s'.mayStart = s.mayStart
  closedDl : s'.closedDl = s.closedDl
  persisted : s'.persisted = s.persisted
  tainted : s'.tainted = s.tainted
@[frame] theorem handleDhtPeers_writes (m : M) (ne : Bool) : Writes [dials] m.1 (handleDhtPeers m ne).1 :=
  .intro (by unfold handleDhtPeers; frame)
theorem handleDhtPeers_frame (m : M) (ne : Bool) : Fr_handleDhtPeers m.1 (handleDhtPeers m ne).1 :=
  have h := handleDhtPeers_writes m ne
  ⟨h.cfg, h.info, h.infoAtAdd, h.errC, h.stopAnn, h.allocator, h.verifier, h.completed, h.completeCClosed,
   h.doVerify, h.lastErr, h.loaded, h.gen, h.acceptor, h.openFiles, h.leaked, h.bf, h.done, h.writing, h.wflag,
   h.fileExists, h.known, h.bad, h.peers, h.dls, h.idls, h.isize, h.maxMeta, h.parMeta, h.mayStartI,
   h.metaDone, h.unchoked, h.optimistic, h.nUnchoke, h.nOptimistic, h.stopHang, h.banned, h.panicked,
   h.gateOpen, h.gateWrite, h.gateRead, h.failWrite, h.failOpen, h.failAt, h.gateWriteDone, h.sto, h.mayStart,
   h.closedDl, h.persisted, h.tainted⟩
@[simp] theorem handleDhtPeers_lastErr (m : M) (ne : Bool) : (handleDhtPeers m ne).1.lastErr = m.1.lastErr := (handleDhtPeers_frame m ne).lastErr
@[simp] theorem handleDhtPeers_known (m : M) (ne : Bool) : (handleDhtPeers m ne).1.known = m.1.known := (handleDhtPeers_frame m ne).known
@[simp] theorem handleDhtPeers_mayStartI (m : M) (ne : Bool) : (handleDhtPeers m ne).1.mayStartI = m.1.mayStartI := (handleDhtPeers_frame m ne).mayStartI
@[simp] theorem handleDhtPeers_metaDone (m : M) (ne : Bool) : (handleDhtPeers m ne).1.metaDone = m.1.metaDone := (handleDhtPeers_frame m ne).metaDone
@[simp] theorem handleDhtPeers_unchoked (m : M) (ne : Bool) : (handleDhtPeers m ne).1.unchoked = m.1.unchoked := (handleDhtPeers_frame m ne).unchoked
@[simp] theorem handleDhtPeers_optimistic (m : M) (ne : Bool) : (handleDhtPeers m ne).1.optimistic = m.1.optimistic := (handleDhtPeers_frame m ne).optimistic
@[simp] theorem handleDhtPeers_nUnchoke (m : M) (ne : Bool) : (handleDhtPeers m ne).1.nUnchoke = m.1.nUnchoke := (handleDhtPeers_frame m ne).nUnchoke
@[simp] theorem handleDhtPeers_nOptimistic (m : M) (ne : Bool) : (handleDhtPeers m ne).1.nOptimistic = m.1.nOptimistic := (handleDhtPeers_frame m ne).nOptimistic
@[simp] theorem handleDhtPeers_stopHang (m : M) (ne : Bool) : (handleDhtPeers m ne).1.stopHang = m.1.stopHang := (handleDhtPeers_frame m ne).stopHang
@[simp] theorem handleDhtPeers_banned (m : M) (ne : Bool) : (handleDhtPeers m ne).1.banned = m.1.banned := (handleDhtPeers_frame m ne).banned
@[simp] theorem handleDhtPeers_gateOpen (m : M) (ne : Bool) : (handleDhtPeers m ne).1.gateOpen = m.1.gateOpen := (handleDhtPeers_frame m ne).gateOpen
@[simp] theorem handleDhtPeers_gateWrite (m : M) (ne : Bool) : (handleDhtPeers m ne).1.gateWrite = m.1.gateWrite := (handleDhtPeers_frame m ne).gateWrite
@[simp] theorem handleDhtPeers_gateRead (m : M) (ne : Bool) : (handleDhtPeers m ne).1.gateRead = m.1.gateRead := (handleDhtPeers_frame m ne).gateRead
@[simp] theorem handleDhtPeers_failWrite (m : M) (ne : Bool) : (handleDhtPeers m ne).1.failWrite = m.1.failWrite := (handleDhtPeers_frame m ne).failWrite
@[simp] theorem handleDhtPeers_failOpen (m : M) (ne : Bool) : (handleDhtPeers m ne).1.failOpen = m.1.failOpen := (handleDhtPeers_frame m ne).failOpen
@[simp] theorem handleDhtPeers_failAt (m : M) (ne : Bool) : (handleDhtPeers m ne).1.failAt = m.1.failAt := (handleDhtPeers_frame m ne).failAt
@[simp] theorem handleDhtPeers_gateWriteDone (m : M) (ne : Bool) : (handleDhtPeers m ne).1.gateWriteDone = m.1.gateWriteDone := (handleDhtPeers_frame m ne).gateWriteDone
@[simp] theorem handleDhtPeers_sto (m : M) (ne : Bool) : (handleDhtPeers m ne).1.sto = m.1.sto := (handleDhtPeers_frame m ne).sto
@[simp] theorem handleDhtPeers_mayStart (m : M) (ne : Bool) : (handleDhtPeers m ne).1.mayStart = m.1.mayStart := (handleDhtPeers_frame m ne).mayStart
@[simp] theorem handleDhtPeers_closedDl (m : M) (ne : Bool) : (handleDhtPeers m ne).1.closedDl = m.1.closedDl := (handleDhtPeers_frame m ne).closedDl
@[simp] theorem handleDhtPeers_tainted (m : M) (ne : Bool) : (handleDhtPeers m ne).1.tainted = m.1.tainted := (handleDhtPeers_frame m ne).tainted
@[simp] theorem handleDhtPeers_status (m : M) (ne : Bool) : (handleDhtPeers m ne).1.status = m.1.status := (handleDhtPeers_writes m ne).status
@[simp] theorem handleDhtPeers_n (m : M) (ne : Bool) : (handleDhtPeers m ne).1.n = m.1.n := (handleDhtPeers_writes m ne).n
@[simp] theorem handleDhtPeers_diskOKi (m : M) (ne : Bool) (i : Nat) : (handleDhtPeers m ne).1.diskOKi i = m.1.diskOKi i := (handleDhtPeers_writes m ne).diskOKi i
@[simp] theorem handleDhtPeers_diskOK (m : M) (ne : Bool) : (handleDhtPeers m ne).1.diskOK = m.1.diskOK := (handleDhtPeers_writes m ne).diskOK
@[simp] theorem handleDhtPeers_findPeer (m : M) (ne : Bool) (k' : Nat) : (handleDhtPeers m ne).1.findPeer k' = m.1.findPeer k' := (handleDhtPeers_writes m ne).findPeer k'
@[simp] theorem handleDhtPeers_findDl (m : M) (ne : Bool) (k' : Nat) : (handleDhtPeers m ne).1.findDl k' = m.1.findDl k' := (handleDhtPeers_writes m ne).findDl k'

structure Fr_handlePeerSnubbed (s s' : St) : Prop where
  cfg : s'.cfg = s.cfg
  info : s'.info = s.info
  infoAtAdd : s'.infoAtAdd = s.infoAtAdd
  errC : s'.errC = s.errC
  stopAnn : s'.stopAnn = s.stopAnn
  allocator : s'.allocator = s.allocator
  verifier : s'.verifier = s.verifier
  completed : s'.completed = s.completed
  completeCClosed : s'.completeCClosed = s.completeCClosed
  doVerify : s'.doVerify = s.doVerify
  lastErr : s'.lastErr = s.lastErr
  loaded : s'.loaded = s.loaded
  gen : s'.gen = s.gen
  acceptor : s'.acceptor = s.acceptor
  openFiles : s'.openFiles = s.openFiles
  leaked : s'.leaked = s.leaked
  bf : s'.bf = s.bf
  done : s'.done = s.done
  writing : s'.writing = s.writing
  wflag : s'.wflag = s.wflag
  fileExists : s'.fileExists = s.fileExists
  known : s'.known = s.known
  bad : s'.bad = s.bad
  isize : s'.isize = s.isize
  maxMeta : s'.maxMeta = s.maxMeta
  parMeta : s'.parMeta = s.parMeta
  metaDone : s'.metaDone = s.metaDone
  unchoked : s'.unchoked = s.unchoked
  optimistic : s'.optimistic = s.optimistic
  nUnchoke : s'.nUnchoke = s.nUnchoke
  nOptimistic : s'.nOptimistic = s.nOptimistic
  stopHang : s'.stopHang = s.stopHang
  dials : s'.dials = s.dials
  banned : s'.banned = s.banned
  panicked : s'.panicked = s.panicked
  gateOpen : s'.gateOpen = s.gateOpen
  gateWrite : s'.gateWrite = s.gateWrite
  gateRead : s'.gateRead = s.gateRead
  failWrite : s'.failWrite = s.failWrite
  failOpen : s'.failOpen = s.failOpen
  failAt : s'.failAt = s.failAt
  gateWriteDone : s'.gateWriteDone = s.gateWriteDone
  sto : s'.sto = s.sto
  closedDl : s'.closedDl = s.closedDl
  persisted : s'.persisted = s.persisted
  tainted : s'.tainted = s.tainted
@[frame] theorem handlePeerSnubbed_writes (m : M) (k : Nat) :
    Writes [peers, dls, idls, mayStartI, mayStart]
    m.1 (handlePeerSnubbed m k).1 :=
  .intro (by unfold handlePeerSnubbed; split <;> frame)
theorem handlePeerSnubbed_frame (m : M) (k : Nat) : Fr_handlePeerSnubbed m.1 (handlePeerSnubbed m k).1 :=
  have h := handlePeerSnubbed_writes m k
  ⟨h.cfg, h.info, h.infoAtAdd, h.errC, h.stopAnn, h.allocator, h.verifier, h.completed, h.completeCClosed,
   h.doVerify, h.lastErr, h.loaded, h.gen, h.acceptor, h.openFiles, h.leaked, h.bf, h.done, h.writing, h.wflag,
   h.fileExists, h.known, h.bad, h.isize, h.maxMeta, h.parMeta, h.metaDone, h.unchoked, h.optimistic,
   h.nUnchoke, h.nOptimistic, h.stopHang, h.dials, h.banned, h.panicked, h.gateOpen, h.gateWrite, h.gateRead,
   h.failWrite, h.failOpen, h.failAt, h.gateWriteDone, h.sto, h.closedDl, h.persisted, h.tainted⟩
@[simp] theorem handlePeerSnubbed_lastErr (m : M) (k : Nat) : (handlePeerSnubbed m k).1.lastErr = m.1.lastErr := (handlePeerSnubbed_frame m k).lastErr
@[simp] theorem handlePeerSnubbed_acceptor (m : M) (k : Nat) : (handlePeerSnubbed m k).1.acceptor = m.1.acceptor := (handlePeerSnubbed_frame m k).acceptor
@[simp] theorem handlePeerSnubbed_openFiles (m : M) (k : Nat) : (handlePeerSnubbed m k).1.openFiles = m.1.openFiles := (handlePeerSnubbed_frame m k).openFiles
@[simp] theorem handlePeerSnubbed_done (m : M) (k : Nat) : (handlePeerSnubbed m k).1.done = m.1.done := (handlePeerSnubbed_frame m k).done
@[simp] theorem handlePeerSnubbed_wflag (m : M) (k : Nat) : (handlePeerSnubbed m k).1.wflag = m.1.wflag := (handlePeerSnubbed_frame m k).wflag
@[simp] theorem handlePeerSnubbed_known (m : M) (k : Nat) : (handlePeerSnubbed m k).1.known = m.1.known := (handlePeerSnubbed_frame m k).known
@[simp] theorem handlePeerSnubbed_metaDone (m : M) (k : Nat) : (handlePeerSnubbed m k).1.metaDone = m.1.metaDone := (handlePeerSnubbed_frame m k).metaDone
@[simp] theorem handlePeerSnubbed_unchoked (m : M) (k : Nat) : (handlePeerSnubbed m k).1.unchoked = m.1.unchoked := (handlePeerSnubbed_frame m k).unchoked
@[simp] theorem handlePeerSnubbed_optimistic (m : M) (k : Nat) : (handlePeerSnubbed m k).1.optimistic = m.1.optimistic := (handlePeerSnubbed_frame m k).optimistic
@[simp] theorem handlePeerSnubbed_nUnchoke (m : M) (k : Nat) : (handlePeerSnubbed m k).1.nUnchoke = m.1.nUnchoke := (handlePeerSnubbed_frame m k).nUnchoke
@[simp] theorem handlePeerSnubbed_nOptimistic (m : M) (k : Nat) : (handlePeerSnubbed m k).1.nOptimistic = m.1.nOptimistic := (handlePeerSnubbed_frame m k).nOptimistic
@[simp] theorem handlePeerSnubbed_stopHang (m : M) (k : Nat) : (handlePeerSnubbed m k).1.stopHang = m.1.stopHang := (handlePeerSnubbed_frame m k).stopHang
@[simp] theorem handlePeerSnubbed_banned (m : M) (k : Nat) : (handlePeerSnubbed m k).1.banned = m.1.banned := (handlePeerSnubbed_frame m k).banned
@[simp] theorem handlePeerSnubbed_gateOpen (m : M) (k : Nat) : (handlePeerSnubbed m k).1.gateOpen = m.1.gateOpen := (handlePeerSnubbed_frame m k).gateOpen
@[simp] theorem handlePeerSnubbed_gateWrite (m : M) (k : Nat) : (handlePeerSnubbed m k).1.gateWrite = m.1.gateWrite := (handlePeerSnubbed_frame m k).gateWrite
@[simp] theorem handlePeerSnubbed_gateRead (m : M) (k : Nat) : (handlePeerSnubbed m k).1.gateRead = m.1.gateRead := (handlePeerSnubbed_frame m k).gateRead
@[simp] theorem handlePeerSnubbed_failWrite (m : M) (k : Nat) : (handlePeerSnubbed m k).1.failWrite = m.1.failWrite := (handlePeerSnubbed_frame m k).failWrite
@[simp] theorem handlePeerSnubbed_failOpen (m : M) (k : Nat) : (handlePeerSnubbed m k).1.failOpen = m.1.failOpen := (handlePeerSnubbed_frame m k).failOpen
@[simp] theorem handlePeerSnubbed_failAt (m : M) (k : Nat) : (handlePeerSnubbed m k).1.failAt = m.1.failAt := (handlePeerSnubbed_frame m k).failAt
@[simp] theorem handlePeerSnubbed_gateWriteDone (m : M) (k : Nat) : (handlePeerSnubbed m k).1.gateWriteDone = m.1.gateWriteDone := (handlePeerSnubbed_frame m k).gateWriteDone
@[simp] theorem handlePeerSnubbed_sto (m : M) (k : Nat) : (handlePeerSnubbed m k).1.sto = m.1.sto := (handlePeerSnubbed_frame m k).sto
@[simp] theorem handlePeerSnubbed_closedDl (m : M) (k : Nat) : (handlePeerSnubbed m k).1.closedDl = m.1.closedDl := (handlePeerSnubbed_frame m k).closedDl
@[simp] theorem handlePeerSnubbed_tainted (m : M) (k : Nat) : (handlePeerSnubbed m k).1.tainted = m.1.tainted := (handlePeerSnubbed_frame m k).tainted
@[simp] theorem handlePeerSnubbed_status (m : M) (k : Nat) : (handlePeerSnubbed m k).1.status = m.1.status := (handlePeerSnubbed_writes m k).status
@[simp] theorem handlePeerSnubbed_n (m : M) (k : Nat) : (handlePeerSnubbed m k).1.n = m.1.n := (handlePeerSnubbed_writes m k).n
@[simp] theorem handlePeerSnubbed_diskOKi (m : M) (k : Nat) (i : Nat) : (handlePeerSnubbed m k).1.diskOKi i = m.1.diskOKi i := (handlePeerSnubbed_writes m k).diskOKi i
@[simp] theorem handlePeerSnubbed_diskOK (m : M) (k : Nat) : (handlePeerSnubbed m k).1.diskOK = m.1.diskOK := (handlePeerSnubbed_writes m k).diskOK

structure Fr_acceptPeer (s s' : St) : Prop where
  cfg : s'.cfg = s.cfg
  info : s'.info = s.info
  infoAtAdd : s'.infoAtAdd = s.infoAtAdd
  errC : s'.errC = s.errC
  stopAnn : s'.stopAnn = s.stopAnn
  allocator : s'.allocator = s.allocator
  verifier : s'.verifier = s.verifier
  completed : s'.completed = s.completed
  completeCClosed : s'.completeCClosed = s.completeCClosed
  doVerify : s'.doVerify = s.doVerify
  lastErr : s'.lastErr = s.lastErr
  loaded : s'.loaded = s.loaded
  gen : s'.gen = s.gen
  acceptor : s'.acceptor = s.acceptor
  openFiles : s'.openFiles = s.openFiles
  leaked : s'.leaked = s.leaked
  bf : s'.bf = s.bf
  done : s'.done = s.done
  writing : s'.writing = s.writing
  wflag : s'.wflag = s.wflag
  fileExists : s'.fileExists = s.fileExists
  known : s'.known = s.known
  bad : s'.bad = s.bad
  dls : s'.dls = s.dls
  idls : s'.idls = s.idls
  isize : s'.isize = s.isize
  maxMeta : s'.maxMeta = s.maxMeta
  parMeta : s'.parMeta = s.parMeta
  mayStartI : s'.mayStartI = s.mayStartI
  metaDone : s'.metaDone = s.metaDone
  unchoked : s'.unchoked = s.unchoked
  optimistic : s'.optimistic = s.optimistic
  nUnchoke : s'.nUnchoke = s.nUnchoke
  nOptimistic : s'.nOptimistic = s.nOptimistic
  stopHang : s'.stopHang = s.stopHang
  dials : s'.dials = s.dials
  banned : s'.banned = s.banned
  panicked : s'.panicked = s.panicked
  gateOpen : s'.gateOpen = s.gateOpen
  gateWrite : s'.gateWrite = s.gateWrite
  gateRead : s'.gateRead = s.gateRead
  failWrite : s'.failWrite = s.failWrite
  failOpen : s'.failOpen = s.failOpen
  failAt : s'.failAt = s.failAt
  gateWriteDone : s'.gateWriteDone = s.gateWriteDone
  sto : s'.sto = s.sto
  mayStart : s'.mayStart = s.mayStart
  closedDl : s'.closedDl = s.closedDl
  persisted : s'.persisted = s.persisted
  tainted : s'.tainted = s.tainted
@[frame] theorem acceptPeer_writes (m : M) (k : Nat) (ip : String) (fast ext bad dup : Bool) :
    Writes [peers]
    m.1 (acceptPeer m k ip fast ext bad dup).1.1 :=
  .intro (by unfold acceptPeer; frame)
theorem acceptPeer_frame (m : M) (k : Nat) (ip : String) (fast ext bad dup : Bool) : Fr_acceptPeer m.1 (acceptPeer m k ip fast ext bad dup).1.1 :=
  have h := acceptPeer_writes m k ip fast ext bad dup
  ⟨h.cfg, h.info, h.infoAtAdd, h.errC, h.stopAnn, h.allocator, h.verifier, h.completed, h.completeCClosed,
   h.doVerify, h.lastErr, h.loaded, h.gen, h.acceptor, h.openFiles, h.leaked, h.bf, h.done, h.writing, h.wflag,
   h.fileExists, h.known, h.bad, h.dls, h.idls, h.isize, h.maxMeta, h.parMeta, h.mayStartI, h.metaDone,
   h.unchoked, h.optimistic, h.nUnchoke, h.nOptimistic, h.stopHang, h.dials, h.banned, h.panicked, h.gateOpen,
   h.gateWrite, h.gateRead, h.failWrite, h.failOpen, h.failAt, h.gateWriteDone, h.sto, h.mayStart, h.closedDl,
   h.persisted, h.tainted⟩
@[simp] theorem acceptPeer_lastErr (m : M) (k : Nat) (ip : String) (fast ext bad dup : Bool) : (acceptPeer m k ip fast ext bad dup).1.1.lastErr = m.1.lastErr := (acceptPeer_frame m k ip fast ext bad dup).lastErr
@[simp] theorem acceptPeer_acceptor (m : M) (k : Nat) (ip : String) (fast ext bad dup : Bool) : (acceptPeer m k ip fast ext bad dup).1.1.acceptor = m.1.acceptor := (acceptPeer_frame m k ip fast ext bad dup).acceptor
@[simp] theorem acceptPeer_openFiles (m : M) (k : Nat) (ip : String) (fast ext bad dup : Bool) : (acceptPeer m k ip fast ext bad dup).1.1.openFiles = m.1.openFiles := (acceptPeer_frame m k ip fast ext bad dup).openFiles
@[simp] theorem acceptPeer_known (m : M) (k : Nat) (ip : String) (fast ext bad dup : Bool) : (acceptPeer m k ip fast ext bad dup).1.1.known = m.1.known := (acceptPeer_frame m k ip fast ext bad dup).known
@[simp] theorem acceptPeer_mayStartI (m : M) (k : Nat) (ip : String) (fast ext bad dup : Bool) : (acceptPeer m k ip fast ext bad dup).1.1.mayStartI = m.1.mayStartI := (acceptPeer_frame m k ip fast ext bad dup).mayStartI
@[simp] theorem acceptPeer_metaDone (m : M) (k : Nat) (ip : String) (fast ext bad dup : Bool) : (acceptPeer m k ip fast ext bad dup).1.1.metaDone = m.1.metaDone := (acceptPeer_frame m k ip fast ext bad dup).metaDone
@[simp] theorem acceptPeer_unchoked (m : M) (k : Nat) (ip : String) (fast ext bad dup : Bool) : (acceptPeer m k ip fast ext bad dup).1.1.unchoked = m.1.unchoked := (acceptPeer_frame m k ip fast ext bad dup).unchoked
@[simp] theorem acceptPeer_optimistic (m : M) (k : Nat) (ip : String) (fast ext bad dup : Bool) : (acceptPeer m k ip fast ext bad dup).1.1.optimistic = m.1.optimistic := (acceptPeer_frame m k ip fast ext bad dup).optimistic
@[simp] theorem acceptPeer_nUnchoke (m : M) (k : Nat) (ip : String) (fast ext bad dup : Bool) : (acceptPeer m k ip fast ext bad dup).1.1.nUnchoke = m.1.nUnchoke := (acceptPeer_frame m k ip fast ext bad dup).nUnchoke
@[simp] theorem acceptPeer_nOptimistic (m : M) (k : Nat) (ip : String) (fast ext bad dup : Bool) : (acceptPeer m k ip fast ext bad dup).1.1.nOptimistic = m.1.nOptimistic := (acceptPeer_frame m k ip fast ext bad dup).nOptimistic
@[simp] theorem acceptPeer_stopHang (m : M) (k : Nat) (ip : String) (fast ext bad dup : Bool) : (acceptPeer m k ip fast ext bad dup).1.1.stopHang = m.1.stopHang := (acceptPeer_frame m k ip fast ext bad dup).stopHang
@[simp] theorem acceptPeer_banned (m : M) (k : Nat) (ip : String) (fast ext bad dup : Bool) : (acceptPeer m k ip fast ext bad dup).1.1.banned = m.1.banned := (acceptPeer_frame m k ip fast ext bad dup).banned
@[simp] theorem acceptPeer_gateOpen (m : M) (k : Nat) (ip : String) (fast ext bad dup : Bool) : (acceptPeer m k ip fast ext bad dup).1.1.gateOpen = m.1.gateOpen := (acceptPeer_frame m k ip fast ext bad dup).gateOpen
@[simp] theorem acceptPeer_gateWrite (m : M) (k : Nat) (ip : String) (fast ext bad dup : Bool) : (acceptPeer m k ip fast ext bad dup).1.1.gateWrite = m.1.gateWrite := (acceptPeer_frame m k ip fast ext bad dup).gateWrite
@[simp] theorem acceptPeer_gateRead (m : M) (k : Nat) (ip : String) (fast ext bad dup : Bool) : (acceptPeer m k ip fast ext bad dup).1.1.gateRead = m.1.gateRead := (acceptPeer_frame m k ip fast ext bad dup).gateRead
@[simp] theorem acceptPeer_failWrite (m : M) (k : Nat) (ip : String) (fast ext bad dup : Bool) : (acceptPeer m k ip fast ext bad dup).1.1.failWrite = m.1.failWrite := (acceptPeer_frame m k ip fast ext bad dup).failWrite
@[simp] theorem acceptPeer_failOpen (m : M) (k : Nat) (ip : String) (fast ext bad dup : Bool) : (acceptPeer m k ip fast ext bad dup).1.1.failOpen = m.1.failOpen := (acceptPeer_frame m k ip fast ext bad dup).failOpen
@[simp] theorem acceptPeer_failAt (m : M) (k : Nat) (ip : String) (fast ext bad dup : Bool) : (acceptPeer m k ip fast ext bad dup).1.1.failAt = m.1.failAt := (acceptPeer_frame m k ip fast ext bad dup).failAt
@[simp] theorem acceptPeer_gateWriteDone (m : M) (k : Nat) (ip : String) (fast ext bad dup : Bool) : (acceptPeer m k ip fast ext bad dup).1.1.gateWriteDone = m.1.gateWriteDone := (acceptPeer_frame m k ip fast ext bad dup).gateWriteDone
@[simp] theorem acceptPeer_sto (m : M) (k : Nat) (ip : String) (fast ext bad dup : Bool) : (acceptPeer m k ip fast ext bad dup).1.1.sto = m.1.sto := (acceptPeer_frame m k ip fast ext bad dup).sto
@[simp] theorem acceptPeer_mayStart (m : M) (k : Nat) (ip : String) (fast ext bad dup : Bool) : (acceptPeer m k ip fast ext bad dup).1.1.mayStart = m.1.mayStart := (acceptPeer_frame m k ip fast ext bad dup).mayStart
@[simp] theorem acceptPeer_closedDl (m : M) (k : Nat) (ip : String) (fast ext bad dup : Bool) : (acceptPeer m k ip fast ext bad dup).1.1.closedDl = m.1.closedDl := (acceptPeer_frame m k ip fast ext bad dup).closedDl
@[simp] theorem acceptPeer_tainted (m : M) (k : Nat) (ip : String) (fast ext bad dup : Bool) : (acceptPeer m k ip fast ext bad dup).1.1.tainted = m.1.tainted := (acceptPeer_frame m k ip fast ext bad dup).tainted
@[simp] theorem acceptPeer_status (m : M) (k : Nat) (ip : String) (fast ext bad dup : Bool) : (acceptPeer m k ip fast ext bad dup).1.1.status = m.1.status := (acceptPeer_writes m k ip fast ext bad dup).status
@[simp] theorem acceptPeer_n (m : M) (k : Nat) (ip : String) (fast ext bad dup : Bool) : (acceptPeer m k ip fast ext bad dup).1.1.n = m.1.n := (acceptPeer_writes m k ip fast ext bad dup).n
@[simp] theorem acceptPeer_diskOKi (m : M) (k : Nat) (ip : String) (fast ext bad dup : Bool) (i : Nat) : (acceptPeer m k ip fast ext bad dup).1.1.diskOKi i = m.1.diskOKi i := (acceptPeer_writes m k ip fast ext bad dup).diskOKi i
@[simp] theorem acceptPeer_diskOK (m : M) (k : Nat) (ip : String) (fast ext bad dup : Bool) : (acceptPeer m k ip fast ext bad dup).1.1.diskOK = m.1.diskOK := (acceptPeer_writes m k ip fast ext bad dup).diskOK
@[simp] theorem acceptPeer_findDl (m : M) (k : Nat) (ip : String) (fast ext bad dup : Bool) (k' : Nat) : (acceptPeer m k ip fast ext bad dup).1.1.findDl k' = m.1.findDl k' := (acceptPeer_writes m k ip fast ext bad dup).findDl k'

@[frame] theorem mutate_writes (s : St) (file : Option Nat) (how : Mut) :
    Writes [fileExists, bad, tainted]
    s (mutate s file how) :=
  .intro (by
    unfold mutate
    refine foldl_keep (St.mask _) _ (fun s f => ?_) _ _
    (repeat' split) <;> rfl)
@[simp] theorem mutate_cfg (s : St) (file : Option Nat) (how : Mut) : (mutate s file how).cfg = s.cfg := (mutate_writes s file how).cfg
@[simp] theorem mutate_completed (s : St) (file : Option Nat) (how : Mut) : (mutate s file how).completed = s.completed := (mutate_writes s file how).completed
@[simp] theorem mutate_lastErr (s : St) (file : Option Nat) (how : Mut) : (mutate s file how).lastErr = s.lastErr := (mutate_writes s file how).lastErr
@[simp] theorem mutate_bf (s : St) (file : Option Nat) (how : Mut) : (mutate s file how).bf = s.bf := (mutate_writes s file how).bf
@[simp] theorem mutate_known (s : St) (file : Option Nat) (how : Mut) : (mutate s file how).known = s.known := (mutate_writes s file how).known
@[simp] theorem mutate_mayStartI (s : St) (file : Option Nat) (how : Mut) : (mutate s file how).mayStartI = s.mayStartI := (mutate_writes s file how).mayStartI
@[simp] theorem mutate_metaDone (s : St) (file : Option Nat) (how : Mut) : (mutate s file how).metaDone = s.metaDone := (mutate_writes s file how).metaDone
@[simp] theorem mutate_unchoked (s : St) (file : Option Nat) (how : Mut) : (mutate s file how).unchoked = s.unchoked := (mutate_writes s file how).unchoked
@[simp] theorem mutate_optimistic (s : St) (file : Option Nat) (how : Mut) : (mutate s file how).optimistic = s.optimistic := (mutate_writes s file how).optimistic
@[simp] theorem mutate_nUnchoke (s : St) (file : Option Nat) (how : Mut) : (mutate s file how).nUnchoke = s.nUnchoke := (mutate_writes s file how).nUnchoke
@[simp] theorem mutate_nOptimistic (s : St) (file : Option Nat) (how : Mut) : (mutate s file how).nOptimistic = s.nOptimistic := (mutate_writes s file how).nOptimistic
@[simp] theorem mutate_stopHang (s : St) (file : Option Nat) (how : Mut) : (mutate s file how).stopHang = s.stopHang := (mutate_writes s file how).stopHang
@[simp] theorem mutate_banned (s : St) (file : Option Nat) (how : Mut) : (mutate s file how).banned = s.banned := (mutate_writes s file how).banned
@[simp] theorem mutate_gateOpen (s : St) (file : Option Nat) (how : Mut) : (mutate s file how).gateOpen = s.gateOpen := (mutate_writes s file how).gateOpen
@[simp] theorem mutate_gateWrite (s : St) (file : Option Nat) (how : Mut) : (mutate s file how).gateWrite = s.gateWrite := (mutate_writes s file how).gateWrite
@[simp] theorem mutate_gateRead (s : St) (file : Option Nat) (how : Mut) : (mutate s file how).gateRead = s.gateRead := (mutate_writes s file how).gateRead
@[simp] theorem mutate_failWrite (s : St) (file : Option Nat) (how : Mut) : (mutate s file how).failWrite = s.failWrite := (mutate_writes s file how).failWrite
@[simp] theorem mutate_failOpen (s : St) (file : Option Nat) (how : Mut) : (mutate s file how).failOpen = s.failOpen := (mutate_writes s file how).failOpen
@[simp] theorem mutate_failAt (s : St) (file : Option Nat) (how : Mut) : (mutate s file how).failAt = s.failAt := (mutate_writes s file how).failAt
@[simp] theorem mutate_gateWriteDone (s : St) (file : Option Nat) (how : Mut) : (mutate s file how).gateWriteDone = s.gateWriteDone := (mutate_writes s file how).gateWriteDone
@[simp] theorem mutate_sto (s : St) (file : Option Nat) (how : Mut) : (mutate s file how).sto = s.sto := (mutate_writes s file how).sto
@[simp] theorem mutate_mayStart (s : St) (file : Option Nat) (how : Mut) : (mutate s file how).mayStart = s.mayStart := (mutate_writes s file how).mayStart
@[simp] theorem mutate_closedDl (s : St) (file : Option Nat) (how : Mut) : (mutate s file how).closedDl = s.closedDl := (mutate_writes s file how).closedDl
@[simp] theorem mutate_persisted (s : St) (file : Option Nat) (how : Mut) : (mutate s file how).persisted = s.persisted := (mutate_writes s file how).persisted
@[simp] theorem mutate_status (s : St) (file : Option Nat) (how : Mut) : (mutate s file how).status = s.status := (mutate_writes s file how).status
@[simp] theorem mutate_n (s : St) (file : Option Nat) (how : Mut) : (mutate s file how).n = s.n := (mutate_writes s file how).n
@[simp] theorem mutate_findPeer (s : St) (file : Option Nat) (how : Mut) (k' : Nat) : (mutate s file how).findPeer k' = s.findPeer k' := (mutate_writes s file how).findPeer k'
@[simp] theorem mutate_findDl (s : St) (file : Option Nat) (how : Mut) (k' : Nat) : (mutate s file how).findDl k' = s.findDl k' := (mutate_writes s file how).findDl k'

end Rain.Loop
