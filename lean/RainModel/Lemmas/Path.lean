import RainModel.Model.Path
/-!
Helper lemmas for M-PATH (C07).  Strings are taken apart at the first separator (`slash_induction`); the
two facts about the fold of `Clean` are that without `..` it is a filter and that a rooted one leaves
only real components; everything about `fpClean`, `fpJoin` and `Under` is then said with `Confined`,
which splits over a separator (`confined_append`) and which `Clean` leaves alone.
-/
namespace Rain.Path

/-- A component that survives `Clean` unchanged. -/
def GoodComp (c : Bytes) : Prop := c ≠ [] ∧ c ≠ dot ∧ c ≠ dotdot ∧ SLASH ∉ c

theorem joinSlash_cons_cons (a b : Bytes) (r : List Bytes) :
    joinSlash (a :: b :: r) = a ++ SLASH :: joinSlash (b :: r) := rfl

theorem splitSlash_cons_slash (r : Bytes) : splitSlash (SLASH :: r) = [] :: splitSlash r := by
  rw [splitSlash]; simp

theorem splitSlash_cons_ne (c : Nat) (r : Bytes) (hc : c ≠ SLASH) :
    splitSlash (c :: r) = (c :: (splitSlash r).headD []) :: (splitSlash r).tail := by
  rw [splitSlash, if_neg hc]; cases splitSlash r <;> rfl

theorem splitSlash_noslash (s : Bytes) (h : SLASH ∉ s) : splitSlash s = [s] := by
  induction s with
  | nil => rfl
  | cons c r ih =>
    rw [List.mem_cons, not_or] at h
    rw [splitSlash_cons_ne c r (Ne.symm h.1), ih h.2]; rfl

theorem splitSlash_append_slash (a b : Bytes) (ha : SLASH ∉ a) :
    splitSlash (a ++ SLASH :: b) = a :: splitSlash b := by
  induction a with
  | nil => exact splitSlash_cons_slash b
  | cons c r ih =>
    rw [List.mem_cons, not_or] at ha
    rw [List.cons_append, splitSlash_cons_ne c _ (Ne.symm ha.1), ih ha.2]; rfl

theorem slash_induction {motive : Bytes → Prop} (base : ∀ a, SLASH ∉ a → motive a)
    (step : ∀ a b, SLASH ∉ a → motive b → motive (a ++ SLASH :: b)) (s : Bytes) : motive s := by
  suffices h : ∀ pre, SLASH ∉ pre → motive (pre ++ s) from h [] (by simp)
  induction s with
  | nil => intro pre h; simpa using base pre h
  | cons c r ih =>
    intro pre h
    by_cases hc : c = SLASH
    · subst hc; exact step pre r h (ih [] (by simp))
    · rw [List.append_cons]
      exact ih (pre ++ [c]) (by simp [h, Ne.symm hc])

theorem splitSlash_ne_nil (s : Bytes) : splitSlash s ≠ [] := by
  induction s using slash_induction with
  | base a h => simp [splitSlash_noslash a h]
  | step a b h _ => simp [splitSlash_append_slash a b h]

theorem splitSlash_append (a b : Bytes) :
    splitSlash (a ++ SLASH :: b) = splitSlash a ++ splitSlash b := by
  induction a using slash_induction with
  | base a h => rw [splitSlash_append_slash a b h, splitSlash_noslash a h]; rfl
  | step a a' h ih =>
    rw [List.append_assoc, List.cons_append, splitSlash_append_slash _ _ h, ih, splitSlash_append_slash _ _ h]; rfl

theorem splitSlash_joinSlash (l : List Bytes) (hne : l ≠ []) (h : ∀ c ∈ l, SLASH ∉ c) :
    splitSlash (joinSlash l) = l := by
  induction l with
  | nil => exact absurd rfl hne
  | cons a r ih =>
    cases r with
    | nil => simp [joinSlash, splitSlash_noslash a (h a (by simp))]
    | cons b r' =>
      rw [joinSlash_cons_cons, splitSlash_append_slash _ _ (h a (by simp)),
        ih (by simp) (fun c hc => h c (by simp [hc]))]

theorem joinSlash_splitSlash (s : Bytes) : joinSlash (splitSlash s) = s := by
  induction s using slash_induction with
  | base a h => rw [splitSlash_noslash a h]; rfl
  | step a b h ih =>
    rw [splitSlash_append_slash a b h]
    cases hs : splitSlash b with
    | nil => exact absurd hs (splitSlash_ne_nil b)
    | cons x t => rw [joinSlash_cons_cons, ← hs, ih]

theorem splitSlash_mem_noslash (s : Bytes) : ∀ c ∈ splitSlash s, SLASH ∉ c := by
  induction s using slash_induction with
  | base a h => rw [splitSlash_noslash a h]; exact List.forall_mem_singleton.2 h
  | step a b h ih => rw [splitSlash_append_slash a b h]; exact List.forall_mem_cons.2 ⟨h, ih⟩

theorem cleanStep_nodotdot (rooted : Bool) (st : List Bytes) (c : Bytes) (hc : c ≠ dotdot) :
    cleanStep rooted st c = if (c = [] || c = dot) then st else c :: st := by
  simp [cleanStep, hc]

theorem foldl_cleanStep_nodotdot (rooted : Bool) (l : List Bytes) (st : List Bytes)
    (h : ∀ c ∈ l, c ≠ dotdot) :
    l.foldl (cleanStep rooted) st = (l.filter (fun c => !(c = [] || c = dot))).reverse ++ st := by
  induction l generalizing st with
  | nil => simp
  | cons c r ih =>
    rw [List.foldl_cons, ih _ fun c hc => h c (by simp [hc]), cleanStep_nodotdot _ _ _ (h c (by simp)),
      List.filter_cons]
    split <;> simp [*]

theorem cleanComps_nodotdot (rooted : Bool) (l : List Bytes) (h : ∀ c ∈ l, c ≠ dotdot) :
    cleanComps rooted l = l.filter (fun c => !(c = [] || c = dot)) := by
  unfold cleanComps
  rw [foldl_cleanStep_nodotdot rooted l [] h]
  simp

theorem cleanStep_rooted_good (st : List Bytes) (c : Bytes) (h : ∀ x ∈ st, GoodComp x) (hc : SLASH ∉ c) :
    ∀ x ∈ cleanStep true st c, GoodComp x := by
  by_cases h2 : c = dotdot
  · subst h2
    cases st with
    | nil => simp [cleanStep]
    | cons top below =>
      simp only [cleanStep, (h top (by simp)).2.2.1]
      exact fun x hx => h x (List.mem_cons_of_mem _ hx)
  · rw [cleanStep_nodotdot _ _ _ h2]
    split
    · exact h
    · rename_i h1
      have h1' : ¬ (c = [] ∨ c = dot) := by simpa using h1
      exact List.forall_mem_cons.2 ⟨⟨fun e => h1' (Or.inl e), fun e => h1' (Or.inr e), h2, hc⟩, h⟩

theorem confined_iff (p : Bytes) : Confined p = true ↔ ∀ c ∈ splitSlash p, GoodComp c := by
  unfold Confined
  rw [List.all_eq_true]
  refine forall_congr' fun c => imp_congr_right fun hc => ?_
  simp [GoodComp, splitSlash_mem_noslash p c hc, and_assoc]

theorem confined_append (a b : Bytes) : Confined (a ++ SLASH :: b) = (Confined a && Confined b) := by
  simp only [Confined, splitSlash_append, List.all_append]

theorem confined_joinSlash (l : List Bytes) (hne : l ≠ []) (h : ∀ c ∈ l, GoodComp c) :
    Confined (joinSlash l) = true :=
  (confined_iff _).2 (by rwa [splitSlash_joinSlash l hne (fun c hc => (h c hc).2.2.2)])

theorem confined_of_good {c : Bytes} (h : GoodComp c) : Confined c = true :=
  confined_joinSlash [c] (List.cons_ne_nil _ _) (List.forall_mem_singleton.2 h)

theorem cleanComps_confined (rooted : Bool) (p : Bytes) (h : Confined p = true) :
    cleanComps rooted (splitSlash p) = splitSlash p := by
  have hg := (confined_iff p).1 h
  rw [cleanComps_nodotdot rooted _ fun c hc => (hg c hc).2.2.1]
  exact List.filter_eq_self.2 fun c hc => by simp [(hg c hc).1, (hg c hc).2.1]

theorem isPrefixOfB_iff (a s : Bytes) : isPrefixOfB a s = true ↔ a <+: s := by
  induction a generalizing s with
  | nil => simp [isPrefixOfB]
  | cons x r ih => cases s <;> simp [isPrefixOfB, ih]

theorem under_append (root p : Bytes) : Under root (root ++ SLASH :: p) = Confined p := by
  have e : root ++ SLASH :: p = (root ++ [SLASH]) ++ p := by simp
  rw [Under, e, (isPrefixOfB_iff _ _).2 (List.prefix_append _ _), List.drop_left' (by simp), Bool.true_and]

/-- The first component is not empty: the path is relative and not empty. -/
theorem fpClean_rel (p : Bytes) (h : (splitSlash p).head? ≠ some []) :
    fpClean p = if joinSlash (cleanComps false (splitSlash p)) = [] then dot
      else joinSlash (cleanComps false (splitSlash p)) := by
  rcases p with _ | ⟨c, t⟩
  · exact absurd rfl h
  · by_cases hc : c = SLASH
    · rw [hc, splitSlash_cons_slash] at h; exact absurd rfl h
    · simp [fpClean, hc]

theorem fpClean_abs (p : Bytes) :
    fpClean (SLASH :: p) = SLASH :: joinSlash (cleanComps true (splitSlash p)) := by
  simp [fpClean, splitSlash_cons_slash, cleanComps, cleanStep]

theorem fpClean_rooted (p : Bytes) :
    ∃ cs, fpClean (SLASH :: p) = SLASH :: joinSlash cs ∧ ∀ c ∈ cs, GoodComp c :=
  ⟨_, fpClean_abs p, fun c hc =>
    List.foldlRecOn (motive := fun st => ∀ x ∈ st, GoodComp x) _ _ (by simp)
      (fun st h c hc => cleanStep_rooted_good st c h (splitSlash_mem_noslash _ c hc)) c (List.mem_reverse.mp hc)⟩

theorem fpClean_confined (p : Bytes) (h : Confined p = true) : fpClean p = p := by
  have hne : joinSlash (splitSlash p) ≠ [] := by
    rw [joinSlash_splitSlash]; rintro rfl; cases h
  rw [fpClean_rel p fun e => ((confined_iff p).1 h [] (List.mem_of_mem_head? e)).1 rfl,
    cleanComps_confined _ _ h, if_neg hne, joinSlash_splitSlash]

theorem fpClean_abs_confined (p : Bytes) (h : Confined p = true) : fpClean (SLASH :: p) = SLASH :: p := by
  rw [fpClean_abs, cleanComps_confined _ _ h, joinSlash_splitSlash]

/-! ### `fpJoin` of cleaned parts (the paths `NewInfo` builds) -/

/-- `Join` skips leading empty elements only. -/
theorem fpJoin_cons (a : Bytes) (l : List Bytes) (ha : a ≠ []) :
    fpJoin (a :: l) = fpClean (joinSlash (a :: l)) := by
  simp [fpJoin, ha]

theorem fpJoin_parts (cname : Bytes) (rest : List Bytes) (hc : GoodComp cname)
    (hr : ∀ c ∈ rest, SLASH ∉ c ∧ c ≠ dotdot) :
    Confined (fpJoin (cname :: rest)) = true := by
  have hsplit : splitSlash (joinSlash (cname :: rest)) = cname :: rest :=
    splitSlash_joinSlash _ (List.cons_ne_nil _ _) (List.forall_mem_cons.2 ⟨hc.2.2.2, fun c h => (hr c h).1⟩)
  have hconf : Confined (joinSlash (cname :: rest.filter (fun c => !(c = [] || c = dot)))) = true := by
    refine confined_joinSlash _ (List.cons_ne_nil _ _) (List.forall_mem_cons.2 ⟨hc, fun c hm => ?_⟩)
    obtain ⟨hm, hk⟩ := List.mem_filter.1 hm
    have hk : ¬ (c = [] ∨ c = dot) := by simpa using hk
    exact ⟨fun e => hk (.inl e), fun e => hk (.inr e), (hr c hm).2, (hr c hm).1⟩
  have hval : fpJoin (cname :: rest) =
      joinSlash (cname :: rest.filter (fun c => !(c = [] || c = dot))) := by
    rw [fpJoin_cons _ _ hc.1, fpClean_rel _ (by simpa [hsplit] using hc.1), hsplit,
      cleanComps_nodotdot false _ (List.forall_mem_cons.2 ⟨hc.2.2.1, fun c h => (hr c h).2⟩),
      List.filter_cons]
    simp only [hc.1, hc.2.1, decide_false, Bool.or_false, Bool.not_false, if_true]
    exact if_neg fun e => by rw [e] at hconf; cases hconf
  exact hval ▸ hconf

/-- A clean absolute directory other than `/` itself (what `filepath.Abs` returns). -/
def CleanAbs (root : Bytes) : Prop :=
  ∃ cs, cs ≠ [] ∧ (∀ c ∈ cs, GoodComp c) ∧ root = SLASH :: joinSlash cs

theorem cleanAbs_iff (root : Bytes) : CleanAbs root ↔ ∃ r, root = SLASH :: r ∧ Confined r = true := by
  constructor
  · rintro ⟨cs, hne, hg, rfl⟩
    exact ⟨_, rfl, confined_joinSlash cs hne hg⟩
  · rintro ⟨r, rfl, h⟩
    exact ⟨splitSlash r, splitSlash_ne_nil r, (confined_iff r).1 h, by rw [joinSlash_splitSlash]⟩

theorem fpJoin_under (root p : Bytes) (hroot : CleanAbs root) (hp : Confined p = true) :
    fpJoin [root, p] = root ++ SLASH :: p ∧ CleanAbs (root ++ SLASH :: p) := by
  obtain ⟨r, rfl, hr⟩ := (cleanAbs_iff root).1 hroot
  have hc : Confined (r ++ SLASH :: p) = true := by rw [confined_append, hr, hp]; rfl
  exact ⟨(fpJoin_cons _ _ (List.cons_ne_nil _ _)).trans (fpClean_abs_confined _ hc),
    (cleanAbs_iff _).2 ⟨_, rfl, hc⟩⟩

/-- The path handed to the OS by `filestorage.Open` for a confined name lies under the root. -/
theorem storagePath_under (root p : Bytes) (hroot : CleanAbs root) (h : Confined p = true) :
    storagePath root p = root ++ SLASH :: p ∧ Under root (storagePath root p) = true := by
  have hs : storagePath root p = root ++ SLASH :: p := by
    rw [storagePath, fpClean_confined p h, (fpJoin_under root p hroot h).1]
  exact ⟨hs, by rw [hs, under_append, h]⟩

/-- With the torrent-id level: `Join(DataDir, id)` is again a clean absolute directory. -/
theorem dataDirOf_cleanAbs (dataDir id : Bytes) (incl : Bool) (hd : CleanAbs dataDir)
    (hid : GoodComp id) : CleanAbs (dataDirOf dataDir id incl) := by
  cases incl with
  | false => exact hd
  | true =>
    have := fpJoin_under dataDir id hd (confined_of_good hid)
    simp only [dataDirOf, if_true]
    rw [this.1]
    exact this.2

/-- For an absolute destination, an accepted tar entry resolves strictly below it: the string
prefix test on cleaned absolute paths is a component-wise prefix test. -/
theorem tarTarget_under (dir n t : Bytes) (habs : ∃ r, dir = SLASH :: r)
    (h : tarTarget dir n = some t) : Under (fpClean dir) t = true := by
  obtain ⟨r, rfl⟩ := habs
  obtain ⟨ds, hd, _⟩ := fpClean_rooted r
  unfold tarTarget at h
  simp only at h
  split at h
  case isFalse => cases h
  case isTrue hp =>
    cases h
    -- the joined name is the `Clean` of something rooted: `/` and good components `cs`
    obtain ⟨cs, hcs, hgood⟩ := fpClean_rooted (joinSlash ds ++ SLASH :: n)
    have hj : fpJoin [fpClean (SLASH :: r), n] = SLASH :: joinSlash cs := by
      rw [hd, fpJoin_cons _ _ (List.cons_ne_nil _ _)]; exact hcs
    rw [hj] at hp ⊢
    obtain ⟨rest, hrest⟩ := (isPrefixOfB_iff _ _).1 hp
    rw [List.append_assoc, List.singleton_append] at hrest
    rw [← hrest, under_append]
    -- all of `cs` is confined, so is what follows the destination and its separator
    rw [hd] at hrest
    have hcs' : joinSlash cs = joinSlash ds ++ SLASH :: rest := (List.cons.inj hrest).2.symm
    have hc := confined_joinSlash cs (by rintro rfl; simp [joinSlash] at hcs') hgood
    rw [hcs', confined_append] at hc
    exact (Bool.and_eq_true_iff.1 hc).2

end Rain.Path
