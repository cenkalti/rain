import RainModel.Model.Blocks
/-! The loop invariant of `calculateBlocks` for `calcBlocks_tiles` (C02), and what `Tiles` says about a block list in the
terms the piece downloader uses (`Rain.PD.WFBlocks`, `Rain.PD.Covers`). -/
namespace Rain.Blocks

/-- Loop invariant of `calculateBlocks`, relative to the mask `M` of the bytes consumed so far: what the closed blocks
paint, a gap of `g` bytes that are not requested, and the open block. -/
def Inv (bs : Nat) (c : CB) (M : List Bool) : Prop :=
  ∃ (m : List Bool) (g : Nat),
    blkMask c.out.reverse = some m ∧ c.bb = m.length + g ∧ c.bb + c.bl = c.off ∧ c.bl ≤ bs ∧
    m ++ List.replicate g false ++ List.replicate c.bl true = M ∧
    ∀ b ∈ c.out, 0 < b.l ∧ b.l ≤ bs

theorem blkMask_snoc (l : List Block) (b : Block) (m : List Bool) (h : blkMask l = some m) :
    blkMask (l ++ [b]) = paint m b := by
  unfold blkMask at *
  simp [List.foldlM_append, h]

theorem Inv.off_eq {bs c M} (h : Inv bs c M) : c.off = M.length := by
  obtain ⟨m, g, _, hbb, hoff, _, rfl, _⟩ := h
  simp
  omega

/-- `nextBlock()` after `n` bytes of padding: the gap grows, and a non-empty open block is closed first. -/
theorem pad_inv {bs c M} (h : Inv bs c M) (n : Nat) :
    Inv bs (CB.nextBlock { c with off := c.off + n }) (M ++ List.replicate n false) ∧
    (CB.nextBlock { c with off := c.off + n }).bl = 0 := by
  have hMl := h.off_eq
  obtain ⟨m, g, hm, hbb, hoff, hbl, hM, hall⟩ := h
  unfold CB.nextBlock
  by_cases h0 : c.bl = 0
  · rw [if_pos h0]
    refine ⟨⟨m, g + n, hm, by simp only; omega, by simp only; omega, by simp only; omega, ?_, hall⟩, h0⟩
    simp [← hM, h0, ← List.replicate_append_replicate]
  · rw [if_neg h0]
    refine ⟨⟨M, n, ?_, by simp only; omega, rfl, Nat.zero_le _, by simp, ?_⟩, rfl⟩
    · rw [List.reverse_cons, blkMask_snoc _ _ _ hm, paint, if_neg (by simp only; omega), ← hM, hbb,
        Nat.add_sub_cancel_left]
    · intro b hb
      rcases List.mem_cons.1 hb with rfl | hb
      · exact ⟨Nat.pos_of_ne_zero h0, hbl⟩
      · exact hall b hb

theorem nextBlock_inv {bs c M} (h : Inv bs c M) : Inv bs c.nextBlock M ∧ c.nextBlock.bl = 0 := by
  have := pad_inv h 0
  simpa using this

theorem grow_inv {bs c M} (h : Inv bs c M) (n : Nat) (hn : c.bl + n ≤ bs) :
    Inv bs { c with bl := c.bl + n, off := c.off + n } (M ++ List.replicate n true) := by
  obtain ⟨m, g, hm, hbb, hoff, hbl, hM, hall⟩ := h
  refine ⟨m, g, hm, hbb, by simp only; omega, hn, ?_, hall⟩
  simp [← hM, ← List.replicate_append_replicate]

theorem settle_inv {bs c M} (hbs : 0 < bs) (h : Inv bs c M) :
    Inv bs (if bs - c.bl = 0 then c.nextBlock else c) M ∧ (if bs - c.bl = 0 then c.nextBlock else c).bl < bs := by
  by_cases hz : bs - c.bl = 0
  · rw [if_pos hz]
    have := nextBlock_inv h
    exact ⟨this.1, by rw [this.2]; exact hbs⟩
  · rw [if_neg hz]
    exact ⟨h, by omega⟩

theorem fillData_inv (bs : Nat) (hbs : 0 < bs) :
    ∀ (fuel left : Nat) (c : CB) (M : List Bool), Inv bs c M → c.bl < bs → left < fuel →
      Inv bs (fillData CB.nextBlock bs fuel left c) (M ++ List.replicate left true) ∧
      (fillData CB.nextBlock bs fuel left c).bl < bs := by
  intro fuel
  induction fuel with
  | zero => intro left c M _ _ h; omega
  | succ fuel ih =>
    intro left c M hinv hlt hfuel
    unfold fillData
    simp only
    have h2 := settle_inv hbs (grow_inv hinv (min left (bs - c.bl)) (by omega))
    by_cases hl : left - min left (bs - c.bl) = 0
    · rw [if_pos hl]
      have : min left (bs - c.bl) = left := by omega
      rw [this] at h2 ⊢
      exact h2
    · rw [if_neg hl]
      have := ih (left - min left (bs - c.bl)) _ _ h2.1 h2.2 (by omega)
      rwa [List.append_assoc, List.replicate_append_replicate, Nat.add_sub_of_le (Nat.min_le_left ..)] at this

theorem stepSec_inv (bs : Nat) (hbs : 0 < bs) (c : CB) (M : List Bool) (s : Sec)
    (h : Inv bs c M) (hlt : c.bl < bs) :
    Inv bs (stepSec CB.nextBlock bs c s) (M ++ List.replicate s.len (!s.pad)) ∧
    (stepSec CB.nextBlock bs c s).bl < bs := by
  unfold stepSec
  by_cases hp : s.pad
  · simp only [hp, if_true]
    have := pad_inv h s.len
    exact ⟨by simpa using this.1, by rw [this.2]; exact hbs⟩
  · simp only [hp]
    simpa using fillData_inv bs hbs (s.len + 1) s.len c M h hlt (by omega)

theorem foldl_inv (bs : Nat) (hbs : 0 < bs) (secs : List Sec) :
    ∀ (c : CB) (M : List Bool), Inv bs c M → c.bl < bs →
      Inv bs (secs.foldl (stepSec CB.nextBlock bs) c) (M ++ secMask secs) ∧
      (secs.foldl (stepSec CB.nextBlock bs) c).bl < bs := by
  induction secs with
  | nil => intro c M h hlt; simpa [secMask] using ⟨h, hlt⟩
  | cons s rest ih =>
    intro c M h hlt
    have h1 := stepSec_inv bs hbs c M s h hlt
    have := ih _ _ h1.1 h1.2
    simpa [secMask, List.append_assoc] using this

theorem secMask_length (secs : List Sec) : (secMask secs).length = total secs := by
  induction secs with
  | nil => rfl
  | cons s rest ih =>
    simp only [secMask, List.flatMap_cons, List.length_append, List.length_replicate, total,
      List.map_cons, List.sum_cons] at *
    omega

theorem init_inv (bs : Nat) : Inv bs { out := [], bb := 0, bl := 0, off := 0 } [] :=
  ⟨[], 0, rfl, rfl, rfl, Nat.zero_le _, rfl, nofun⟩

theorem runWith_tiles (bs : Nat) (hbs : 0 < bs) (secs : List Sec) :
    Tiles bs secs (runWith CB.nextBlock bs secs) = true := by
  have h := foldl_inv bs hbs secs _ _ (init_inv bs) hbs
  have hn := nextBlock_inv h.1
  have hoffM := hn.1.off_eq
  obtain ⟨m, g, hm, hbb, hoff, hbl, hM, hall⟩ := hn.1
  rw [hn.2] at hM hoff
  simp only [List.nil_append, List.replicate_zero, List.append_nil, secMask_length] at hM hoffM
  unfold Tiles runWith
  simp only [Bool.and_eq_true, List.all_eq_true, decide_eq_true_eq]
  constructor
  · intro b hb
    have := hall b (by simpa using hb)
    simp [this.1, this.2]
  · rw [hm]
    simp only [Bool.and_eq_true, decide_eq_true_eq, beq_iff_eq]
    constructor
    · omega
    · unfold padTo
      rw [← hM]
      congr 2
      omega

end Rain.Blocks

namespace Rain.PD
open Rain.Blocks

structure WFBlocks (bl : List Block) (n : Nat) : Prop where
  pos : ∀ b ∈ bl, 0 < b.l
  within : ∀ b ∈ bl, b.b + b.l ≤ n
  sorted : bl.Pairwise (fun x y => x.b + x.l ≤ y.b)

def Covers (b : Block) (i : Nat) : Prop := b.b ≤ i ∧ i < b.b + b.l

instance (b : Block) (i : Nat) : Decidable (Covers b i) := by unfold Covers; exact inferInstance

theorem paint_eq_some {m m' : List Bool} {b : Block} (h : paint m b = some m') :
    ∃ g, b.b = m.length + g ∧ m' = m ++ List.replicate g false ++ List.replicate b.l true := by
  unfold paint at h
  split at h
  · cases h
  · exact ⟨b.b - m.length, by omega, (Option.some.inj h).symm⟩

theorem paint_getElem (m : List Bool) (g l i : Nat) :
    (m ++ List.replicate g false ++ List.replicate l true)[i]? = some true ↔
      (m[i]? = some true ∨ Covers ⟨m.length + g, l⟩ i) := by
  unfold Covers
  simp only [List.getElem?_append, List.getElem?_replicate, List.length_append, List.length_replicate]
  by_cases h1 : i < m.length
  · have : i < m.length + g := by omega
    simp only [this, h1, if_true]
    exact ⟨Or.inl, fun h => h.elim id fun h' => by omega⟩
  · rw [List.getElem?_eq_none (Nat.le_of_not_lt h1)]
    by_cases h2 : i < m.length + g <;> simp [*] <;> omega

theorem foldlM_paint {bl : List Block} : ∀ {m m' : List Bool}, bl.foldlM paint m = some m' →
    m.length ≤ m'.length ∧ (∀ b ∈ bl, m.length ≤ b.b ∧ b.b + b.l ≤ m'.length) ∧
    bl.Pairwise (fun x y => x.b + x.l ≤ y.b) ∧
    ∀ i, m'[i]? = some true ↔ (m[i]? = some true ∨ ∃ b ∈ bl, Covers b i) := by
  induction bl with
  | nil =>
    intro m m' h
    cases h
    simp
  | cons b rest ih =>
    intro m m' h
    rw [List.foldlM_cons] at h
    obtain ⟨m1, hp, h'⟩ := Option.bind_eq_some_iff.mp h
    obtain ⟨g, hb, rfl⟩ := paint_eq_some hp
    obtain ⟨hlen, hall, hpw, hmask⟩ := ih h'
    simp only [List.length_append, List.length_replicate] at hlen hall
    refine ⟨by omega, ?_, List.pairwise_cons.mpr ⟨fun y hy => by have := hall y hy; omega, hpw⟩, ?_⟩
    · intro x hx
      rcases List.mem_cons.mp hx with rfl | hx
      · omega
      · have := hall x hx; omega
    · intro i
      rw [hmask i, paint_getElem, ← hb]
      simp only [List.mem_cons, exists_eq_or_imp, or_assoc]

theorem tiles_mask {bs : Nat} {secs : List Sec} {bl : List Block} (h : Tiles bs secs bl = true) :
    (∀ b ∈ bl, 0 < b.l ∧ b.l ≤ bs) ∧
    ∃ m, blkMask bl = some m ∧ m.length ≤ total secs ∧ padTo (total secs) m = secMask secs := by
  unfold Tiles at h
  simp only [Bool.and_eq_true, List.all_eq_true, decide_eq_true_eq] at h
  refine ⟨h.1, ?_⟩
  cases hbm : blkMask bl with
  | none => simp [hbm] at h
  | some m => simpa [hbm] using h.2

theorem tiles_wf {bs : Nat} {secs : List Sec} {bl : List Block} (h : Tiles bs secs bl = true) :
    WFBlocks bl (total secs) := by
  obtain ⟨hall, m, hbm, hlen, _⟩ := tiles_mask h
  obtain ⟨_, hin, hpw, _⟩ := foldlM_paint hbm
  exact ⟨fun b hb => (hall b hb).1, fun b hb => Nat.le_trans (hin b hb).2 hlen, hpw⟩

theorem tiles_mask_iff {bs : Nat} {secs : List Sec} {bl : List Block} (h : Tiles bs secs bl = true) (i : Nat) :
    (secMask secs)[i]? = some true ↔ ∃ b ∈ bl, Covers b i := by
  obtain ⟨_, m, hbm, _, hpad⟩ := tiles_mask h
  obtain ⟨_, _, _, hmask⟩ := foldlM_paint hbm
  have hm : m[i]? = some true ↔ ∃ b ∈ bl, Covers b i := by simpa using hmask i
  rw [← hm, ← hpad, padTo, List.getElem?_append]
  split
  · rfl
  · rename_i hi
    simp [List.getElem?_eq_none (Nat.le_of_not_lt hi), List.getElem?_replicate]

theorem calcBlocks_tiles {bs : Nat} (hbs : 0 < bs) {secs : List Sec} {bl : List Block}
    (h : calcBlocks bs secs = some bl) : Tiles bs secs bl = true := by
  unfold calcBlocks at h
  split at h
  · cases h
  · cases h
    exact runWith_tiles bs hbs secs

theorem calcBlocks_wf {bs : Nat} (hbs : 0 < bs) {secs : List Sec} {bl : List Block}
    (h : calcBlocks bs secs = some bl) : WFBlocks bl (total secs) :=
  tiles_wf (calcBlocks_tiles hbs h)

theorem calcBlocks_mask_iff {bs : Nat} (hbs : 0 < bs) {secs : List Sec} {bl : List Block}
    (h : calcBlocks bs secs = some bl) (i : Nat) :
    (secMask secs)[i]? = some true ↔ ∃ b ∈ bl, Covers b i :=
  tiles_mask_iff (calcBlocks_tiles hbs h) i
theorem WFBlocks.disjoint {bl n} (h : WFBlocks bl n) {x y : Block} (hx : x ∈ bl) (hy : y ∈ bl) :
    x = y ∨ x.b + x.l ≤ y.b ∨ y.b + y.l ≤ x.b := by
  have h2 : bl.Pairwise (fun x y => x = y ∨ x.b + x.l ≤ y.b ∨ y.b + y.l ≤ x.b) :=
    h.sorted.imp (fun h => Or.inr (Or.inl h))
  have h3 : bl.Pairwise (flip (fun x y : Block => x = y ∨ x.b + x.l ≤ y.b ∨ y.b + y.l ≤ x.b)) :=
    h.sorted.imp (fun h => Or.inr (Or.inr h))
  exact List.Pairwise.forall_of_forall_of_flip (R := fun x y : Block => x = y ∨ x.b + x.l ≤ y.b ∨ y.b + y.l ≤ x.b)
    (fun _ _ => Or.inl rfl) h2 h3 hx hy

theorem WFBlocks.begin_inj {bl n} (h : WFBlocks bl n) {x y : Block} (hx : x ∈ bl) (hy : y ∈ bl)
    (hb : x.b = y.b) : x = y := by
  rcases h.disjoint hx hy with e | e | e
  · exact e
  · have := h.pos x hx; omega
  · have := h.pos y hy; omega

theorem WFBlocks.covers_unique {bl n} (h : WFBlocks bl n) {x y : Block} (hx : x ∈ bl) (hy : y ∈ bl)
    {i : Nat} (cx : Covers x i) (cy : Covers y i) : x = y := by
  unfold Covers at cx cy
  rcases h.disjoint hx hy with e | e | e
  · exact e
  · omega
  · omega

theorem WFBlocks.nodup_keys {bl n} (h : WFBlocks bl n) : (bl.map (·.b)).Nodup :=
  List.pairwise_map.mpr (h.sorted.imp_of_mem fun hx _ hs e => by have := h.pos _ hx; omega)

end Rain.PD
