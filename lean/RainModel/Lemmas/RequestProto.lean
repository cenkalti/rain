import RainModel.Model.ResourceManager
import RainModel.Lemmas.ResourceManager
/-! Helper lemmas for `request_returns` / `request_accounting` (C08, resource-manager half):
the inductive invariant `wf`, the termination measure and progress of the requester × manager
protocol.  In each step lemma the guard of the action fixes the program counters it reads, so the
clauses of `wf` (or the summands of `pmeasure`) it touches are decided by `simp`. -/
namespace Rain.RM.Proto
open Rain.RM

/-- `handleRequest` with an answer never reaches its `panic`: the amount is subtracted only when
it fits. -/
theorem handleRequest_no_panic (ms : State) (r : Req) (b : Bool) :
    ∃ ms', handleRequest ms r b = .ok ms' := by
  unfold handleRequest
  cases b with
  | false => exact ⟨ms, rfl⟩
  | true =>
    by_cases ha : acquiredNow ms r = true
    · have : ms.available ≥ r.n := by simpa [acquiredNow] using ha
      have hnp : ¬ (ms.available - r.n < 0) := by omega
      simp [ha, hnp]
    · simp [ha]

theorem wf_start (fixed : Bool) (ms : State) (r : Req) (cc cl : Bool) (hn : 0 ≤ r.n) :
    wf fixed (start ms r cc cl) = true := by
  simp [wf, start, isReturned, hn]

theorem wf_step (fixed : Bool) (s s' : PState) (a : Act) (hw : wf fixed s = true)
    (h : pstep fixed s a = some s') : wf fixed s' = true := by
  obtain ⟨rpc, mpc, r, ms, cc, cl, dc, dr⟩ := s
  cases a <;> simp only [pstep] at h <;> split at h <;> try contradiction
  case answer =>
    split at h <;> try contradiction
    cases h
    simp_all [wf, isReturned]
  case mgrCancel => cases h; cases fixed <;> simp_all [wf, isReturned]
  case envCancel => cases h; cases dr <;> simp_all [wf, isReturned]
  all_goals cases h; simp_all [wf, isReturned]

theorem pmeasure_step (fixed : Bool) (s s' : PState) (a : Act) (h : pstep fixed s a = some s') :
    pmeasure s' < pmeasure s := by
  obtain ⟨rpc, mpc, r, ms, cc, cl, dc, dr⟩ := s
  cases a <;> simp only [pstep] at h <;> split at h <;> try contradiction
  case answer =>
    split at h <;> try contradiction
    cases h
    simp_all [pmeasure]
  case reqSeesClose hc => cases h; obtain ⟨rfl | rfl, _⟩ := hc <;> simp [pmeasure]
  all_goals cases h; simp_all [pmeasure]

theorem not_stuck {fixed : Bool} {s : PState} {a : Act} (ha : a ∈ sysActs)
    (h : pstep fixed s a ≠ none) : stuck fixed s = false := by
  simp only [stuck, List.all_eq_false]
  exact ⟨a, ha, by simpa using h⟩

theorem progress_fixed (s : PState) (hw : wf true s = true) (hr : isReturned s.rpc = false) :
    stuck true s = false := by
  obtain ⟨rpc, mpc, r, ms, cc, cl, dc, dr⟩ := s
  cases rpc with
  | atSend =>
    -- the manager is in its loop and takes the send, or has exited, and then `closeC` is closed
    cases mpc with
    | loop => exact not_stuck (a := .send) (by decide) (by simp [pstep])
    | handling => simp [wf] at hw
    | exited => exact not_stuck (a := .reqSeesClose) (by decide) (by simp_all [pstep, wf])
  | sent => exact not_stuck (a := .park) (by decide) (by simp [pstep])
  | parked =>
    -- the manager is about to answer, or it dropped the request, and then `doneC` is closed
    cases mpc with
    | handling =>
      obtain ⟨ms', hms⟩ := handleRequest_no_panic ms r true
      exact not_stuck (a := .answer) (by decide) (by simp [pstep, hms])
    | _ => exact not_stuck (a := .reqSeesDoneClosed) (by decide) (by cases dr <;> simp_all [pstep, wf])
  | returned b => cases hr

/-- Summand by summand. -/
theorem pmeasure_le (s : PState) : pmeasure s ≤ 10 :=
  show _ ≤ 6 + 2 + 1 + 1 from
  Nat.add_le_add (Nat.add_le_add (Nat.add_le_add (by split <;> decide) (by split <;> decide))
    (by split <;> decide)) (by split <;> decide)

theorem prun_invariant {fixed : Bool} {P : PState → Prop}
    (hstep : ∀ s s' a, P s → pstep fixed s a = some s' → P s') :
    ∀ (acts : List Act) (s s' : PState), P s → prun fixed s acts = some s' → P s' := by
  intro acts
  induction acts with
  | nil => intro s s' hp h; cases h; exact hp
  | cons a as ih =>
    intro s s' hp h
    simp only [prun] at h
    split at h
    · next s1 hs => exact ih s1 s' (hstep s s1 a hp hs) h
    · contradiction

theorem prun_length (fixed : Bool) : ∀ (acts : List Act) (s s' : PState),
    prun fixed s acts = some s' → acts.length + pmeasure s' ≤ pmeasure s := by
  intro acts
  induction acts with
  | nil => intro s s' h; cases h; simp
  | cons a as ih =>
    intro s s' h
    simp only [prun] at h
    split at h
    · next s1 hs =>
      have := pmeasure_step fixed s s1 a hs
      have := ih s1 s' h
      simp only [List.length_cons]; omega
    · contradiction

/-- What the manager's books say about this request, relative to the state `ms0` at entry. -/
def Booked (ms0 : State) (s : PState) : Prop :=
  match s.rpc with
  | .returned true => acquiredNow ms0 s.r = true ∧ handleRequest ms0 s.r true = .ok s.ms
  | .returned false => s.ms = ms0 ∨ (acquiredNow ms0 s.r = false ∧ handleRequest ms0 s.r true = .ok s.ms)
  | _ => s.ms = ms0

theorem acc_step (fixed : Bool) (ms0 : State) (s s' : PState) (a : Act) (h : Booked ms0 s)
    (hs : pstep fixed s a = some s') : Booked ms0 s' ∧ s'.r = s.r := by
  obtain ⟨rpc, mpc, r, ms, cc, cl, dc, dr⟩ := s
  cases a <;> simp only [pstep] at hs <;> split at hs <;> try contradiction
  case answer hc =>
    split at hs <;> try contradiction
    next ms' hms =>
    cases hs
    obtain ⟨rfl, rfl⟩ := hc
    simp only [Booked] at h
    subst h
    refine ⟨?_, rfl⟩
    cases hb : acquiredNow ms r <;> simp [Booked, hb, hms]
  -- the other steps of the manager and those of the environment touch nothing that `Booked` reads
  case mgrCancel | mgrExit | envCancel | envClose => cases hs; exact ⟨h, rfl⟩
  -- the caller's own steps start where it has not returned, so `ms = ms0`, and none returns `true`
  case send hc => cases hs; obtain ⟨rfl, _⟩ := hc; exact ⟨h, rfl⟩
  case park hc => cases hs; subst hc; exact ⟨h, rfl⟩
  case reqSeesClose hc => cases hs; obtain ⟨rfl | rfl, _⟩ := hc <;> exact ⟨.inl h, rfl⟩
  case reqSeesDoneClosed hc => cases hs; obtain ⟨rfl, _⟩ := hc; exact ⟨.inl h, rfl⟩

end Rain.RM.Proto
