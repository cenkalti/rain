import RainModel.Lemmas.LoopLife
import RainModel.Lemmas.LoopComp
/-!
A verification request that is set is not stale (after the fix for finding C04-F4).  (It can be withdrawn: by the
stop command and by a stop caused by an error, `LoopPersist`.)

`DV s`: while `doVerify` is set the torrent is on its way to the verification — it is stopping (the completed
stop restarts it without its bitfield), or it has no bitfield and its allocator or verifier is running, or it
is still fetching its metadata (magnet link; the allocation that follows the metadata finds the flag).  In
particular it is neither `Downloading` nor `Seeding`.
-/
namespace Rain.Loop

/-- A set `doVerify` is being acted upon. -/
def DV (s : St) : Prop :=
  s.doVerify = true → s.errC = true ∧
    (s.stopAnn = true ∨ (s.bf = none ∧ (s.allocator = true ∨ s.verifier = true ∨ s.info = false)))

/-- What is left of `DV` between the end of the allocation and the decision what to do next. -/
def DV0 (s : St) : Prop := s.doVerify = true → s.errC = true ∧ (s.stopAnn = true ∨ s.bf = none)

theorem DV.of_false {s : St} (h : s.doVerify = false) : DV s := fun hd => by rw [h] at hd; cases hd

theorem DV.dv0 {s : St} (h : DV s) : DV0 s := fun hd => ⟨(h hd).1, (h hd).2.imp id (·.1)⟩

theorem DV.of_eq {s s' : St} (h : DV s) (h1 : s'.doVerify = s.doVerify := by rfl) (h2 : s'.errC = s.errC := by rfl)
    (h3 : s'.stopAnn = s.stopAnn := by rfl) (h4 : s'.bf = s.bf := by rfl) (h5 : s'.allocator = s.allocator := by rfl)
    (h6 : s'.verifier = s.verifier := by rfl) (h7 : s'.info = s.info := by rfl) : DV s' := by
  unfold DV; rw [h1, h2, h3, h4, h5, h6, h7]; exact h

theorem DV0.of_eq {s s' : St} (h : DV0 s) (h1 : s'.doVerify = s.doVerify) (h2 : s'.errC = s.errC)
    (h3 : s'.stopAnn = s.stopAnn) (h4 : s'.bf = s.bf) : DV0 s' := by
  unfold DV0; rw [h1, h2, h3, h4]; exact h

theorem DV.of_writes {w : List Fld} {s s' : St} (h : DV s) (hW : Writes w s s')
    (hw : ∀ x ∈ [Fld.doVerify, .errC, .stopAnn, .bf, .allocator, .verifier, .info], x ∉ w := by decide) : DV s' := by
  simp only [List.forall_mem_cons, List.not_mem_nil, false_imp_iff, implies_true, and_true] at hw
  obtain ⟨d, e, sa, b, al, v, i⟩ := hw
  exact h.of_eq (hW.doVerify d) (hW.errC e) (hW.stopAnn sa) (hW.bf b) (hW.allocator al) (hW.verifier v) (hW.info i)

theorem DV.of_stopping {s : St} (h : s.doVerify = true → s.errC = true ∧ s.stopAnn = true) : DV s :=
  fun hd => ⟨(h hd).1, Or.inl (h hd).2⟩

theorem DV0.stopping_of_bf {s : St} (h : DV0 s) {b : List Bool} (hb : s.bf = some b) :
    s.doVerify = true → s.errC = true ∧ s.stopAnn = true := by
  intro hd
  obtain ⟨he, hs | hn⟩ := h hd
  · exact ⟨he, hs⟩
  · rw [hb] at hn; cases hn

theorem stop_doVerify_imp (s : St) (e : Bool) (h : (s.stop e).doVerify = true) : s.doVerify = true :=
  Bool.of_not_eq_false fun hd => Bool.noConfusion ((stop_doVerify_false s e hd).symm.trans h)

theorem stop_dv' (s : St) (e : Bool) (h : s.doVerify = true → s.errC = true) : DV (s.stop e) := by
  intro hd
  have he := h (stop_doVerify_imp s e hd)
  exact ⟨by simpa using he, Or.inl (stop_stopAnn_of_errC s e he)⟩

theorem stop_dv (s : St) (e : Bool) (h : DV s) : DV (s.stop e) := stop_dv' s e (fun hd => (h hd).1)

theorem hadCheck_dv (m : M) (h : DV m.1) : DV (hadCheck m).1 :=
  have h1 : DV m.1.checkCompletion.1 := h.of_writes (checkCompletion_writes m.1)
  hadCheck_cases (P := fun x => DV x.1) m (fun _ => onSt_stop _ _ _ (stop_dv _ _ h1)) (h1.of_writes (hadReady_writes _))

theorem hadFresh_doVerify_false (m : M) : (hadFresh m).1.doVerify = false :=
  hadFresh_cases (P := fun x => x.1.doVerify = false) m (fun _ => stop_doVerify_false _ _ rfl)
    fun hd => hadCheck_doVerify_false _ hd

theorem hadFresh_dv (m : M) : DV (hadFresh m).1 := .of_false (hadFresh_doVerify_false m)

theorem hadTrust_dv (m : M) (b : List Bool) (h : DV0 m.1) (hb : m.1.bf = some b) : DV (hadTrust m b).1 := by
  unfold hadTrust
  apply hadCheck_dv
  simp only [onSt_fst]
  exact DV.of_stopping (by simpa using h.stopping_of_bf hb)

theorem DV0.verifier {s : St} (h : DV0 s) : DV { s with verifier := true } := by
  intro hd
  obtain ⟨he, hs | hn⟩ := h hd
  · exact ⟨he, Or.inl hs⟩
  · exact ⟨he, Or.inr ⟨hn, Or.inr (Or.inl rfl)⟩⟩

theorem handleAllocationDone_dv (m : M) (ex mi : Bool) (h : DV m.1) : DV (handleAllocationDone m ex mi).1 := by
  have h0 : DV0 (hadForget (hadInstall m) mi).1 := by
    intro hd
    obtain ⟨he, hs⟩ := h.dv0 (by simpa using hd)
    exact ⟨by simpa using he, hs.imp (by simp) fun hn => hadForget_bf_none _ mi (by simpa using hn)⟩
  exact handleAllocationDone_cases (P := fun x => DV x.1) m ex mi (fun b hb _ => hadTrust_dv _ _ h0 hb)
    (fun _ _ => hadFresh_dv _) fun _ _ => h0.verifier

theorem allocatorRun_dv (m : M) (h : DV m.1) : DV (allocatorRun m).1 :=
  have hW := (allocFailOpen_writes m).trans (hadForget_writes _ (allocFailMissing m.1))
  allocatorRun_cases (P := fun x => DV x.1) m
    (fun _ => onSt_stop _ _ _ (stop_dv' _ _ fun hd => hW.errC.trans (h (hW.doVerify ▸ hd)).1))
    fun _ => handleAllocationDone_dv _ _ _ (h.of_writes (allocOkOpen_writes m))

theorem handleVerificationDone_doVerify (m : M) : (handleVerificationDone m).1.doVerify = false :=
  handleVerificationDone_cases (P := fun x => x.1.doVerify = false) m (fun _ => stop_doVerify_false _ _ rfl)
    fun hd => hadCheck_doVerify_false _ ((hvdHaves_writes _).doVerify.trans hd)

theorem handleVerificationDone_dv (m : M) : DV (handleVerificationDone m).1 :=
  .of_false (handleVerificationDone_doVerify m)

theorem pwdFinish_dv (m : M) (h : DV m.1) : DV (pwdFinish m).1 :=
  have h1 : DV m.1.checkCompletion.1 := h.of_writes (checkCompletion_writes m.1)
  pwdFinish_cases (P := fun x => DV x.1) m (fun _ => h1) (fun _ => h1.of_writes (writeBitfield_writes _))
    fun _ => onSt_stop _ _ _ (stop_dv _ _ (h1.of_writes (writeBitfield_writes _)))

theorem handlePieceWriteDone_dv (m : M) (w : WriteJob) (e : Bool) (h : DV m.1) :
    DV (handlePieceWriteDone m w e).1 :=
  have h0 : DV (pwdReset m w).1 := h.of_writes (pwdReset_writes m w)
  have h1 : DV (pwdDone (pwdReset m w) w).1 := h0.of_writes (pwdDone_writes _ w)
  handlePieceWriteDone_cases (P := fun x => DV x.1) m w e (fun _ => h0.of_writes (pwdBan_writes ..)) (fun _ _ => h0)
    (fun _ _ _ _ => onSt_stop _ _ _ (stop_dv _ _ h0)) (fun _ _ _ _ _ => h1.of_writes (crash_writes ..))
    fun b _ _ _ _ (hb : (pwdDone (pwdReset m w) w).1.bf = some b) =>
    have hW := ((pwdSet_writes (pwdDone (pwdReset m w) w) w b).trans (pwdOthers_writes _ w)).trans
      (pwdHaves_writes _ w)
    pwdFinish_dv _ (DV.of_stopping fun hd => by
      rw [hW.errC, hW.stopAnn]; exact h1.dv0.stopping_of_bf hb (hW.doVerify ▸ hd))

theorem writerRun_dv (m : M) (w : WriteJob) (h : DV m.1) : DV (writerRun m w).1 :=
  writerRun_job (P := fun x => DV x.1) m w (fun _ _ _ _ _ => handlePieceWriteDone_dv _ _ _ h.of_eq)
    (fun _ _ => h.of_eq)

/-- `startCore` on a torrent without a bitfield starts the allocator, the verifier or the metadata download. -/
theorem startCore_dv (m : M) (h : m.1.doVerify = true → m.1.bf = none) : DV (startCore m).1 := by
  intro hd
  obtain ⟨he, _, _, ha, hv, _⟩ := startCore_fields m
  have hw := startCore_writes m
  have hb : m.1.bf = none := h (hw.doVerify ▸ hd)
  refine ⟨he, Or.inr ⟨hw.bf.trans hb, ?_⟩⟩
  rw [ha, hv, hw.info, hb]
  cases m.1.info <;> cases m.1.loaded <;> simp

theorem handleStopped_dv (m : M) : DV (handleStopped m).1 := by
  unfold handleStopped
  dsimp only
  split
  · exact startCore_dv _ (fun _ => rfl)
  · next hd => exact DV.of_false (by simpa using hd)

theorem start_dv (m : M) (h : DV m.1) : DV (start m).1 :=
  start_inv m h (fun _ => handleStopped_dv _) fun x hx he => startCore_dv x fun hd =>
    Bool.noConfusion ((hx hd).1.symm.trans he)

theorem handleVerifyCommand_dv (m : M) : DV (handleVerifyCommand m).1 :=
  handleVerifyCommand_cases (P := fun x => DV x.1) m (fun _ => startCore_dv _ fun _ => rfl)
    fun hs => onSt_stop _ _ _ (stop_dv' _ _ fun _ => Bool.of_not_eq_false (mt (status_stopped_iff _).2 hs))

/-- The metadata arrives while a verification is pending (magnet link): the allocator is started, still
without a bitfield — its result will find the flag. -/
theorem DV.adopt {s : St} (h : DV s) : DV (if s.allocator then ({ s with info := true, metaDone := true } : St).crash "allocator exists"
    else { s with info := true, metaDone := true, allocator := true }) := by
  split
  · next ha =>
    intro hd
    obtain ⟨he, hs⟩ := h (by simpa using hd)
    exact ⟨by simpa using he, hs.imp (by simp) (fun hn => ⟨by simpa using hn.1, Or.inl (by simpa using ha)⟩)⟩
  · intro hd
    obtain ⟨he, hs⟩ := h hd
    exact ⟨he, hs.imp id (fun hn => ⟨hn.1, Or.inl rfl⟩)⟩

theorem hmdAdopt_dv (m : M) (h : DV m.1) : DV (hmdAdopt m).1 :=
  hmdAdopt_cases (P := fun x => DV x.1) m (fun _ => onSt_stop _ _ _ (stop_dv _ _ h.of_eq)) fun _ _ =>
    hmdStart_cases (P := fun x => DV x.1) _ (fun _ => onSt_stop _ _ _ (stop_dv' _ _ fun hd => (h hd).1))
      fun _ => (h.of_eq : DV { m.1 with idls := [] }).adopt

theorem handleMetadataData_dv (m : M) (k i len : Nat) (g : Bool) (h : DV m.1) :
    DV (handleMetadataData m k i len g).1 :=
  handleMetadataData_ind DV m k i len g (fun _ hW => h.of_writes hW) fun m' hW => hmdAdopt_dv m' (h.of_writes hW)

theorem Link.dv {m m' : M} (l : Link m m') (h : DV m.1) : DV m'.1 := by
  cases l with
  | stopped => exact handleStopped_dv m
  | alloc => exact allocatorRun_dv m h
  | verify => exact handleVerificationDone_dv m
  | deliver w => exact handlePieceWriteDone_dv m w false h
  | write w => exact writerRun_dv m w h

theorem runWorkers_dv (fuel : Nat) (m : M) (h : DV m.1) : DV (runWorkers fuel m).1 :=
  runWorkers_ind (P := fun x => DV x.1) (fun _ _ l => l.dv) fuel m h

theorem handle_dv (s : St) (p : Parked) (kn : Nat → Bool) (op : Op) (h : DV s) : DV (handle s p kn op).1.1 :=
  handle_ind s p kn op (fun _ _ _ _ _ _ _ _ _ _ _ ht => ht.of_eq) h
    (start_dv (s, []) h) (.of_false (stop_doVerify_false _ _ rfl)) (fun _ => handleVerifyCommand_dv ({ s with persisted := none }, []))
    (fun _ _ _ _ _ => h.of_writes (mutate_writes s _ _)) (fun _ hW _ => h.of_writes hW) (fun _ hW => h.of_writes hW)
    (fun _ _ _ _ _ _ _ => h.of_writes (handlePieceMessage_writes (s, []) ..))
    (fun _ _ _ _ _ _ => handleMetadataData_dv (s, []) _ _ _ _ h)

theorem step_dv (s : St) (p : Parked) (kn : Nat → Bool) (op : Op) (h : DV s) : DV (step s p kn op).1.st :=
  step_inv s p kn op (handle_dv _ p kn op h.of_eq) (fun m => runWorkers_dv 12 m)
    (fun m _ _ _ _ _ hm _ => hm.of_writes (handlePieceMessage_writes m ..))

theorem dstep_dv (sp : St × Parked) (e : Ev) (h : DV sp.1) : DV (dstep sp e).1 := by
  unfold dstep
  have := step_dv sp.1 sp.2 e.known e.op h
  exact (this.of_writes (reconcile_writes ..)).of_writes (reconcileIdl_writes ..)

theorem drun_dv (evs : List Ev) (sp : St × Parked) (h : DV sp.1) : DV (drun sp evs).1 :=
  foldl_inv (fun sp => DV sp.1) dstep dstep_dv evs sp h

/-- While a verification is pending the torrent is not downloading … -/
theorem DV.not_downloading {s : St} (h : DV s) (hd : s.doVerify = true) : s.status ≠ .downloading := by
  intro hst
  obtain ⟨_, hsa, ha, hv, _, hi⟩ := (status_downloading_iff s).1 hst
  rcases (h hd).2 with hs | ⟨_, ha' | hv' | hi'⟩
  · rw [hsa] at hs; cases hs
  · rw [ha] at ha'; cases ha'
  · rw [hv] at hv'; cases hv'
  · rw [hi] at hi'; cases hi'

/-- … and, under the lifecycle invariant (no metadata ⇒ not completed), in one of four statuses. -/
theorem DV.status {s : St} (h : DV s) (l : Life s) (hd : s.doVerify = true) :
    s.status = .stopping ∨ s.status = .allocating ∨ s.status = .verifying ∨ s.status = .dlmeta := by
  obtain ⟨he, hs⟩ := h hd
  unfold St.status
  rcases hs with hs | ⟨_, ha | hv | hi⟩
  · simp [he, hs]
  · simp [he, ha]; cases s.stopAnn <;> simp
  · simp [he, hv]; cases s.stopAnn <;> cases s.allocator <;> simp
  · have hc := (l.ni hi).2.2.2.1
    simp [he, hi, hc]; cases s.stopAnn <;> cases s.allocator <;> cases s.verifier <;> simp

end Rain.Loop
