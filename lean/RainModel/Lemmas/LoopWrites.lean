import RainModel.Lemmas.LoopBase
import RainModel.Lemmas.LoopFrameAttr
/-!
Frames of M-LOOP.  `St` has 51 fields and every handler writes a handful.  `Writes w₀ s s'` says that `s'` differs
from `s` at most in the fields `w₀`.  It is stated through `St.mask` (blank the fields in `w`), because then
* the frame of an atomic record update `{ s with … }` of a variable `s` is `rfl`: for a closed `w` the membership
  tests evaluate (inside a composite body, where the updated state is itself a handler call, `St.mask_update` does
  the same by rewriting), and
* frames compose by rewriting: `x_writes : Writes w₀ s (x s)` unfolds to the conditional rule
  `w₀ ⊆ w → (x s).mask w = s.mask w`, and the simp set `frame` carries `mask` through the body of a handler
  (tactic `frame`), so that what a straight-line handler writes is proved in one pass, not field by field.
A handler with a case principle (`LoopCases`, `LoopDispatch`) gets its `Writes` fact as an instance of it: the motive is
`Writes w m.1 ·.1`, each arm is the phase facts in sequence (`Writes.trans`, `Writes.andThen`, `Writes.onSt`), widened to
`w` by `Writes.mono`.
The single fields follow from `Writes` by the projections `Writes.cfg`, …, `Writes.status`, ….
-/
namespace Rain.Loop

inductive Fld
  | cfg | info | infoAtAdd | errC | stopAnn | allocator | verifier | completed | completeCClosed | doVerify
  | lastErr | loaded | gen | acceptor | openFiles | leaked | bf | done | writing | wflag | fileExists
  | known | bad | peers | dls | idls | isize | maxMeta | parMeta | mayStartI | metaDone | unchoked
  | optimistic | nUnchoke | nOptimistic | stopHang | dials | banned | panicked | gateOpen | gateWrite
  | gateRead | failWrite | failOpen | failAt | gateWriteDone | sto | mayStart | closedDl | persisted
  | tainted
  deriving DecidableEq

def Fld.type : Fld → Type
  | .cfg => Cfg
  | .info => Bool
  | .infoAtAdd => Bool
  | .errC => Bool
  | .stopAnn => Bool
  | .allocator => Bool
  | .verifier => Bool
  | .completed => Bool
  | .completeCClosed => Bool
  | .doVerify => Bool
  | .lastErr => Bool
  | .loaded => Bool
  | .gen => Nat
  | .acceptor => Bool
  | .openFiles => List Nat
  | .leaked => Nat
  | .bf => Option (List Bool)
  | .done => List Bool
  | .writing => Option WriteJob
  | .wflag => List Bool
  | .fileExists => List Bool
  | .known => List Bool
  | .bad => List (Nat × Nat)
  | .peers => List Peer
  | .dls => List Dl
  | .idls => List IDl
  | .isize => Nat
  | .maxMeta => Nat
  | .parMeta => Nat
  | .mayStartI => Bool
  | .metaDone => Bool
  | .unchoked => List Nat
  | .optimistic => List Nat
  | .nUnchoke => Nat
  | .nOptimistic => Nat
  | .stopHang => Bool
  | .dials => Nat
  | .banned => List String
  | .panicked => Option String
  | .gateOpen => Bool
  | .gateWrite => Bool
  | .gateRead => Bool
  | .failWrite => Bool
  | .failOpen => Bool
  | .failAt => Nat
  | .gateWriteDone => Bool
  | .sto => List String
  | .mayStart => List Nat
  | .closedDl => List Nat
  | .persisted => Option (List Bool)
  | .tainted => Bool

def St.get : (x : Fld) → St → x.type
  | .cfg, s => s.cfg
  | .info, s => s.info
  | .infoAtAdd, s => s.infoAtAdd
  | .errC, s => s.errC
  | .stopAnn, s => s.stopAnn
  | .allocator, s => s.allocator
  | .verifier, s => s.verifier
  | .completed, s => s.completed
  | .completeCClosed, s => s.completeCClosed
  | .doVerify, s => s.doVerify
  | .lastErr, s => s.lastErr
  | .loaded, s => s.loaded
  | .gen, s => s.gen
  | .acceptor, s => s.acceptor
  | .openFiles, s => s.openFiles
  | .leaked, s => s.leaked
  | .bf, s => s.bf
  | .done, s => s.done
  | .writing, s => s.writing
  | .wflag, s => s.wflag
  | .fileExists, s => s.fileExists
  | .known, s => s.known
  | .bad, s => s.bad
  | .peers, s => s.peers
  | .dls, s => s.dls
  | .idls, s => s.idls
  | .isize, s => s.isize
  | .maxMeta, s => s.maxMeta
  | .parMeta, s => s.parMeta
  | .mayStartI, s => s.mayStartI
  | .metaDone, s => s.metaDone
  | .unchoked, s => s.unchoked
  | .optimistic, s => s.optimistic
  | .nUnchoke, s => s.nUnchoke
  | .nOptimistic, s => s.nOptimistic
  | .stopHang, s => s.stopHang
  | .dials, s => s.dials
  | .banned, s => s.banned
  | .panicked, s => s.panicked
  | .gateOpen, s => s.gateOpen
  | .gateWrite, s => s.gateWrite
  | .gateRead, s => s.gateRead
  | .failWrite, s => s.failWrite
  | .failOpen, s => s.failOpen
  | .failAt, s => s.failAt
  | .gateWriteDone, s => s.gateWriteDone
  | .sto, s => s.sto
  | .mayStart, s => s.mayStart
  | .closedDl, s => s.closedDl
  | .persisted, s => s.persisted
  | .tainted, s => s.tainted

instance (x : Fld) : Inhabited x.type := by cases x <;> (unfold Fld.type; infer_instance)

theorem St.ext_get {s t : St} (h : ∀ x, s.get x = t.get x) : s = t := by
  cases s; cases t
  simp only [St.mk.injEq]
  exact ⟨h .cfg, h .info, h .infoAtAdd, h .errC, h .stopAnn, h .allocator, h .verifier, h .completed,
    h .completeCClosed, h .doVerify, h .lastErr, h .loaded, h .gen, h .acceptor, h .openFiles, h .leaked,
    h .bf, h .done, h .writing, h .wflag, h .fileExists, h .known, h .bad, h .peers, h .dls, h .idls,
    h .isize, h .maxMeta, h .parMeta, h .mayStartI, h .metaDone, h .unchoked, h .optimistic, h .nUnchoke,
    h .nOptimistic, h .stopHang, h .dials, h .banned, h .panicked, h .gateOpen, h .gateWrite, h .gateRead,
    h .failWrite, h .failOpen, h .failAt, h .gateWriteDone, h .sto, h .mayStart, h .closedDl, h .persisted,
    h .tainted⟩

def St.mask (w : List Fld) (s : St) : St where
  cfg := if .cfg ∈ w then default else s.cfg
  info := if .info ∈ w then default else s.info
  infoAtAdd := if .infoAtAdd ∈ w then default else s.infoAtAdd
  errC := if .errC ∈ w then default else s.errC
  stopAnn := if .stopAnn ∈ w then default else s.stopAnn
  allocator := if .allocator ∈ w then default else s.allocator
  verifier := if .verifier ∈ w then default else s.verifier
  completed := if .completed ∈ w then default else s.completed
  completeCClosed := if .completeCClosed ∈ w then default else s.completeCClosed
  doVerify := if .doVerify ∈ w then default else s.doVerify
  lastErr := if .lastErr ∈ w then default else s.lastErr
  loaded := if .loaded ∈ w then default else s.loaded
  gen := if .gen ∈ w then default else s.gen
  acceptor := if .acceptor ∈ w then default else s.acceptor
  openFiles := if .openFiles ∈ w then default else s.openFiles
  leaked := if .leaked ∈ w then default else s.leaked
  bf := if .bf ∈ w then default else s.bf
  done := if .done ∈ w then default else s.done
  writing := if .writing ∈ w then default else s.writing
  wflag := if .wflag ∈ w then default else s.wflag
  fileExists := if .fileExists ∈ w then default else s.fileExists
  known := if .known ∈ w then default else s.known
  bad := if .bad ∈ w then default else s.bad
  peers := if .peers ∈ w then default else s.peers
  dls := if .dls ∈ w then default else s.dls
  idls := if .idls ∈ w then default else s.idls
  isize := if .isize ∈ w then default else s.isize
  maxMeta := if .maxMeta ∈ w then default else s.maxMeta
  parMeta := if .parMeta ∈ w then default else s.parMeta
  mayStartI := if .mayStartI ∈ w then default else s.mayStartI
  metaDone := if .metaDone ∈ w then default else s.metaDone
  unchoked := if .unchoked ∈ w then default else s.unchoked
  optimistic := if .optimistic ∈ w then default else s.optimistic
  nUnchoke := if .nUnchoke ∈ w then default else s.nUnchoke
  nOptimistic := if .nOptimistic ∈ w then default else s.nOptimistic
  stopHang := if .stopHang ∈ w then default else s.stopHang
  dials := if .dials ∈ w then default else s.dials
  banned := if .banned ∈ w then default else s.banned
  panicked := if .panicked ∈ w then default else s.panicked
  gateOpen := if .gateOpen ∈ w then default else s.gateOpen
  gateWrite := if .gateWrite ∈ w then default else s.gateWrite
  gateRead := if .gateRead ∈ w then default else s.gateRead
  failWrite := if .failWrite ∈ w then default else s.failWrite
  failOpen := if .failOpen ∈ w then default else s.failOpen
  failAt := if .failAt ∈ w then default else s.failAt
  gateWriteDone := if .gateWriteDone ∈ w then default else s.gateWriteDone
  sto := if .sto ∈ w then default else s.sto
  mayStart := if .mayStart ∈ w then default else s.mayStart
  closedDl := if .closedDl ∈ w then default else s.closedDl
  persisted := if .persisted ∈ w then default else s.persisted
  tainted := if .tainted ∈ w then default else s.tainted

theorem St.get_mask (w : List Fld) (s : St) (x : Fld) : (s.mask w).get x = if x ∈ w then default else s.get x := by
  cases x <;> rfl

theorem St.mask_eq_iff {w : List Fld} {s s' : St} : s'.mask w = s.mask w ↔ ∀ x, x ∉ w → s'.get x = s.get x := by
  constructor
  · intro h x hx
    have := congrArg (St.get x) h
    simpa only [St.get_mask, if_neg hx] using this
  · intro h
    apply St.ext_get
    intro x
    rw [St.get_mask, St.get_mask]
    split
    · rfl
    · exact h x ‹_›

/-- An `abbrev`, so that a theorem `Writes w₀ s (x s)` is a conditional rewrite rule for `simp`. -/
abbrev Writes (w₀ : List Fld) (s s' : St) : Prop := ∀ ⦃w⦄, w₀ ⊆ w → s'.mask w = s.mask w

theorem Writes.intro {w₀ : List Fld} {s s' : St} (h : s'.mask w₀ = s.mask w₀) : Writes w₀ s s' :=
  fun _ hw => St.mask_eq_iff.2 fun x hx => St.mask_eq_iff.1 h x fun h0 => hx (hw h0)

theorem Writes.trans {w₁ w₂ : List Fld} {a b c : St} (h₁ : Writes w₁ a b) (h₂ : Writes w₂ b c) : Writes (w₁ ++ w₂) a c :=
  fun _ hw => (h₂ fun _ hx => hw (List.mem_append_right _ hx)).trans (h₁ fun _ hx => hw (List.mem_append_left _ hx))

theorem Writes.mono {w₁ w₂ : List Fld} {s s' : St} (h : Writes w₁ s s') (hw : w₁ ⊆ w₂ := by decide) : Writes w₂ s s' :=
  fun _ h₂ => h (hw.trans h₂)

theorem Writes.andThen {w₁ w₂ : List Fld} {a b c : St} (h₁ : Writes w₁ a b) (h₂ : Writes w₂ b c)
    (hw : w₂ ⊆ w₁ := by decide) : Writes w₁ a c :=
  fun _ h => (h₂ (hw.trans h)).trans (h₁ h)

/-- Stating the step through `onSt` keeps the unifier from unfolding `f`. -/
theorem Writes.onSt {w₀ : List Fld} {m : M} {f : St → St} (h : Writes w₀ m.1 (f m.1)) : Writes w₀ m.1 (onSt m f).1 := h

theorem Writes.get {w₀ : List Fld} {s s' : St} (h : Writes w₀ s s') (x : Fld) (hx : x ∉ w₀ := by decide) :
    s'.get x = s.get x :=
  St.mask_eq_iff.1 (h (List.Subset.refl _)) x hx


variable {w : List Fld} {s s' : St}

theorem Writes.cfg (h : Writes w s s') (hx : Fld.cfg ∉ w := by decide) : s'.cfg = s.cfg := h.get .cfg hx
theorem Writes.info (h : Writes w s s') (hx : Fld.info ∉ w := by decide) : s'.info = s.info := h.get .info hx
theorem Writes.infoAtAdd (h : Writes w s s') (hx : Fld.infoAtAdd ∉ w := by decide) : s'.infoAtAdd = s.infoAtAdd := h.get .infoAtAdd hx
theorem Writes.errC (h : Writes w s s') (hx : Fld.errC ∉ w := by decide) : s'.errC = s.errC := h.get .errC hx
theorem Writes.stopAnn (h : Writes w s s') (hx : Fld.stopAnn ∉ w := by decide) : s'.stopAnn = s.stopAnn := h.get .stopAnn hx
theorem Writes.allocator (h : Writes w s s') (hx : Fld.allocator ∉ w := by decide) : s'.allocator = s.allocator := h.get .allocator hx
theorem Writes.verifier (h : Writes w s s') (hx : Fld.verifier ∉ w := by decide) : s'.verifier = s.verifier := h.get .verifier hx
theorem Writes.completed (h : Writes w s s') (hx : Fld.completed ∉ w := by decide) : s'.completed = s.completed := h.get .completed hx
theorem Writes.completeCClosed (h : Writes w s s') (hx : Fld.completeCClosed ∉ w := by decide) : s'.completeCClosed = s.completeCClosed := h.get .completeCClosed hx
theorem Writes.doVerify (h : Writes w s s') (hx : Fld.doVerify ∉ w := by decide) : s'.doVerify = s.doVerify := h.get .doVerify hx
theorem Writes.lastErr (h : Writes w s s') (hx : Fld.lastErr ∉ w := by decide) : s'.lastErr = s.lastErr := h.get .lastErr hx
theorem Writes.loaded (h : Writes w s s') (hx : Fld.loaded ∉ w := by decide) : s'.loaded = s.loaded := h.get .loaded hx
theorem Writes.gen (h : Writes w s s') (hx : Fld.gen ∉ w := by decide) : s'.gen = s.gen := h.get .gen hx
theorem Writes.acceptor (h : Writes w s s') (hx : Fld.acceptor ∉ w := by decide) : s'.acceptor = s.acceptor := h.get .acceptor hx
theorem Writes.openFiles (h : Writes w s s') (hx : Fld.openFiles ∉ w := by decide) : s'.openFiles = s.openFiles := h.get .openFiles hx
theorem Writes.leaked (h : Writes w s s') (hx : Fld.leaked ∉ w := by decide) : s'.leaked = s.leaked := h.get .leaked hx
theorem Writes.bf (h : Writes w s s') (hx : Fld.bf ∉ w := by decide) : s'.bf = s.bf := h.get .bf hx
theorem Writes.done (h : Writes w s s') (hx : Fld.done ∉ w := by decide) : s'.done = s.done := h.get .done hx
theorem Writes.writing (h : Writes w s s') (hx : Fld.writing ∉ w := by decide) : s'.writing = s.writing := h.get .writing hx
theorem Writes.wflag (h : Writes w s s') (hx : Fld.wflag ∉ w := by decide) : s'.wflag = s.wflag := h.get .wflag hx
theorem Writes.fileExists (h : Writes w s s') (hx : Fld.fileExists ∉ w := by decide) : s'.fileExists = s.fileExists := h.get .fileExists hx
theorem Writes.known (h : Writes w s s') (hx : Fld.known ∉ w := by decide) : s'.known = s.known := h.get .known hx
theorem Writes.bad (h : Writes w s s') (hx : Fld.bad ∉ w := by decide) : s'.bad = s.bad := h.get .bad hx
theorem Writes.peers (h : Writes w s s') (hx : Fld.peers ∉ w := by decide) : s'.peers = s.peers := h.get .peers hx
theorem Writes.dls (h : Writes w s s') (hx : Fld.dls ∉ w := by decide) : s'.dls = s.dls := h.get .dls hx
theorem Writes.idls (h : Writes w s s') (hx : Fld.idls ∉ w := by decide) : s'.idls = s.idls := h.get .idls hx
theorem Writes.isize (h : Writes w s s') (hx : Fld.isize ∉ w := by decide) : s'.isize = s.isize := h.get .isize hx
theorem Writes.maxMeta (h : Writes w s s') (hx : Fld.maxMeta ∉ w := by decide) : s'.maxMeta = s.maxMeta := h.get .maxMeta hx
theorem Writes.parMeta (h : Writes w s s') (hx : Fld.parMeta ∉ w := by decide) : s'.parMeta = s.parMeta := h.get .parMeta hx
theorem Writes.mayStartI (h : Writes w s s') (hx : Fld.mayStartI ∉ w := by decide) : s'.mayStartI = s.mayStartI := h.get .mayStartI hx
theorem Writes.metaDone (h : Writes w s s') (hx : Fld.metaDone ∉ w := by decide) : s'.metaDone = s.metaDone := h.get .metaDone hx
theorem Writes.unchoked (h : Writes w s s') (hx : Fld.unchoked ∉ w := by decide) : s'.unchoked = s.unchoked := h.get .unchoked hx
theorem Writes.optimistic (h : Writes w s s') (hx : Fld.optimistic ∉ w := by decide) : s'.optimistic = s.optimistic := h.get .optimistic hx
theorem Writes.nUnchoke (h : Writes w s s') (hx : Fld.nUnchoke ∉ w := by decide) : s'.nUnchoke = s.nUnchoke := h.get .nUnchoke hx
theorem Writes.nOptimistic (h : Writes w s s') (hx : Fld.nOptimistic ∉ w := by decide) : s'.nOptimistic = s.nOptimistic := h.get .nOptimistic hx
theorem Writes.stopHang (h : Writes w s s') (hx : Fld.stopHang ∉ w := by decide) : s'.stopHang = s.stopHang := h.get .stopHang hx
theorem Writes.dials (h : Writes w s s') (hx : Fld.dials ∉ w := by decide) : s'.dials = s.dials := h.get .dials hx
theorem Writes.banned (h : Writes w s s') (hx : Fld.banned ∉ w := by decide) : s'.banned = s.banned := h.get .banned hx
theorem Writes.panicked (h : Writes w s s') (hx : Fld.panicked ∉ w := by decide) : s'.panicked = s.panicked := h.get .panicked hx
theorem Writes.gateOpen (h : Writes w s s') (hx : Fld.gateOpen ∉ w := by decide) : s'.gateOpen = s.gateOpen := h.get .gateOpen hx
theorem Writes.gateWrite (h : Writes w s s') (hx : Fld.gateWrite ∉ w := by decide) : s'.gateWrite = s.gateWrite := h.get .gateWrite hx
theorem Writes.gateRead (h : Writes w s s') (hx : Fld.gateRead ∉ w := by decide) : s'.gateRead = s.gateRead := h.get .gateRead hx
theorem Writes.failWrite (h : Writes w s s') (hx : Fld.failWrite ∉ w := by decide) : s'.failWrite = s.failWrite := h.get .failWrite hx
theorem Writes.failOpen (h : Writes w s s') (hx : Fld.failOpen ∉ w := by decide) : s'.failOpen = s.failOpen := h.get .failOpen hx
theorem Writes.failAt (h : Writes w s s') (hx : Fld.failAt ∉ w := by decide) : s'.failAt = s.failAt := h.get .failAt hx
theorem Writes.gateWriteDone (h : Writes w s s') (hx : Fld.gateWriteDone ∉ w := by decide) : s'.gateWriteDone = s.gateWriteDone := h.get .gateWriteDone hx
theorem Writes.sto (h : Writes w s s') (hx : Fld.sto ∉ w := by decide) : s'.sto = s.sto := h.get .sto hx
theorem Writes.mayStart (h : Writes w s s') (hx : Fld.mayStart ∉ w := by decide) : s'.mayStart = s.mayStart := h.get .mayStart hx
theorem Writes.closedDl (h : Writes w s s') (hx : Fld.closedDl ∉ w := by decide) : s'.closedDl = s.closedDl := h.get .closedDl hx
theorem Writes.persisted (h : Writes w s s') (hx : Fld.persisted ∉ w := by decide) : s'.persisted = s.persisted := h.get .persisted hx
theorem Writes.tainted (h : Writes w s s') (hx : Fld.tainted ∉ w := by decide) : s'.tainted = s.tainted := h.get .tainted hx

theorem Writes.status (h : Writes w s s')
    (hw : ∀ x ∈ [Fld.errC, .stopAnn, .allocator, .verifier, .completed, .info], x ∉ w := by decide) :
    s'.status = s.status := by
  simp only [List.forall_mem_cons, List.not_mem_nil, false_imp_iff, implies_true, and_true] at hw
  unfold St.status
  rw [h.errC hw.1, h.stopAnn hw.2.1, h.allocator hw.2.2.1, h.verifier hw.2.2.2.1, h.completed hw.2.2.2.2.1,
    h.info hw.2.2.2.2.2]

theorem Writes.n (h : Writes w s s') (hw : Fld.cfg ∉ w := by decide) : s'.n = s.n :=
  congrArg Cfg.n (h.cfg hw)

theorem Writes.diskOKi (h : Writes w s s') (i : Nat) (hb : Fld.bad ∉ w := by decide) (hc : Fld.cfg ∉ w := by decide) :
    s'.diskOKi i = s.diskOKi i := by
  unfold St.diskOKi
  rw [h.bad hb, h.cfg hc]

theorem Writes.diskOK (h : Writes w s s') (hb : Fld.bad ∉ w := by decide) (hc : Fld.cfg ∉ w := by decide) :
    s'.diskOK = s.diskOK := by
  unfold St.diskOK
  rw [h.n hc, funext fun i => h.diskOKi i hb hc]

theorem Writes.findPeer (h : Writes w s s') (k : Nat) (hw : Fld.peers ∉ w := by decide) : s'.findPeer k = s.findPeer k := by
  unfold St.findPeer; rw [h.peers hw]

theorem Writes.findDl (h : Writes w s s') (k : Nat) (hw : Fld.dls ∉ w := by decide) : s'.findDl k = s.findDl k := by
  unfold St.findDl; rw [h.dls hw]

@[frame] theorem St.mask_ite (c : Prop) [Decidable c] (a b : St) :
    (if c then a else b).mask w = if c then a.mask w else b.mask w := by split <;> rfl

@[frame] theorem ite_fst {α β} (c : Prop) [Decidable c] (a b : α × β) :
    (if c then a else b).1 = if c then a.1 else b.1 := by
  split <;> rfl

@[frame] theorem foldl_mask {α} (f : St → α → St) (h : ∀ s a, (f s a).mask w = s.mask w) (l : List α) (s : St) :
    (l.foldl f s).mask w = s.mask w := foldl_keep (St.mask w) f h l s

@[frame] theorem foldlM_mask {α} (f : M → α → M) (h : ∀ m a, (f m a).1.mask w = m.1.mask w) (l : List α) (m : M) :
    (l.foldl f m).1.mask w = m.1.mask w := foldl_keep (fun m : M => m.1.mask w) f h l m

/-- A record update of `t` (the `cfg` slot, which no handler writes, identifies `t`): every other slot is `t`'s own
or is blanked by `w`. -/
@[frame] theorem St.mask_update (t : St) {info infoAtAdd errC stopAnn allocator verifier completed completeCClosed doVerify lastErr loaded gen acceptor openFiles leaked bf done writing wflag fileExists known bad peers dls idls isize maxMeta parMeta mayStartI metaDone unchoked optimistic nUnchoke nOptimistic stopHang dials banned panicked gateOpen gateWrite gateRead failWrite failOpen failAt gateWriteDone sto mayStart closedDl persisted tainted}
    (h_info : .info ∈ w ∨ info = t.info)
    (h_infoAtAdd : .infoAtAdd ∈ w ∨ infoAtAdd = t.infoAtAdd)
    (h_errC : .errC ∈ w ∨ errC = t.errC)
    (h_stopAnn : .stopAnn ∈ w ∨ stopAnn = t.stopAnn)
    (h_allocator : .allocator ∈ w ∨ allocator = t.allocator)
    (h_verifier : .verifier ∈ w ∨ verifier = t.verifier)
    (h_completed : .completed ∈ w ∨ completed = t.completed)
    (h_completeCClosed : .completeCClosed ∈ w ∨ completeCClosed = t.completeCClosed)
    (h_doVerify : .doVerify ∈ w ∨ doVerify = t.doVerify)
    (h_lastErr : .lastErr ∈ w ∨ lastErr = t.lastErr)
    (h_loaded : .loaded ∈ w ∨ loaded = t.loaded)
    (h_gen : .gen ∈ w ∨ gen = t.gen)
    (h_acceptor : .acceptor ∈ w ∨ acceptor = t.acceptor)
    (h_openFiles : .openFiles ∈ w ∨ openFiles = t.openFiles)
    (h_leaked : .leaked ∈ w ∨ leaked = t.leaked)
    (h_bf : .bf ∈ w ∨ bf = t.bf)
    (h_done : .done ∈ w ∨ done = t.done)
    (h_writing : .writing ∈ w ∨ writing = t.writing)
    (h_wflag : .wflag ∈ w ∨ wflag = t.wflag)
    (h_fileExists : .fileExists ∈ w ∨ fileExists = t.fileExists)
    (h_known : .known ∈ w ∨ known = t.known)
    (h_bad : .bad ∈ w ∨ bad = t.bad)
    (h_peers : .peers ∈ w ∨ peers = t.peers)
    (h_dls : .dls ∈ w ∨ dls = t.dls)
    (h_idls : .idls ∈ w ∨ idls = t.idls)
    (h_isize : .isize ∈ w ∨ isize = t.isize)
    (h_maxMeta : .maxMeta ∈ w ∨ maxMeta = t.maxMeta)
    (h_parMeta : .parMeta ∈ w ∨ parMeta = t.parMeta)
    (h_mayStartI : .mayStartI ∈ w ∨ mayStartI = t.mayStartI)
    (h_metaDone : .metaDone ∈ w ∨ metaDone = t.metaDone)
    (h_unchoked : .unchoked ∈ w ∨ unchoked = t.unchoked)
    (h_optimistic : .optimistic ∈ w ∨ optimistic = t.optimistic)
    (h_nUnchoke : .nUnchoke ∈ w ∨ nUnchoke = t.nUnchoke)
    (h_nOptimistic : .nOptimistic ∈ w ∨ nOptimistic = t.nOptimistic)
    (h_stopHang : .stopHang ∈ w ∨ stopHang = t.stopHang)
    (h_dials : .dials ∈ w ∨ dials = t.dials)
    (h_banned : .banned ∈ w ∨ banned = t.banned)
    (h_panicked : .panicked ∈ w ∨ panicked = t.panicked)
    (h_gateOpen : .gateOpen ∈ w ∨ gateOpen = t.gateOpen)
    (h_gateWrite : .gateWrite ∈ w ∨ gateWrite = t.gateWrite)
    (h_gateRead : .gateRead ∈ w ∨ gateRead = t.gateRead)
    (h_failWrite : .failWrite ∈ w ∨ failWrite = t.failWrite)
    (h_failOpen : .failOpen ∈ w ∨ failOpen = t.failOpen)
    (h_failAt : .failAt ∈ w ∨ failAt = t.failAt)
    (h_gateWriteDone : .gateWriteDone ∈ w ∨ gateWriteDone = t.gateWriteDone)
    (h_sto : .sto ∈ w ∨ sto = t.sto)
    (h_mayStart : .mayStart ∈ w ∨ mayStart = t.mayStart)
    (h_closedDl : .closedDl ∈ w ∨ closedDl = t.closedDl)
    (h_persisted : .persisted ∈ w ∨ persisted = t.persisted)
    (h_tainted : .tainted ∈ w ∨ tainted = t.tainted) :
    (St.mk t.cfg info infoAtAdd errC stopAnn allocator verifier completed completeCClosed doVerify lastErr loaded gen acceptor openFiles leaked bf done writing wflag fileExists known bad peers dls idls isize maxMeta parMeta mayStartI metaDone unchoked optimistic nUnchoke nOptimistic stopHang dials banned panicked gateOpen gateWrite gateRead failWrite failOpen failAt gateWriteDone sto mayStart closedDl persisted tainted).mask w = t.mask w :=
  St.mask_eq_iff.2 fun x hx => by
    cases x
    · rfl
    · exact h_info.resolve_left hx
    · exact h_infoAtAdd.resolve_left hx
    · exact h_errC.resolve_left hx
    · exact h_stopAnn.resolve_left hx
    · exact h_allocator.resolve_left hx
    · exact h_verifier.resolve_left hx
    · exact h_completed.resolve_left hx
    · exact h_completeCClosed.resolve_left hx
    · exact h_doVerify.resolve_left hx
    · exact h_lastErr.resolve_left hx
    · exact h_loaded.resolve_left hx
    · exact h_gen.resolve_left hx
    · exact h_acceptor.resolve_left hx
    · exact h_openFiles.resolve_left hx
    · exact h_leaked.resolve_left hx
    · exact h_bf.resolve_left hx
    · exact h_done.resolve_left hx
    · exact h_writing.resolve_left hx
    · exact h_wflag.resolve_left hx
    · exact h_fileExists.resolve_left hx
    · exact h_known.resolve_left hx
    · exact h_bad.resolve_left hx
    · exact h_peers.resolve_left hx
    · exact h_dls.resolve_left hx
    · exact h_idls.resolve_left hx
    · exact h_isize.resolve_left hx
    · exact h_maxMeta.resolve_left hx
    · exact h_parMeta.resolve_left hx
    · exact h_mayStartI.resolve_left hx
    · exact h_metaDone.resolve_left hx
    · exact h_unchoked.resolve_left hx
    · exact h_optimistic.resolve_left hx
    · exact h_nUnchoke.resolve_left hx
    · exact h_nOptimistic.resolve_left hx
    · exact h_stopHang.resolve_left hx
    · exact h_dials.resolve_left hx
    · exact h_banned.resolve_left hx
    · exact h_panicked.resolve_left hx
    · exact h_gateOpen.resolve_left hx
    · exact h_gateWrite.resolve_left hx
    · exact h_gateRead.resolve_left hx
    · exact h_failWrite.resolve_left hx
    · exact h_failOpen.resolve_left hx
    · exact h_failAt.resolve_left hx
    · exact h_gateWriteDone.resolve_left hx
    · exact h_sto.resolve_left hx
    · exact h_mayStart.resolve_left hx
    · exact h_closedDl.resolve_left hx
    · exact h_persisted.resolve_left hx
    · exact h_tainted.resolve_left hx

-- `true_or`, `or_true`, `implies_true`, `ite_self`: the side conditions of `St.mask_update` and of the fold rules.
attribute [frame] onSt_fst send_fst closePeerM_fst ite_self implies_true true_or or_true

/-- Proves `(f … s).mask w = s.mask w` for a closed `w` by rewriting with the `frame` rules, innermost call first.
Every rule is conditional: `w₀ ⊆ w` is decided, the slots of `St.mask_update` and the hypothesis of `foldl_mask` are
discharged by the same rules. -/
syntax "frame" (" [" Lean.Parser.Tactic.simpLemma,* "]")? : tactic
macro_rules
  | `(tactic| frame) => `(tactic| simp (config := { decide := true }) only [frame])
  | `(tactic| frame [$ts,*]) =>
    `(tactic| simp (config := { decide := true }) only [frame, $ts,*])

end Rain.Loop
