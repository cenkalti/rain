import RainModel.Lemmas.LoopStopped
/-!
C04/C08, no panic, handler by handler (`x_no_panic`): under a local precondition (a clause of the loop invariant) the
handler does not reach any of Go's panic sites (`crash(...)`, close of a closed channel, nil bitfield).
Handlers without any panic site do not write `panicked` (their `x_writes` theorems).  The workers that replay the
queued messages (allocation, verification) are in `LoopWInvWork`: they need the frame relation `WFrame`, which carries
the queue discipline `QueueOK` defined here.
-/
namespace Rain.Loop

theorem crash_panicked_of_some (s : St) (w : String) (h : s.panicked ≠ none) : (s.crash w).panicked = s.panicked := by
  unfold St.crash
  split
  · rfl
  · next hn => exact absurd hn h

/-- `startCore` (the body of `start()`): "allocator exists" / "verifier exists". -/
theorem startCore_no_panic (m : M) (h : m.1.allocator = false ∧ m.1.verifier = false) :
    (startCore m).1.panicked = m.1.panicked := by
  unfold startCore
  simp only [ite_fst, onSt_fst, ite_panicked, startDls_panicked, h.1, h.2, Bool.false_eq_true, if_false, ite_self]

theorem handleStopped_no_panic (m : M) (h : m.1.allocator = false ∧ m.1.verifier = false) :
    (handleStopped m).1.panicked = m.1.panicked := by
  unfold handleStopped
  dsimp only
  split
  · rw [startCore_no_panic]
    · simp
    · simpa using h
  · simp

theorem handleStopped_idle (m : M) (h : m.1.allocator = false ∧ m.1.verifier = false) :
    (handleStopped m).1.errC = true ∨ ((handleStopped m).1.allocator = false ∧ (handleStopped m).1.verifier = false) := by
  unfold handleStopped
  dsimp only
  split
  · exact Or.inl (startCore_fields _).1
  · right; simpa using h

/-- `start()`, including the start while stopping (fix C04-F3): no worker may exist while the torrent is
stopped or stopping (a clause of `Life`). -/
theorem start_no_panic (m : M)
    (h : (m.1.errC = false ∨ m.1.stopAnn = true) → m.1.allocator = false ∧ m.1.verifier = false) :
    (start m).1.panicked = m.1.panicked := by
  rw [start_eq]
  unfold startGo startPre
  by_cases hs : m.1.stopAnn = true
  · have h0 : (onSt m fun s => { s with stopHang := false }).1.allocator = false ∧
        (onSt m fun s => { s with stopHang := false }).1.verifier = false := by simpa using h (Or.inr hs)
    rw [if_pos hs]
    have hp := handleStopped_no_panic _ h0
    split
    · simpa using hp
    · next he =>
      rcases handleStopped_idle _ h0 with h1 | h1
      · exact absurd h1 he
      · rw [startCore_no_panic _ h1]; simpa using hp
  · rw [if_neg hs]
    split
    · rfl
    · next he => exact startCore_no_panic m (h (Or.inl (by simpa using he)))

theorem handleVerifyCommand_no_panic (m : M) (h : m.1.errC = false → m.1.allocator = false ∧ m.1.verifier = false) :
    (handleVerifyCommand m).1.panicked = m.1.panicked :=
  handleVerifyCommand_cases (P := fun x => x.1.panicked = m.1.panicked) m
    (fun hst => startCore_no_panic _ (h ((status_stopped_iff _).1 hst))) fun _ => stop_panicked _ _

/-- `checkCompletion()`: nil bitfield, close of the closed `completeC`. -/
theorem checkCompletion_no_panic (s : St) (hbf : s.completed = true ∨ s.bf.isSome = true)
    (hcc : s.completeCClosed = true → s.completed = true) : s.checkCompletion.1.panicked = s.panicked := by
  unfold St.checkCompletion
  split
  · rfl
  · next hc =>
    split
    · next hn =>
      rcases hbf with h | h
      · exact absurd h hc
      · simp [hn] at h
    · split
      · rfl
      · have hcl : s.completeCClosed = false := by
          cases h : s.completeCClosed
          · rfl
          · exact absurd (hcc h) hc
        simp [hcl]

/-! `handlePieceMessage` in named pieces (the equation is `rfl`). -/

/-- The last block of piece `i` has arrived from peer `k`: the download is closed and the piece goes to the
writer. -/
def hpmWrite (m : M) (k i : Nat) (good : Bool) : M :=
  let m := onSt m (·.closeDl k)
  let m := if m.1.wflag.getD i false then onSt m (·.crash "piece is already writing") else m
  let m := onSt m fun s => { s with wflag := setAt s.wflag i true }
  let m := onSt m (·.startDlFor k)
  onSt m fun s => { s with writing := some { piece := i, src := k, good := good, gen := s.gen } }

/-- `handlePieceMessage` for a peer `k` that runs download `d` (the `some d` arm). -/
def hpmBlock (m : M) (d : Dl) (k i b l : Nat) (good : Bool) : M :=
  if d.piece ≠ i then m else
  let blocks := m.1.cfg.blocks.getD i []
  if !(blocks.contains (b, l)) then closePeerM m k
  else if d.doneBlocks.contains b then m
  else
    let d' : Dl := { d with doneBlocks := b :: d.doneBlocks, good := d.good && good }
    let m := onSt m fun s => { s with dls := s.dls.map fun x => if x.k = k then d' else x }
    if d'.doneBlocks.length ≠ blocks.length then m else hpmWrite m k i d'.good

theorem handlePieceMessage_eq (m : M) (k i b l : Nat) (good : Bool) :
    handlePieceMessage m k i b l good =
      if !m.1.loaded || m.1.bf.isNone then closePeerM m k
      else if i ≥ m.1.n then closePeerM m k
      else
        match m.1.findDl k with
        | none => m
        | some d => hpmBlock m d k i b l good := rfl

theorem startDlFor_wflag (s : St) (k : Nat) (F : List Bool) :
    ({ s with wflag := F } : St).startDlFor k = { s.startDlFor k with wflag := F } := by
  show (if s.status = .downloading ∧ (s.findPeer k).isSome then _ else _) = _
  unfold St.startDlFor
  split <;> rfl

def St.setJob (s : St) (w : WriteJob) : St := { s with wflag := setAt s.wflag w.piece true, writing := some w }

/-- The bookkeeping of `hpmWrite`: the download is closed, the peer may pick again. -/
def hpmPre (m : M) (k i : Nat) : St :=
  (if (m.1.closeDl k).wflag.getD i false then (m.1.closeDl k).crash "piece is already writing"
    else m.1.closeDl k).startDlFor k

theorem hpmWrite_eq (m : M) (k i : Nat) (g : Bool) :
    (hpmWrite m k i g).1 = (hpmPre m k i).setJob ⟨i, k, g, (hpmPre m k i).gen, false⟩ := by
  unfold hpmWrite hpmPre St.setJob
  simp only [onSt_fst, ite_fst, startDlFor_wflag]
  split <;> rw [(startDlFor_writes _ k).wflag]

/-- The one panic site of the peer messages is "piece is already writing". -/
theorem hpmWrite_no_panic (m : M) (k i : Nat) (g : Bool) (h : m.1.wflag.getD i false = false) :
    (hpmWrite m k i g).1.panicked = m.1.panicked := by
  rw [hpmWrite_eq]
  unfold St.setJob hpmPre
  rw [closeDl_wflag, h, if_neg Bool.false_ne_true]
  exact (startDlFor_writes _ k).panicked.trans (closeDl_panicked ..)

theorem handlePieceMessage_no_panic (m : M) (k i b l : Nat) (g : Bool)
    (h : m.1.loaded = true → m.1.wflag.getD i false = false) :
    (handlePieceMessage m k i b l g).1.panicked = m.1.panicked := by
  rw [handlePieceMessage_eq]
  refine ite_ind (P := fun x : M => x.1.panicked = m.1.panicked) (fun _ => closePeer_panicked ..) fun hl => ?_
  rw [Bool.or_eq_true, not_or, Bool.not_eq_true, Bool.not_eq_false'] at hl
  split
  · exact closePeer_panicked ..
  split
  · rfl
  · next d _ =>
    have hp := fun f g => hpmWrite_no_panic (onSt m fun s => { s with dls := s.dls.map f }) k i g (h hl.1)
    unfold hpmBlock
    simp only [ite_fst, ite_panicked, onSt_fst, closePeerM_fst, closePeer_panicked, hp, ite_self]

theorem handlePeerMessage_no_panic (m : M) (k : Nat) (msg : Msg)
    (h : ∀ i b l g, msg = .piece i b l g → m.1.wflag.getD i false = false) :
    (handlePeerMessage m k msg).1.panicked = m.1.panicked := by
  by_cases hp : ∃ i b l g, msg = .piece i b l g
  · obtain ⟨i, b, l, g, rfl⟩ := hp
    exact handlePieceMessage_no_panic m k i b l g fun _ => h i b l g rfl
  · exact (handlePeerMessage_writes_of_ne_piece m k msg fun i b l g he => hp ⟨i, b, l, g, he⟩).panicked

/-- The completion check after a write, and the bitfield stored in the resume db: nil bitfield, closed `completeC`. -/
theorem pwdFinish_no_panic (m : M) (hbf : m.1.bf.isSome = true)
    (hcc : m.1.completeCClosed = true → m.1.completed = true) : (pwdFinish m).1.panicked = m.1.panicked := by
  have hc := checkCompletion_no_panic m.1 (Or.inr hbf) hcc
  have hwb : m.1.checkCompletion.1.writeBitfield.panicked = m.1.checkCompletion.1.panicked := by
    unfold St.writeBitfield
    split
    · rfl
    · next hn => rw [(checkCompletion_writes m.1).bf.symm.trans hn] at hbf; cases hbf
  exact pwdFinish_cases (P := fun x => x.1.panicked = m.1.panicked) m (fun _ => hc) (fun _ => hwb.trans hc)
    fun _ => (stop_panicked _ _).trans (hwb.trans hc)

/-- `handlePieceWriteDone`: nil bitfield, "already have the piece", and the completion check — only for a result
that is still current (a stale one is ignored: fix C04-F9). -/
theorem handlePieceWriteDone_no_panic (m : M) (w : WriteJob) (e : Bool)
    (hbit : w.good = true → e = false → w.gen = m.1.gen → m.1.loaded = true →
      ∃ b, m.1.bf = some b ∧ b.getD w.piece false = false)
    (hcc : m.1.completeCClosed = true → m.1.completed = true) :
    (handlePieceWriteDone m w e).1.panicked = m.1.panicked := by
  have R := pwdReset_writes m w
  refine handlePieceWriteDone_cases (P := fun x => x.1.panicked = m.1.panicked) m w e
    (fun _ => (pwdBan_writes _ w).panicked.trans R.panicked) (fun _ _ => R.panicked)
    (fun _ _ _ _ => (stop_panicked _ _).trans R.panicked)
    (fun hg he hgen hl hb => by obtain ⟨b, hb', _⟩ := hbit hg he hgen hl; cases hb.symm.trans hb')
    fun b hg he hgen hl hb => ?_
  obtain ⟨b', hb', hbit'⟩ := hbit hg he hgen hl
  cases hb.symm.trans hb'
  -- set the bit (no crash: the piece was not held), close duplicates, send haves, check completion
  have h1 : (pwdSet (pwdDone (pwdReset m w) w) w b).1.panicked = m.1.panicked := by
    unfold pwdSet
    rw [if_neg (by rw [hbit']; exact Bool.false_ne_true)]
    exact (pwdDone_writes _ w).panicked.trans R.panicked
  have Wx : Writes [.writing, .wflag, .done, .bf, .panicked, .peers, .dls, .mayStart, .closedDl] m.1
      (pwdHaves (pwdOthers (pwdSet (pwdDone (pwdReset m w) w) w b) w) w).1 := .intro (by frame)
  unfold pwdOk
  rw [pwdFinish_no_panic]
  · exact (pwdHaves_writes _ w).panicked.trans ((pwdOthers_writes _ w).panicked.trans h1)
  · rw [(pwdHaves_writes _ w).bf, (pwdOthers_writes _ w).bf]; rfl
  · rw [Wx.completeCClosed, Wx.completed]; exact hcc

theorem hmdStart_no_panic (m : M) (h : m.1.allocator = false) : (hmdStart m).1.panicked = m.1.panicked :=
  hmdStart_cases (P := fun x => x.1.panicked = m.1.panicked) m (fun _ => stop_panicked _ _) fun _ => by simp [h]

theorem hmdAdopt_no_panic (m : M) (h : m.1.allocator = false) : (hmdAdopt m).1.panicked = m.1.panicked :=
  hmdAdopt_cases (P := fun x => x.1.panicked = m.1.panicked) m (fun _ => stop_panicked _ _) fun _ _ =>
    hmdStart_no_panic _ h

/-- `handleMetadataData`: "allocator exists". -/
theorem handleMetadataData_no_panic (m : M) (k i len : Nat) (g : Bool) (h : m.1.allocator = false) :
    (handleMetadataData m k i len g).1.panicked = m.1.panicked := by
  rw [handleMetadataData_eq]
  split
  · rfl
  · unfold hmdBlock
    simp only [ite_fst, ite_panicked, onSt_fst, closePeerM_fst, closePeer_panicked, updPeer_panicked,
      hmdAdopt_no_panic, h, ite_self]

/-- Only messages that need the metadata are ever queued (so a replay contains no block). -/
def QueueOK (s : St) : Prop := ∀ p ∈ s.peers, ∀ msg ∈ p.queued, needsInfo msg = true

theorem QueueOK.of_peers {s s' : St} (h : QueueOK s) (hp : s'.peers = s.peers) : QueueOK s' := by
  unfold QueueOK; rw [hp]; exact h

theorem QueueOK.closePeer {s : St} (h : QueueOK s) (k : Nat) : QueueOK (s.closePeer k) := by
  intro p hp
  exact h p (closePeer_peers_subset s k p hp)

theorem writerRun_no_panic (m : M) (w : WriteJob)
    (hbit : w.good = true → w.gen = m.1.gen → m.1.loaded = true → ∃ b, m.1.bf = some b ∧ b.getD w.piece false = false)
    (hcc : m.1.completeCClosed = true → m.1.completed = true) :
    (writerRun m w).1.panicked = m.1.panicked :=
  writerRun_job (P := fun x => x.1.panicked = m.1.panicked) m w
    (fun _ _ _ _ hg => handlePieceWriteDone_no_panic _ _ _ (fun h _ => hbit (hg h)) hcc) fun _ _ => rfl

end Rain.Loop
