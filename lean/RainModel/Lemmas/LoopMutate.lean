import RainModel.Lemmas.LoopSound
/-!
External changes of the files (`mutate`): what survives them.
-/
namespace Rain.Loop

theorem mem_dataSects (c : Cfg) (x : Nat × Nat) (h : x ∈ c.dataSects) :
    ∃ sc ∈ c.sections x.1, sc.file = x.2 ∧ c.isData sc = true := by
  unfold Cfg.dataSects at h
  simp only [List.mem_flatMap, List.mem_range, List.mem_map, List.mem_filter] at h
  obtain ⟨i, _, sc, ⟨hsc, hd⟩, rfl⟩ := h
  exact ⟨sc, hsc, rfl, by simpa [Cfg.isData] using hd⟩

/-- One file of `mutate`. -/
def mutateOne (s : St) (how : Mut) (f : Nat) : St :=
  match how with
  | .delete =>
    { s with fileExists := s.fileExists.set f false,
             bad := (s.bad.filter fun b => b.2 ≠ f) ++ (s.cfg.dataSects.filter fun b => b.2 = f) }
  | .corrupt off =>
    if !(s.fileExists.getD f false) || off ≥ s.cfg.flens.getD f 0 then s else
    let hit := (List.range s.n).filter fun i =>
      (s.cfg.sections i).any fun sc => sc.file = f && sc.off ≤ off && off < sc.off + sc.len
    { s with bad := s.bad ++ (hit.map fun i => (i, f)).filter (fun b => !(s.bad.contains b)), tainted := true }
  | .fill =>
    { s with fileExists := s.fileExists.set f true, bad := s.bad.filter fun b => b.2 ≠ f }

theorem mutate_eq (s : St) (file : Option Nat) (how : Mut) :
    mutate s file how =
      ((List.range s.cfg.flens.length).filter fun f =>
        s.known.getD f false && !(s.cfg.fpads.getD f false) && (match file with | some x => x = f | none => true)).foldl
        (fun s f => mutateOne s how f) s := by
  cases how <;> rfl

@[simp] theorem mutateOne_cfg (s : St) (how : Mut) (f : Nat) : (mutateOne s how f).cfg = s.cfg := by
  unfold mutateOne; repeat' split
  all_goals rfl

theorem mutateOne_sound0 (s : St) (how : Mut) (f : Nat) (hf : s.cfg.fpads.getD f false = false) (h : Sound0 s) :
    Sound0 (mutateOne s how f) := by
  refine ⟨by simpa using h.cfg, ?_⟩
  intro x hx
  rw [mutateOne_cfg]
  unfold mutateOne at hx
  split at hx
  · simp only [List.mem_append, List.mem_filter] at hx
    rcases hx with hx | hx
    · exact h.bad x hx.1
    · exact mem_dataSects _ _ hx.1
  · split at hx
    · exact h.bad x hx
    · simp only [List.mem_append, List.mem_filter, List.mem_map, List.mem_range] at hx
      rcases hx with hx | ⟨⟨i, ⟨_, hany⟩, rfl⟩, _⟩
      · exact h.bad x hx
      · simp only [List.any_eq_true, Bool.and_eq_true, decide_eq_true_eq] at hany
        obtain ⟨sc, hsc, ⟨hfile, h1⟩, h2⟩ := hany
        refine ⟨sc, hsc, hfile, ?_⟩
        simp only [Cfg.isData, Bool.and_eq_true, Bool.not_eq_true', decide_eq_true_eq]
        exact ⟨by rw [hfile]; exact hf, by omega⟩
  · simp only [List.mem_filter] at hx
    exact h.bad x hx.1

theorem mutate_sound0 (s : St) (file : Option Nat) (how : Mut) (h : Sound0 s) : Sound0 (mutate s file how) := by
  rw [mutate_eq]
  refine (foldl_inv_mem (fun t => t.cfg = s.cfg ∧ Sound0 t) _ _ (fun t f hf ⟨hc, ht⟩ => ?_) s ⟨rfl, h⟩).2
  simp only [List.mem_filter, Bool.and_eq_true, Bool.not_eq_true'] at hf
  exact ⟨by simpa using hc, mutateOne_sound0 t how f (hc ▸ hf.2.1.2) ht⟩

/-- Deleting or restoring a file keeps the weak soundness: a stale bit's bad sections lie in missing files. -/
theorem mutateOne_ws (s : St) (how : Mut) (f : Nat) (hhow : ∀ off, how ≠ .corrupt off) (h : WS s) :
    WS (mutateOne s how f) := by
  intro i hi x hx hxi
  unfold mutateOne at hi hx ⊢
  split at hx
  · simp only [List.mem_append, List.mem_filter] at hx
    dsimp only at hi ⊢
    rw [← setAt, getD_setAt]
    rcases hx with hx | hx
    · have hne : x.2 ≠ f := by simpa using hx.2
      rw [if_neg (fun hh => hne hh.1)]
      exact h i hi x hx.1 hxi
    · have he : x.2 = f := by simpa using hx.2
      split
      · rfl
      · next hn =>
        simp only [he, true_and, Nat.not_lt] at hn
        rw [he, List.getD_eq_getElem?_getD, List.getElem?_eq_none hn]
        rfl
  · next off => exact absurd rfl (hhow off)
  · simp only [List.mem_filter] at hx
    dsimp only at hi ⊢
    rw [← setAt, getD_setAt]
    have hne : x.2 ≠ f := by simpa using hx.2
    rw [if_neg (fun hh => hne hh.1)]
    exact h i hi x hx.1 hxi

theorem mutate_wsound (s : St) (file : Option Nat) (how : Mut) (hhow : ∀ off, how ≠ .corrupt off)
    (h : WSound s) : WSound (mutate s file how) := by
  have h0 := mutate_sound0 s file how h.zero
  refine ⟨h0.cfg, h0.bad, ?_⟩
  rw [mutate_eq]
  exact foldl_inv WS _ (fun t f ht => mutateOne_ws t how f hhow ht) _ _ h.ws

end Rain.Loop
