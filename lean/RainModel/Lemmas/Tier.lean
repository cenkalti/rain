import RainModel.Model.Tier
namespace Rain.Tier

theorem next_lt {n : Nat} (hn : 0 < n) (i : Nat) : next n i < n := by
  unfold next; split <;> omega

theorem next_eq_mod {n i : Nat} (h : i < n) : next n i = (i + 1) % n := by
  unfold next
  split
  · have : i + 1 = n := by omega
    rw [this, Nat.mod_self]
  · rw [Nat.mod_eq_of_lt (by omega)]

theorem load_of_lt {t : T} (h : t.idx < t.n) : load t = t.idx := by
  unfold load; split <;> omega

theorem load_lt {t : T} (hn : 0 < t.n) : load t < t.n := by
  unfold load; split <;> omega

@[simp] theorem finish_n (t : T) (i : Nat) (ok : Bool) : (finish t i ok).n = t.n := by
  unfold finish
  split
  · rfl
  · split <;> rfl

/-- The stored index stays inside the tier whatever (possibly stale) index a finishing announce
had loaded — the invariant that makes the wrap in `loadIndex` dead code after the repair. -/
theorem finish_lt {t : T} (h : t.idx < t.n) (i : Nat) (ok : Bool) : (finish t i ok).idx < t.n := by
  unfold finish
  split
  · exact h
  · split
    · exact next_lt (by omega) i
    · exact h

theorem step_n (t : T) (op : Op) : (step t op).n = t.n := by
  cases op <;> simp [step]

theorem step_lt {t : T} (h : t.idx < t.n) (op : Op) : (step t op).idx < (step t op).n := by
  rw [step_n]
  cases op with
  | begin => exact h
  | fin i ok => exact finish_lt h i ok

theorem steps_inv {t : T} (h : t.idx < t.n) (ops : List Op) :
    (steps t ops).n = t.n ∧ (steps t ops).idx < t.n := by
  induction ops generalizing t with
  | nil => exact ⟨rfl, h⟩
  | cons op rest ih =>
    have h1 := step_lt h op
    have hn := step_n t op
    have := ih h1
    simp only [steps, List.foldl] at this ⊢
    rw [hn] at this
    exact this

theorem announce_fail {t : T} (h : t.idx < t.n) :
    (announce t false).2 = { t with idx := (t.idx + 1) % t.n } := by
  simp [announce, finish, load_of_lt h, next_eq_mod h]

theorem failN_eq {t : T} (h : t.idx < t.n) (k : Nat) : failN k t = { t with idx := (t.idx + k) % t.n } := by
  induction k generalizing t with
  | zero => simp [failN, Nat.mod_eq_of_lt h]
  | succ k ih =>
    rw [failN, announce_fail h, ih (Nat.mod_lt _ (by omega : 0 < t.n)), Nat.mod_add_mod, Nat.add_assoc, Nat.add_comm 1]

theorem announce_ok (t : T) : (announce t true).2 = t := by
  simp [announce, finish]

end Rain.Tier
