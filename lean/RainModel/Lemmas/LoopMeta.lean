import RainModel.Lemmas.LoopBase
/-!
`reconcileIdl`: what an error-free reconciliation guarantees about the metadata downloads it adopts.
-/
namespace Rain.Loop

/-- A metadata download the model accepts as newly started in state `s`. -/
def IdlAdmissible (s : St) (d : IDl) : Prop :=
  s.info = false ∧ s.mayStartI = true ∧
  ∃ p, s.findPeer d.k = some p ∧ p.extHS = true ∧ p.extMeta = true ∧
    d.size = p.extSize ∧ d.size ≠ 0 ∧ d.size ≤ s.maxMeta

theorem reconcileIdl_idls (s : St) (impl : List Nat) (h : (reconcileIdl s impl).2 = []) :
    ∀ d ∈ (reconcileIdl s impl).1.idls, d ∈ s.idls ∨ IdlAdmissible s d := by
  unfold reconcileIdl at h ⊢
  dsimp only at h ⊢
  -- the fold keeps: no error so far → every adopted download is old or admissible
  generalize hf : (fun (acc : List IDl × List String) (k : Nat) => _) = f at h ⊢
  have key : ∀ (acc : List IDl × List String) (k : Nat),
      (acc.2 = [] → ∀ d ∈ acc.1, d ∈ s.idls ∨ IdlAdmissible s d) →
      ((f acc k).2 = [] → ∀ d ∈ (f acc k).1, d ∈ s.idls ∨ IdlAdmissible s d) := by
    intro acc k hacc
    subst hf
    dsimp only
    split
    · next d0 hd0 =>
      intro he d hd
      simp only [List.mem_append, List.mem_singleton] at hd
      rcases hd with hd | rfl
      · exact hacc he d hd
      · exact Or.inl (List.mem_of_find?_eq_some hd0)
    · split
      · intro he; simp at he
      · next p hp =>
        dsimp only
        split
        · next hok =>
          intro he d hd
          simp only [List.mem_append, List.mem_singleton] at hd
          rcases hd with hd | rfl
          · exact hacc he d hd
          · right
            simp only [Bool.and_eq_true, Bool.not_eq_true', ne_eq, decide_eq_true_eq] at hok
            obtain ⟨⟨⟨⟨⟨⟨a, b⟩, c⟩, d⟩, e⟩, f⟩, _⟩ := hok
            exact ⟨b, a, p, hp, c, d, rfl, by simpa using e, f⟩
        · intro he; simp at he
  exact foldl_inv _ f key impl ([], []) (fun _ d hd => by cases hd) (List.append_eq_nil_iff.1 h).2

end Rain.Loop
