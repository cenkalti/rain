import RainModel.Model.Blocklist
import RainModel.Lemmas.STree
/-!
Helper lemmas for `Model/Blocklist`: mask arithmetic and the `load` loop.
-/
namespace Rain.Blocklist
open Rain.STree

theorem cidrMask_eq (p : Nat) (hp : p ≤ 32) : cidrMask p = 2 ^ 32 - 2 ^ (32 - p) := by
  unfold cidrMask
  rw [Nat.shiftLeft_eq, Nat.sub_mul, ← Nat.pow_add]
  have : p + (32 - p) = 32 := by omega
  rw [this]; simp

theorem and_cidrMask (x p : Nat) (hx : x < 2 ^ 32) (hp : p ≤ 32) :
    x &&& cidrMask p = (x / 2 ^ (32 - p)) * 2 ^ (32 - p) := by
  apply Nat.eq_of_testBit_eq
  intro i
  unfold cidrMask
  rw [Nat.testBit_and, Nat.testBit_shiftLeft, Nat.testBit_two_pow_sub_one,
    ← Nat.shiftLeft_eq, ← Nat.shiftRight_eq_div_pow, Nat.testBit_shiftLeft, Nat.testBit_shiftRight]
  by_cases hi : 32 - p ≤ i
  · have e : 32 - p + (i - (32 - p)) = i := by omega
    rw [e]
    by_cases hi2 : i - (32 - p) < p
    · simp [hi, hi2]
    · have : x.testBit i = false := by
        apply Nat.testBit_lt_two_pow
        exact Nat.lt_of_lt_of_le hx (Nat.pow_le_pow_right (by decide) (by omega))
      simp [this]
  · simp [hi]

theorem rangeOf_eq (ip p : Nat) (hip : ip < 2 ^ 32) (hp : p ≤ 32) :
    (rangeOf ip p).first = (ip / 2 ^ (32 - p)) * 2 ^ (32 - p) ∧
    (rangeOf ip p).last = (ip / 2 ^ (32 - p)) * 2 ^ (32 - p) + (2 ^ (32 - p) - 1) := by
  have hM1 : 0 < 2 ^ (32 - p) := Nat.pow_pos (by decide)
  have hM2 : 2 ^ (32 - p) ≤ 2 ^ 32 := Nat.pow_le_pow_right (by decide) (by omega)
  have hmask := cidrMask_eq p hp
  have hcompl : 0xFFFFFFFF - cidrMask p = 2 ^ (32 - p) - 1 := by
    rw [hmask]
    have : (2:Nat) ^ 32 = 4294967296 := by decide
    omega
  unfold rangeOf
  simp only
  rw [hcompl, and_cidrMask ip p hip hp]
  refine ⟨rfl, ?_⟩
  rw [Nat.mul_comm (ip / 2 ^ (32 - p))]
  exact (Nat.two_pow_add_eq_or_of_lt (by omega) _).symm

theorem loadLine_skip (st : LoadSt) (raw : Bytes) (h : isRule (cook raw) = false) :
    loadLine st raw = st := by
  unfold loadLine
  show (if (trimSpace (dropCR raw)).isEmpty = true then st else _) = st
  by_cases he : (trimSpace (dropCR raw)).isEmpty = true
  · rw [if_pos he]
  · rw [if_neg he]
    have hh : (trimSpace (dropCR raw)).head? = some 35 := by
      simp [isRule, cook, he] at h
      exact h
    rw [if_pos hh]

theorem loadLine_rule (st : LoadSt) (raw : Bytes) (h : isRule (cook raw) = true) :
    loadLine st raw =
      match parseCIDR (cook raw) with
      | none => { st with hasError := true }
      | some r => { st with tree := st.tree.addRange r.first r.last, n := st.n + 1 } := by
  unfold loadLine
  simp only [isRule, cook, Bool.and_eq_true, Bool.not_eq_true', beq_eq_false_iff_ne, ne_eq] at h
  show (if (trimSpace (dropCR raw)).isEmpty = true then st else _) = _
  rw [if_neg (by simp [h.1]), if_neg h.2]
  rfl

theorem loadLine_fold (ls : List Bytes) : ∀ st : LoadSt,
    (ls.foldl loadLine st).n = st.n + (((ls.map cook).filter isRule).filterMap parseCIDR).length ∧
    (ls.foldl loadLine st).hasError =
      (st.hasError || ((ls.map cook).filter isRule).any fun l => (parseCIDR l).isNone) ∧
    (ls.foldl loadLine st).tree =
      (((ls.map cook).filter isRule).filterMap parseCIDR).foldl
        (fun t r => t.addRange r.first r.last) st.tree := by
  induction ls with
  | nil => intro st; simp
  | cons raw rest ih =>
    intro st
    simp only [List.foldl_cons, List.map_cons]
    obtain ⟨h1, h2, h3⟩ := ih (loadLine st raw)
    rw [h1, h2, h3]
    cases hr : isRule (cook raw) with
    | false =>
      rw [loadLine_skip st raw hr, List.filter_cons_of_neg (by simp [hr])]
      exact ⟨rfl, rfl, rfl⟩
    | true =>
      rw [loadLine_rule st raw hr, List.filter_cons_of_pos hr]
      cases hp : parseCIDR (cook raw) with
      | none =>
        simp [hp, List.any_cons]
      | some r =>
        simp [hp, List.any_cons]
        omega

end Rain.Blocklist
