import RainModel.Lemmas.Tier
import RainModel.Lemmas.Announcer
import RainModel.Lemmas.TrackerWire
/-! C16 — tracker tier failover cycles forever; tracker replies cannot crash the client. -/
namespace Rain.Props.C16
open Rain

/-! ### Tier failover (`internal/tracker/tier.go`) -/

/-- **tier_cycles.** In a tier of any size `n ≥ 1`, from any reachable state (stored index inside
the tier), after `k` consecutive failing announces starting at member `i = load t` the next
announce goes to member `(i + k) mod n` — for every `k`, i.e. the tier goes round indefinitely. -/
theorem tier_cycles (t : Tier.T) (h : t.idx < t.n) (k : Nat) :
    Tier.load (Tier.failN k t) = (Tier.load t + k) % t.n ∧ (Tier.failN k t).idx < t.n := by
  have hlt : (t.idx + k) % t.n < t.n := Nat.mod_lt _ (by omega)
  rw [Tier.failN_eq h, Tier.load_of_lt h]
  exact ⟨Tier.load_of_lt hlt, hlt⟩

/-- From a fresh tier (`index = 0`): the `k+1`-st announce of an all-failing history goes to `k mod n`. -/
theorem tier_cycles_fresh (n : Nat) (hn : 0 < n) (k : Nat) :
    Tier.load (Tier.failN k (Tier.new n)) = k % n := by
  have := (tier_cycles (Tier.new n) hn k).1
  simpa [Tier.new, Tier.load, Nat.not_le.mpr hn] using this

/-- A member that starts answering is reached after at most one full cycle of failures: for every
current member `i` and every target `j` there is `k < n` with `(i + k) mod n = j`. -/
theorem tier_reaches_within_cycle (t : Tier.T) (h : t.idx < t.n) (j : Nat) (hj : j < t.n) :
    ∃ k, k < t.n ∧ Tier.load (Tier.failN k t) = j := by
  refine ⟨(j + t.n - t.idx) % t.n, Nat.mod_lt _ (by omega), ?_⟩
  rw [(tier_cycles t h _).1, Tier.load_of_lt h, Nat.add_mod_mod, show t.idx + (j + t.n - t.idx) = j + t.n by omega,
    Nat.add_mod_right, Nat.mod_eq_of_lt hj]

/-- **tier_sticks_on_success.** A member that answers keeps being used: a successful announce
leaves the tier unchanged, so the next announce goes to the same member — any number of times. -/
theorem tier_sticks_on_success (t : Tier.T) :
    (Tier.announce t true).2 = t ∧ Tier.load (Tier.announce t true).2 = Tier.load t := by
  rw [Tier.announce_ok]; exact ⟨rfl, rfl⟩

/-- Concurrent announcers (CAS modelled): under every interleaving of loads and finishes — a
finish may carry any, possibly stale, previously loaded index — the stored index stays inside
the tier, so every later load designates a real member. -/
theorem tier_concurrent_inv (t : Tier.T) (h : t.idx < t.n) (ops : List Tier.Op) :
    (Tier.steps t ops).n = t.n ∧ (Tier.steps t ops).idx < t.n ∧ Tier.load (Tier.steps t ops) < t.n := by
  obtain ⟨hn, hi⟩ := Tier.steps_inv h ops
  refine ⟨hn, hi, ?_⟩
  have := Tier.load_lt (t := Tier.steps t ops) (by omega)
  omega

/-- Two announces that loaded the same member and both fail advance the tier by exactly one:
the second compare-and-swap finds the index already moved and does nothing (for `n ≥ 2`). -/
theorem tier_concurrent_single_advance (t : Tier.T) (h : t.idx < t.n) (hn : 2 ≤ t.n) :
    Tier.finish (Tier.finish t (Tier.load t) false) (Tier.load t) false
      = Tier.finish t (Tier.load t) false := by
  have hl := Tier.load_of_lt h
  rw [hl]
  have hne : Tier.next t.n t.idx ≠ t.idx := by unfold Tier.next; split <;> omega
  simp [Tier.finish, hne]

/-- Non-vacuity: a 3-tier goes 0,1,2,0,1,2,0 under seven failures, then sticks on success. -/
example : (Tier.run (Tier.new 3) [false, false, false, false, false, false, false, true, true]).1
    = [0, 1, 2, 0, 1, 2, 0, 1, 1] := by decide

/-- The historical defect (#12): with the pre-fix store (`CompareAndSwap(index, index+1)`, wrap
only on load) a 2-tier under 12 failures contacts member 0 eleven times and member 1 once. -/
theorem tier_stale_counterexample :
    (Tier.runStale (Tier.new 2) (List.replicate 12 false)).1 = [0, 1, 0, 0, 0, 0, 0, 0, 0, 0, 0, 0] := by
  decide

/-! ### Retry discipline of the periodical announcer (`periodic.go`, `announce.go`) -/

open Rain.Announcer in
/-- **retry_always_armed.** From `Contacting`, every way the outstanding announce can end other
than a cancellation the announcer issued itself — a reply, an error (with or without a tracker
supplied retry delay), or a `context.Canceled` it did *not* issue (the UDP connect shared with a
torrent that was just stopped) — reaches the loop as an input, takes the announcer out of
`Contacting` and arms the timer: with the tracker's interval after a reply, with the tracker's
positive `retry in`, and otherwise with a back-off value between `(InitialInterval − 1)/2` and
`3·MaxInterval/2 + 1`. -/
theorem retry_always_armed (c : Cfg) (s : St) (hrun : s.running = true)
    (hbo : c.boInit ≤ s.boCur ∧ s.boCur ≤ c.boMax) (now bo : Int) (hadm : boAdmissible s.boCur bo)
    (o : Outcome) (ho : o ≠ .canceledOwn) :
    ∃ i, deliver bo o = some i ∧ (step c s now i).2 = [] ∧
      (step c s now i).1.running = true ∧ (step c s now i).1.status ≠ .contacting ∧
      ∃ d, (step c s now i).1.timer = some d ∧
        (∀ iv mi, o = .reply iv mi → (step c s now i).1.status = .working ∧
            d = now + getNextInterval (step c s now i).1) ∧
        (∀ r, o = .fail r → 0 < r → d = now + r) ∧
        ((o = .canceledForeign ∨ ∃ r, o = .fail r ∧ r ≤ 0) →
            (step c s now i).1.status = .notWorking ∧ d = now + bo ∧
            c.boInit ≤ 2 * (d - now) + 1 ∧ 2 * (d - now) ≤ 3 * c.boMax + 2) := by
  obtain ⟨ha1, ha2⟩ := hadm
  cases o with
  | reply iv mi =>
    refine ⟨.response iv mi, rfl, ?_⟩
    simp [step, stepWith, hrun, onResponse, resetTimer, getNextInterval]
  | fail r =>
    refine ⟨.error r bo, rfl, ?_⟩
    by_cases hr : 0 < r
    · simp [step, stepWith, hrun, hr, resetTimer]
      intro h; omega
    · simp [step, stepWith, hrun, hr, resetTimer]
      omega
  | canceledOwn => exact absurd rfl ho
  | canceledForeign =>
    refine ⟨.error 0 bo, rfl, ?_⟩
    simp [step, stepWith, hrun, resetTimer]
    omega

open Rain.Announcer in
/-- Non-vacuity of `retry_always_armed`: a reachable `Contacting` state (after `start`) meets the
hypotheses, and a foreign cancellation arms the timer 3 units ahead. -/
example :
    let c : Cfg := ⟨60, 5, 40⟩
    let s := (run c (init c) [(0, .start false)]).1
    s.running = true ∧ s.status = .contacting ∧ (c.boInit ≤ s.boCur ∧ s.boCur ≤ c.boMax) ∧ boAdmissible s.boCur 3 ∧
    (step c s 7 (.error 0 3)).1.timer = some 10 := by decide

open Rain.Announcer in
/-- **never_idle.** In every history a running announcer has an announce outstanding
(`Contacting`) or its timer armed — it is never left with nothing that will wake it — and its
back-off interval stays within `[InitialInterval, MaxInterval]` (the hypothesis of
`retry_always_armed` holds in every reachable state). -/
theorem never_idle (c : Cfg) (h0 : 0 < c.boInit) (hle : c.boInit ≤ c.boMax) (tr : List (Int × In)) :
    NeverIdle (run c (init c) tr).1 ∧ BoInv c (run c (init c) tr).1 :=
  ⟨(runWith_run storeFixed c (init c) tr).preserves Step.neverIdle (by simp [NeverIdle, init]),
   (runWith_run storeFixed c (init c) tr).preserves (·.boInv h0 hle) (by simp [BoInv, init])⟩

open Rain.Announcer in
/-- An armed timer that runs out while the announcer is not contacting sends the next announce. -/
theorem timer_then_announces (c : Cfg) (s : St) (hrun : s.running = true) (hst : s.status ≠ .contacting)
    (d now : Int) (ht : s.timer = some d) (hd : d ≤ now) :
    ∃ a, (step c s now .timer).2 = [a] ∧ a.ev = .none ∧ a.time = now ∧
      (step c s now .timer).1.status = .contacting := by
  simp [step, stepWith, hrun, timerDue, ht, hd, hst, doAnnounce]

open Rain.Announcer in
/-- **retry_floor.** Retries are not immediate either: an announce sent because the timer ran out
after the previous one *failed* comes no sooner than the smallest retry delay of the history (the
tracker's positive `retry in`, else the drawn back-off value). -/
theorem retry_floor (c : Cfg) (tr : List (Int × In)) (hm : Mono 0 tr) (rl : Int) (hf : RetryFor rl tr) :
    ∀ a ∈ (run c (init c) tr).2, a.ev = .none → a.after = .notWorking → rl ≤ a.time - a.prevAt :=
  (runWith_run storeFixed c (init c) tr).retry hm hf ⟨by simp [init], by simp [init]⟩

open Rain.Announcer in
/-- The historical defect (#13): the pre-fix `announce()` returned silently on *every*
`context.Canceled`, so a foreign cancellation produced no input at all; the announcer
(`Contacting`, timer consumed) was never woken again. The repaired mapping delivers it as an error. -/
theorem foreign_cancel_counterexample (bo : Int) :
    deliverStale bo .canceledForeign = none ∧ deliver bo .canceledForeign = some (.error 0 bo) :=
  ⟨rfl, rfl⟩

/-! ### Replies (`compact.go`, `udptracker/transport.go`, `udptracker.go`, `httptracker.go`) -/

open Rain.TrackerWire in
/-- **compact_total.** `DecodePeersCompact` is total on every byte string: a length that is not a
multiple of 6 gives an error; otherwise exactly `len/6` peers, each with a 4-byte address and a
16-bit port — nothing else can happen (no index out of range). -/
theorem compact_total (b : Bytes) (hb : isBytes b = true) :
    (b.length % 6 ≠ 0 → decodeCompact b = none) ∧
    (b.length % 6 = 0 → ∃ ps, decodeCompact b = some ps ∧ ps.length = b.length / 6 ∧ ∀ p ∈ ps, p.wf = true) := by
  refine ⟨fun h => if_pos h, fun h => ?_⟩
  have hd : decodeCompact b = some _ := if_neg (Decidable.not_not.2 h)
  exact ⟨_, hd, (decodeCompact_some hb hd).2⟩

open Rain.TrackerWire in
/-- Non-vacuity: 12 bytes decode to two well-formed peers; 11 bytes are an error. -/
example : decodeCompact [1, 2, 3, 4, 0x1a, 0xe1, 10, 0, 0, 1, 0, 80]
    = some [{ ip := [1, 2, 3, 4], port := 6881 }, { ip := [10, 0, 0, 1], port := 80 }] ∧
    decodeCompact [1, 2, 3, 4, 0x1a, 0xe1, 10, 0, 0, 1, 0] = none := by decide

open Rain.TrackerWire in
/-- Non-vacuity: of three datagrams — too short, foreign id, own id — only the third is taken. -/
example : firstDelivered 9 [[0, 0, 0, 1, 0, 0, 0], [0, 0, 0, 1, 0, 0, 0, 8, 1], [0, 0, 0, 1, 0, 0, 0, 9, 2]]
    = some [0, 0, 0, 1, 0, 0, 0, 9, 2] := by decide

open Rain.TrackerWire in
/-- **udp_reply_match.** A datagram is handed only to the outstanding transaction whose id is in
its bytes 4..8; fewer than 8 bytes or an unknown id are dropped; action 3 is an error. -/
theorem udp_reply_match (txs : List Nat) (buf : Bytes) :
    match recv txs buf with
    | .deliver tx isErr => tx ∈ txs ∧ tx = txOf buf ∧ 8 ≤ buf.length ∧ (isErr = true ↔ actionOf buf = 3)
    | .dropShort => buf.length < 8
    | .dropUnknown tx => tx ∉ txs ∧ tx = txOf buf := by
  unfold recv
  by_cases h1 : buf.length < 8
  · simp [h1]
  · by_cases h2 : txOf buf ∈ txs
    · simp [h1, h2]; omega
    · simp [h1, h2]

open Rain.TrackerWire in
/-- An announce transaction is decided by a datagram of the stream that carries its own id. -/
theorem udp_first_delivered_own (tx : Nat) (ds : List Bytes) (d : Bytes)
    (h : firstDelivered tx ds = some d) : d ∈ ds ∧ txOf d = tx ∧ 8 ≤ d.length := by
  induction ds with
  | nil => simp [firstDelivered] at h
  | cons x r ih =>
    simp only [firstDelivered] at h
    have hm := udp_reply_match [tx] x
    cases hr : recv [tx] x with
    | deliver t e =>
      rw [hr] at h hm
      simp at h hm
      subst h
      exact ⟨by simp, by omega, hm.2.2.1⟩
    | dropShort => rw [hr] at h; simp at h; have := ih h; exact ⟨by simp [this.1], this.2⟩
    | dropUnknown t => rw [hr] at h; simp at h; have := ih h; exact ⟨by simp [this.1], this.2⟩

open Rain.TrackerWire in
/-- **udp_announce_reply_total.** Whatever bytes are delivered for an announce transaction: an
error action, a packet shorter than the 20-byte header, a wrong action or a ragged peer list give
an error; otherwise the result is a list of exactly `(len−20)/6` well-formed peers. -/
theorem udp_announce_reply_total (buf : Bytes) (hb : isBytes buf = true) :
    (actionOf buf = 3 ∧ 8 ≤ buf.length → parseAnnounce buf = .errTracker) ∧
    (buf.length < 20 → ∀ r, parseAnnounce buf ≠ .ok r) ∧
    (actionOf buf ≠ 1 → ∀ r, parseAnnounce buf ≠ .ok r) ∧
    (∀ r, parseAnnounce buf = .ok r → r.peers.length = (buf.length - 20) / 6 ∧ ∀ p ∈ r.peers, p.wf = true) := by
  refine ⟨fun h => if_pos h, fun h r hr => ?_, fun h r hr => h (parseAnnounce_ok hr).2.1, fun r hr => ?_⟩
  · exact Nat.not_le.2 h (parseAnnounce_ok hr).1
  · have := (decodeCompact_some (isBytes_of_mem hb fun _ => List.mem_of_mem_drop) (parseAnnounce_ok hr).2.2).2
    rwa [List.length_drop] at this

open Rain.TrackerWire in
/-- A connect reply gives a connection id only for ≥ 16 bytes with action 0. -/
theorem udp_connect_reply_total (buf : Bytes) :
    ∀ id, parseConnect buf = .ok id → 16 ≤ buf.length ∧ actionOf buf = 0 := by
  intro id h
  unfold parseConnect at h
  split at h
  · simp at h
  · split at h
    · simp at h
    · split at h
      · simp at h
      · rename_i h1 h2
        exact ⟨by omega, by simpa using h2⟩

open Rain.TrackerWire in
/-- **http_read_le_limit.** Never more than the configured limit is read from a tracker's reply. -/
theorem http_read_le_limit (limit : Nat) (cl : Option Nat) (body data : List Nat)
    (h : httpBodyRead limit cl body = some data) : data.length ≤ limit := by
  unfold httpBodyRead at h
  cases cl with
  | none => simp at h; subst h; simp [List.length_take]; omega
  | some n =>
    simp at h
    obtain ⟨_, rfl⟩ := h
    simp [List.length_take]; omega

open Rain.TrackerWire in
/-- **http_dict_peers_have_ip.** Every address produced from a dictionary-model peer list carries
the IP that `net.ParseIP` returned for its entry — never an address without IP. -/
theorem http_dict_peers_have_ip (ents : List (Option Bytes × Nat)) :
    ∀ p ∈ dictPeers ents, ∃ e ∈ ents, e.1 = some p.ip ∧ e.2 = p.port := by
  intro p hp
  rw [dictPeers_eq, List.mem_filterMap] at hp
  obtain ⟨e, he, h⟩ := hp
  obtain ⟨ip, hip, rfl⟩ := Option.map_eq_some_iff.1 h
  exact ⟨e, he, hip, rfl⟩

open Rain.TrackerWire in
/-- The historical defect: the pre-fix parser turned an unparsable `ip` into an address with an
empty IP (printed `:6881`, dialled as the local host). -/
theorem http_dict_stale_counterexample :
    dictPeersStale [(none, 6881)] = [{ ip := [], port := 6881 }] ∧ dictPeers [(none, 6881)] = [] := by
  constructor <;> rfl

end Rain.Props.C16
