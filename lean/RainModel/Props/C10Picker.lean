import RainModel.Lemmas.PickerComplete
import RainModel.Props.C09
/-!
C10 (picker part) — **completeness of the piece picker**: "No idle, unchoked peer holding a needed and
unrequested piece is left without a request."

The model is M-PICK (`Model/Picker.lean`, tied to `internal/piecepicker` by the suite `picker` of C09);
`pickFor false s p` is `PickFor` + `startSinglePieceDownloader` of the code as it is now and returns the
list of admissible outcomes (the Go sorts are unstable).  The theorems say that **every** admissible
outcome is a request (`Served`), so they hold for whichever choice the implementation makes.

* `FreeFor s p i` : `i < n`, piece `i` not `Done`, not `Writing`, `p ∈ Having i`, `Requested i = []`.
* `Served p r`    : `r = ok (s', some (j, af))`, and in `s'` the downloader of `p` is on `j` and
  `p ∈ Requested j`.

None of the statements below needs `PickInv`, except `pick_complete_webseed_steal`, which needs its
clauses `SrcOk` (so that `WebseedStopAt` does not panic) and `WebOwner`.  Which piece is requested is
C09's business (`pick_safe`, `sequential_lowest`).
-/
namespace Rain.Props.C10Picker
open Rain.Picker

/-- **pick_complete.**  No web seed is downloading; peer `p` has no download and is not choking us;
some piece `i` is free for `p`.  Then every admissible outcome of the picker is a request for `p` — in
sequential mode for every end-game flag and every limit, in rarest-first mode for every limit while the
end-game flag is clear and for every limit `≥ 1` once it is set (`hlim`; the excluded case is
`limit_zero_counterexample`). -/
theorem pick_complete (s : State) (p i : Nat)
    (hdl : (s.peers p).dl = none) (hch : (s.peers p).choking = false)
    (hweb : downloadingWebseed s = false) (hfree : FreeFor s p i)
    (hlim : s.sequential = false → s.endgame = true → 1 ≤ s.maxDup) :
    ∀ r ∈ pickFor false s p, Served p r :=
  pickFor_served false s p (findPiece_complete s p i hdl hch hweb hfree hlim)

/-- `pick_complete` under the one hypothesis limit `≥ 1`: any mode, any flag. -/
theorem pick_complete_limit (s : State) (p i : Nat)
    (hdl : (s.peers p).dl = none) (hch : (s.peers p).choking = false)
    (hweb : downloadingWebseed s = false) (hfree : FreeFor s p i) (hlim : 1 ≤ s.maxDup) :
    ∀ r ∈ pickFor false s p, Served p r :=
  pick_complete s p i hdl hch hweb hfree (fun _ _ => hlim)

/-- Sequential mode: no hypothesis on the end-game flag or the limit (0 included). -/
theorem pick_complete_sequential (s : State) (p i : Nat) (hseq : s.sequential = true)
    (hdl : (s.peers p).dl = none) (hch : (s.peers p).choking = false)
    (hweb : downloadingWebseed s = false) (hfree : FreeFor s p i) :
    ∀ r ∈ pickFor false s p, Served p r :=
  pick_complete s p i hdl hch hweb hfree (fun h => by rw [hseq] at h; cases h)

/-- **pick_complete_allowed_fast.**  The same for a peer that *is* choking us when the free piece is in
its allowed-fast set: the request is made with the allowed-fast privilege.  Either mode, any end-game
flag, any limit.  (With a web seed downloading it is false: `allowed_fast_webseed_counterexample`.) -/
theorem pick_complete_allowed_fast (s : State) (p i : Nat)
    (hdl : (s.peers p).dl = none) (hch : (s.peers p).choking = true)
    (hweb : downloadingWebseed s = false) (hfree : FreeFor s p i) (haf : i ∈ (s.peers p).af) :
    ∀ r ∈ pickFor false s p, Served p r :=
  pickFor_served false s p (findPiece_complete_af s p i hdl hch hweb hfree haf)

/-- **pick_complete_webseed.**  A web seed is downloading and the free piece is *not* reserved by a web
seed (`RequestedWebseed i = nil`): the idle unchoking peer is asked for the last piece of a smallest gap.
Either mode, any end-game flag, any limit (0 included). -/
theorem pick_complete_webseed (s : State) (p i : Nat)
    (hdl : (s.peers p).dl = none) (hch : (s.peers p).choking = false)
    (hweb : downloadingWebseed s = true) (hfree : FreeFor s p i) (hw : (s.pieces i).webseed = none) :
    ∀ r ∈ pickFor false s p, Served p r :=
  pickFor_served false s p (findPiece_complete_webseed s p i hdl hch hweb hfree hw)

/-- **pick_complete_webseed_steal.**  The free piece is reserved by web seed `k` and lies strictly after
the piece that web seed is working on (`current < i`): the idle unchoking peer gets a request (a gap
piece if it also holds a free piece outside the ranges, otherwise it steals from the end of a web-seed
range).  Needs the clauses `WebOwner` and `SrcOk` of `PickInv`.  A free piece at or before `current`
is never given to a peer: `webseed_current_counterexample`. -/
theorem pick_complete_webseed_steal (s : State) (p i k : Nat) (d : Dl)
    (hown : WebOwner s) (hsrc : SrcOk s)
    (hdl : (s.peers p).dl = none) (hch : (s.peers p).choking = false)
    (hfree : FreeFor s p i) (hw : (s.pieces i).webseed = some k) (hd : s.srcs k = some d) (hci : d.c < i) :
    ∀ r ∈ pickFor false s p, Served p r := by
  obtain ⟨hk, d', hd', _, hie⟩ := hown i hfree.1 k (by simp [hw])
  have : d' = d := by simp only [Option.mem_def] at hd'; rw [hd] at hd'; exact (Option.some.inj hd').symm
  subst this
  exact pickFor_served false s p (findPiece_complete_steal s p i k d' hsrc hdl hch hk hd hci hie hfree)

/-- **The sentence of C10 for the picker**: an idle, unchoking peer holding a needed, unrequested piece
that no web seed has reserved gets a request — whether or not a web seed is downloading, in both modes
(`hlim` as in `pick_complete`). -/
theorem pick_complete_unreserved (s : State) (p i : Nat)
    (hdl : (s.peers p).dl = none) (hch : (s.peers p).choking = false)
    (hfree : FreeFor s p i) (hw : (s.pieces i).webseed = none)
    (hlim : s.sequential = false → s.endgame = true → 1 ≤ s.maxDup) :
    ∀ r ∈ pickFor false s p, Served p r := by
  cases hweb : downloadingWebseed s with
  | false => exact pick_complete s p i hdl hch hweb hfree hlim
  | true => exact pick_complete_webseed s p i hdl hch hweb hfree hw

/-- The same at the level of the caller protocol (`step … (.pick p)`, what the event loop runs for an
idle peer): every admissible outcome is the observation "piece `j` requested". -/
theorem step_pick_complete (s : State) (p i : Nat) (hp : p < s.np) (hopen : (s.peers p).closed = false)
    (hdl : (s.peers p).dl = none) (hch : (s.peers p).choking = false)
    (hfree : FreeFor s p i) (hw : (s.pieces i).webseed = none)
    (hlim : s.sequential = false → s.endgame = true → 1 ≤ s.maxDup) :
    ∀ r ∈ step false s (.pick p), ∃ s' j af, r = .ok (s', .pick (some (j, af))) ∧
      (s'.peers p).dl = some (j, af) ∧ p ∈ (s'.pieces j).requested := by
  intro r hr
  simp only [step, hp, hopen, and_self, if_true, List.mem_map] at hr
  obtain ⟨r0, hr0, rfl⟩ := hr
  obtain ⟨s', j, af, rfl, h1, h2⟩ := pick_complete_unreserved s p i hdl hch hfree hw hlim r0 hr0
  exact ⟨s', j, af, rfl, h1, h2⟩

/-- Pick results of a list of outcomes (`none` = a panic outcome). -/
def picks (l : List (R (State × Option (Nat × Bool)))) : List (Option (Option (Nat × Bool))) :=
  Rain.Props.C09.pickResults l

/-- Rarest-first, limit 0.  Two unchoking peers hold the only piece; peer 0 requested it, peer 1 found
nothing unrequested (end game entered), then peer 0's download was cancelled. -/
def limitZeroOps : List Op :=
  [.connect, .connect, .have 0 0, .have 1 0, .unchoke 0, .unchoke 1, .pick 0, .pick 1, .cancel 0]

/-- **Counterexample for limit 0** (the case `hlim` excludes).  After the history `limitZeroOps` on a
fresh rarest-first picker with `maxDuplicateDownload = 0` — a reachable state, so `PickInv` holds — the
end-game flag is set, piece 0 is free for the idle unchoking peer 1, no web seed exists, and `PickFor`
returns nothing: the end-game short path only considers pieces with `|Requested| < 0`. -/
theorem limit_zero_counterexample :
    ∃ s, Rain.Props.C09.Run (init [(false, false, false)] 0 0 false) limitZeroOps s ∧ PickInv s ∧
      s.sequential = false ∧ s.endgame = true ∧ s.maxDup = 0 ∧
      (s.peers 1).dl = none ∧ (s.peers 1).choking = false ∧ downloadingWebseed s = false ∧
      FreeFor s 1 0 ∧ (s.pieces 0).webseed = none ∧ picks (pickFor false s 1) = [some none] := by
  obtain ⟨s, hrun, hs⟩ := Rain.Props.C09.run_of_runFirst (s0 := init [(false, false, false)] 0 0 false)
    (ops := limitZeroOps) (P := fun s => s.sequential = false ∧ s.endgame = true ∧ s.maxDup = 0 ∧
      (s.peers 1).dl = none ∧ (s.peers 1).choking = false ∧ downloadingWebseed s = false ∧
      FreeFor s 1 0 ∧ (s.pieces 0).webseed = none ∧ picks (pickFor false s 1) = [some none]) (by decide)
  exact ⟨s, hrun, Rain.Props.C09.pickInv_all_histories _ _ _ _ _ _ hrun, hs⟩

/-- Four pieces; web seed 0 downloads `[2, 4)` and works on piece 2; peer 0 holds every piece, its
allowed-fast set is {0}; `choking` is the parameter. -/
def webState (choking : Bool) : State :=
  { n := 4
    pieces := fun i => { having := [0], webseed := if 2 ≤ i then some 0 else none, done := i == 1 }
    np := 1
    peers := fun _ => { choking := choking, af := [0] }
    ns := 1
    srcs := fun _ => some ⟨2, 4, 2⟩
    maxDup := 2, maxWeb := 1, available := 4, endgame := false, sequential := false }

/-- **Counterexample for allowed-fast while a web seed downloads.**  Piece 0 is free, unreserved and in
the allowed-fast set of the choking idle peer 0, but a web seed is downloading: `findPiece` returns nil
for every choking peer in that branch (piecepicker.go:289-292).  Not a violation of C10's sentence
(which speaks of unchoked peers); it delimits `pick_complete_allowed_fast`. -/
theorem allowed_fast_webseed_counterexample :
    PickInv (webState true) ∧ ((webState true).peers 0).dl = none ∧ ((webState true).peers 0).choking = true ∧
    downloadingWebseed (webState true) = true ∧ FreeFor (webState true) 0 0 ∧
    ((webState true).pieces 0).webseed = none ∧ 0 ∈ ((webState true).peers 0).af ∧
    picks (pickFor false (webState true) 0) = [some none] := by
  decide

/-- Piece 0 done as well: the only free pieces of peer 0 are 2 (the web seed's current piece) and 3. -/
def webCurrent : State :=
  { webState false with
    pieces := fun i => { having := if i == 3 then [] else [0], webseed := if 2 ≤ i then some 0 else none, done := i ≤ 1 }
    available := 3 }

/-- **Counterexample at the web seed's current piece.**  Piece 2 is free for the idle unchoking peer 0
and reserved by web seed 0, whose `current` is 2 (so `current < i` fails): the peer gets nothing —
`peerStealsFromWebseed` only looks at pieces strictly after `current`.  This is the exemption "owned by
a web seed" of the property text. -/
theorem webseed_current_counterexample :
    PickInv webCurrent ∧ (webCurrent.peers 0).dl = none ∧ (webCurrent.peers 0).choking = false ∧
    FreeFor webCurrent 0 2 ∧ (webCurrent.pieces 2).webseed = some 0 ∧ webCurrent.srcs 0 = some ⟨2, 4, 2⟩ ∧
    picks (pickFor false webCurrent 0) = [some none] := by
  decide

/-- Three pieces all held by peers 0 and 1; piece 0 is being downloaded by peer 1, pieces 1 and 2 are
free; no web seed.  Parameters: mode, end-game flag, limit, whether peer 0 is choking (its allowed-fast
set is then {2}, otherwise empty). -/
def plain (seq eg : Bool) (lim : Nat) (choking : Bool) : State :=
  { n := 3
    pieces := fun i => { having := [0, 1], requested := if i == 0 then [1] else [] }
    np := 2
    peers := fun p => if p == 0 then { choking := choking, af := if choking then [2] else [] } else { choking := false, dl := some (0, false) }
    ns := 0
    srcs := fun _ => none
    maxDup := lim, maxWeb := 1, available := 3, endgame := eg, sequential := seq }

/-- Non-vacuity of `pick_complete` (rarest-first with the end-game flag set and limit 1; sequential with
the flag set and limit 0): the hypotheses hold on `PickInv` states and the pick is made. -/
example : PickInv (plain false true 1 false) ∧ ((plain false true 1 false).peers 0).dl = none ∧
    ((plain false true 1 false).peers 0).choking = false ∧ downloadingWebseed (plain false true 1 false) = false ∧
    FreeFor (plain false true 1 false) 0 1 ∧
    picks (pickFor false (plain false true 1 false) 0) = [some (some (1, false)), some (some (2, false))] ∧
    PickInv (plain true true 0 false) ∧ FreeFor (plain true true 0 false) 0 1 ∧
    picks (pickFor false (plain true true 0 false) 0) = [some (some (1, false))] := by decide

example : ∀ r ∈ pickFor false (plain false true 1 false) 0, Served 0 r :=
  pick_complete _ 0 1 (by decide) (by decide) (by decide) (by decide) (by decide)

/-- Non-vacuity of `pick_complete_allowed_fast`: peer 0 choking, allowed-fast set {2}, piece 2 free. -/
example : PickInv (plain true false 2 true) ∧ ((plain true false 2 true).peers 0).dl = none ∧
    ((plain true false 2 true).peers 0).choking = true ∧ downloadingWebseed (plain true false 2 true) = false ∧
    FreeFor (plain true false 2 true) 0 2 ∧ 2 ∈ ((plain true false 2 true).peers 0).af ∧
    picks (pickFor false (plain true false 2 true) 0) = [some (some (2, true))] := by decide

example : ∀ r ∈ pickFor false (plain true false 2 true) 0, Served 0 r :=
  pick_complete_allowed_fast _ 0 2 (by decide) (by decide) (by decide) (by decide) (by decide)

/-- Non-vacuity of `pick_complete_webseed`: in `webState false` a web seed downloads `[2,4)`, piece 0 is
free and unreserved, the unchoking idle peer 0 is asked for it (last piece of the gap `[0,1)`). -/
example : PickInv (webState false) ∧ ((webState false).peers 0).dl = none ∧
    ((webState false).peers 0).choking = false ∧ downloadingWebseed (webState false) = true ∧
    FreeFor (webState false) 0 0 ∧ ((webState false).pieces 0).webseed = none ∧
    picks (pickFor false (webState false) 0) = [some (some (0, true))] := by decide

example : ∀ r ∈ pickFor false (webState false) 0, Served 0 r :=
  pick_complete_webseed _ 0 0 (by decide) (by decide) (by decide) (by decide) (by decide)

/-- `webState false` with piece 0 done too: the only free pieces are reserved by the web seed. -/
def webSteal : State :=
  { webState false with
    pieces := fun i => { having := [0], webseed := if 2 ≤ i then some 0 else none, done := i ≤ 1 } }

/-- Non-vacuity of `pick_complete_webseed_steal`: piece 3 is free, reserved by web seed 0 and after its
current piece 2; the peer steals it (the web seed's range becomes `[2,3)`). -/
example : PickInv webSteal ∧ (webSteal.peers 0).dl = none ∧ (webSteal.peers 0).choking = false ∧
    FreeFor webSteal 0 3 ∧ (webSteal.pieces 3).webseed = some 0 ∧ webSteal.srcs 0 = some ⟨2, 4, 2⟩ ∧
    picks (pickFor false webSteal 0) = [some (some (3, false))] := by decide

example : ∀ r ∈ pickFor false webSteal 0, Served 0 r :=
  pick_complete_webseed_steal _ 0 3 0 ⟨2, 4, 2⟩ (by decide) (by decide) (by decide) (by decide) (by decide)
    (by decide) (by decide) (by decide)

/-- Non-vacuity of `step_pick_complete` / `pick_complete_unreserved`. -/
example : ∀ r ∈ step false (webState false) (.pick 0), ∃ s' j af, r = .ok (s', .pick (some (j, af))) ∧
    (s'.peers 0).dl = some (j, af) ∧ 0 ∈ (s'.pieces j).requested :=
  step_pick_complete _ 0 0 (by decide) (by decide) (by decide) (by decide) (by decide) (by decide) (by decide)

end Rain.Props.C10Picker
