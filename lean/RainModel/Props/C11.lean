import RainModel.Lemmas.Codec
import RainModel.Lemmas.ListFacts
/-!
C11 — peer wire encoding is protocol-exact and round-trips through the reader.

`encode` is what `PeerWriter.messageWriter` writes for a message, `step` one trip through the loop
of `PeerReader.Run`, `run` the whole loop on a byte stream (the reader is a function of the whole
stream; that TCP fragmentation is invisible rests on `bufio`/`io.ReadFull` and is validated by the
`codec` suite's random fragmentation).
-/
namespace Rain.Props.C11
open Rain.Codec
open Rain.Bencode (Bytes)

/-- **decode_encode.** For every well-formed message `m` of every kind and every continuation of
the stream, one trip through the reader loop on `encode m ++ rest` delivers exactly `m` and leaves
exactly `rest`. -/
theorem decode_encode (max : Nat) (m : Msg) (h : WFMsg max m) (rest : Bytes) :
    step max (encode m ++ rest) = .msg m (effsOf m) rest :=
  step_encode max m h rest

/-- **bencode_roundtrip.** The payload of each of the three extension messages (handshake,
ut_metadata incl. the raw block after the dictionary, ut_pex), as the encoder writes it, passes the
guard and is decoded back to the identical record, for every well-formed record: any number of
`m` entries with distinct keys, any strings, any block. -/
theorem bencode_roundtrip (p : Rain.Bencode.ExtPayload) (h : Rain.Bencode.WFPayload p) :
    (Rain.Bencode.parseExt (Rain.Bencode.kindId p) (Rain.Bencode.encPayload p)).1 = some p :=
  Rain.Bencode.parseExt_encPayload p h

/-- **encode_spec (extension payloads).** The dictionaries are in canonical bencode: keys in
sorted order (`m` < `metadata_size` < `reqq` < `v` < `yourip`; `msg_type` < `piece` < `total_size`;
`added` < `dropped`), `omitempty` fields left out when zero/empty, integers as `i<decimal>e`,
strings as `<len>:<bytes>`, the metadata block raw after the dictionary. -/
theorem encode_spec_ext :
    (∀ h, Rain.Bencode.encHandshake h = Rain.Bencode.render (Rain.Bencode.hsToks h)) ∧
    (∀ m, Rain.Bencode.encMetadata m = Rain.Bencode.render (Rain.Bencode.mdToks m) ++ m.data) ∧
    (∀ p, Rain.Bencode.encPex p = Rain.Bencode.render (Rain.Bencode.pexToks p)) :=
  ⟨Rain.Bencode.encHandshake_render, Rain.Bencode.encMetadata_render, Rain.Bencode.encPex_render⟩

/-- **encode_spec (framing).** Every frame is the 4-byte big-endian value `1 + |body|`, then the
message id, then the body. -/
theorem encode_spec_frame (m : Msg) :
    encode m = be32 (1 + (body m).length) ++ [msgId m] ++ body m := by
  simp [encode]

/-- **encode_spec (fields).** The body of every kind, field by field, in the order of BEP 3 / 6 /
10: 32-bit big-endian index / begin / length, 16-bit port, raw bitfield, block bytes after the
piece header, extended id then bencoded dictionary (then the raw metadata block). -/
theorem encode_spec_fields :
    (∀ m, m ∈ [Msg.choke, .unchoke, .interested, .notInterested, .haveAll, .haveNone] → body m = []) ∧
    (∀ i, body (.have i) = be32 i) ∧ (∀ i, body (.allowedFast i) = be32 i) ∧
    (∀ d, body (.bitfield d) = d) ∧
    (∀ i b l, body (.request i b l) = be32 i ++ be32 b ++ be32 l) ∧
    (∀ i b l, body (.cancel i b l) = be32 i ++ be32 b ++ be32 l) ∧
    (∀ i b l, body (.reject i b l) = be32 i ++ be32 b ++ be32 l) ∧
    (∀ i b d, body (.piece i b d) = be32 i ++ be32 b ++ d) ∧
    (∀ p, body (.port p) = be16 p) ∧
    (∀ eid p, body (.ext eid p) = eid :: Rain.Bencode.encPayload p) := by
  refine ⟨?_, fun _ => rfl, fun _ => rfl, fun _ => rfl, fun _ _ _ => rfl, fun _ _ _ => rfl,
    fun _ _ _ => rfl, fun _ _ _ => rfl, fun _ => rfl, fun _ _ => rfl⟩
  intro m hm
  simp at hm
  rcases hm with rfl | rfl | rfl | rfl | rfl | rfl <;> rfl

/-- `be32` is the big-endian representation: four bytes, each < 256, value recovered by `rd32`. -/
theorem be32_spec (n : Nat) (h : n < 4294967296) :
    ∃ a b c d, be32 n = [a, b, c, d] ∧ a < 256 ∧ b < 256 ∧ c < 256 ∧ d < 256 ∧ rd32 a b c d = n := by
  have hlt (m : Nat) : m % 256 < 256 := Nat.mod_lt _ (by decide)
  exact ⟨_, _, _, _, rfl, hlt _, hlt _, hlt _, hlt _, rd32_digits n h⟩

/-- **encode_spec (ids).** The id table is the protocol's (BEP 3: 0–9, BEP 6: 14–17, BEP 10: 20)
and injective: two kinds never share an id. -/
theorem ids_table :
    Kind.all.map Kind.id = [0, 1, 2, 3, 4, 5, 6, 7, 8, 9, 14, 15, 16, 17, 20] ∧
    (∀ k, k ∈ Kind.all) ∧
    (∀ k1 k2 : Kind, k1.id = k2.id → k1 = k2) ∧
    (∀ m : Msg, msgId m = m.kind.id) := by
  have hall : ∀ k, k ∈ Kind.all := fun k => by cases k <;> decide
  refine ⟨by decide, hall, fun k1 k2 => ?_, fun m => by cases m <;> rfl⟩
  -- the ids listed above are pairwise distinct, and every kind is in the list
  exact eq_of_nodup_map Kind.id (l := Kind.all) (by decide) (hall k1) (hall k2)

/-- **stream_concat.** Decoding the concatenation of the frames of any list of well-formed
messages, followed by any further bytes, yields exactly that list and then whatever the further
bytes decode to.  The parser is a function of the whole stream, so the result does not depend on
how the stream is cut into reads (`stream_fragments`). -/
theorem stream_concat (max : Nat) (ms : List Msg) (h : ∀ m ∈ ms, WFMsg max m) (tail : Bytes) :
    run max (encodeAll ms ++ tail) =
      ⟨ms ++ (run max tail).msgs, ms.flatMap effsOf ++ (run max tail).effs, (run max tail).err⟩ :=
  run_encodeAll max ms h tail

/-- A complete stream of well-formed messages decodes to exactly those messages and ends with a
clean end-of-stream. -/
theorem stream_roundtrip (max : Nat) (ms : List Msg) (h : ∀ m ∈ ms, WFMsg max m) :
    (run max (encodeAll ms)).msgs = ms ∧ (run max (encodeAll ms)).err = .eof := by
  have := run_encodeAll max ms h []
  simp only [List.append_nil, run_nil] at this
  simp [this]

/-- Any two fragmentations of the same stream (lists of chunks with the same concatenation) decode
alike; in particular every fragmentation of `encodeAll ms` decodes to `ms`. -/
theorem stream_fragments (max : Nat) (ms : List Msg) (h : ∀ m ∈ ms, WFMsg max m)
    (frags : List Bytes) (hf : frags.flatten = encodeAll ms) :
    (run max frags.flatten).msgs = ms ∧ (run max frags.flatten).err = .eof := by
  rw [hf]; exact stream_roundtrip max ms h

/-- Keep-alives between frames are invisible. -/
theorem keepalive_skipped (max : Nat) (rest : Bytes) : run max (keepAlive ++ rest) = run max rest :=
  run_keepAlive max rest

/-- **handshake_layout.** The handshake is 68 bytes — 19, "BitTorrent protocol", 8 reserved bytes,
the info-hash, the peer id, in this order — and reads back to the same three fields, leaving the
rest of the stream untouched. -/
theorem handshake_layout (ext ih pid rest : Bytes)
    (he : ext.length = 8) (hi : ih.length = 20) (hp : pid.length = 20) :
    (handshakeBytes ext ih pid).length = 68 ∧
    handshakeBytes ext ih pid = pstr ++ ext ++ ih ++ pid ∧
    pstr = 19 :: [66, 105, 116, 84, 111, 114, 114, 101, 110, 116, 32, 112, 114, 111, 116, 111, 99, 111, 108] ∧
    readHandshake (handshakeBytes ext ih pid ++ rest) = .ok ext ih pid rest := by
  refine ⟨?_, rfl, rfl, ?_⟩
  · simp [handshakeBytes, pstr, he, hi, hp]
  · simp [readHandshake, handshakeBytes, take?_append_of_length _ _ he, take?_append_of_length _ _ hi,
      take?_append_of_length _ _ hp, take?_append_of_length pstr _ (rfl : _ = 20)]

/-- A stream that does not start with the protocol string is refused. -/
theorem handshake_rejects (bs p r : Bytes) (h : Rain.Bencode.take? 20 bs = some (p, r)) (hp : p ≠ pstr) :
    readHandshake bs = .invalidProtocol := by
  simp [readHandshake, h, hp]

/-- **upload_counter.** For a piece frame the counter reported to the torrent is the number of
block bytes: exactly `|data|` when the frame was written completely, and for a short write of `n`
bytes the number of block bytes among them (nothing for the 13 header bytes). -/
theorem upload_counter (i b : Nat) (d : Bytes) :
    countUpload (encode (.piece i b d)).length = d.length ∧
    (∀ n, n ≤ (encode (.piece i b d)).length →
      countUpload n = ((encode (.piece i b d)).take n).length - 13 ∧ countUpload n ≤ d.length) := by
  have hl : (encode (.piece i b d)).length = 13 + d.length := by
    simp [encode, body, be32_length]; omega
  refine ⟨by simp [countUpload, hl], ?_⟩
  intro n hn
  simp [countUpload, List.length_take]
  omega

/-- Non-vacuity of `decode_encode` / `stream_concat`: a concrete mixed stream. -/
example : (run 100 (encodeAll [.have 7, .request 1 16384 16384, .piece 2 0 [1, 2, 3], .bitfield [255, 0], .port 6881])).msgs
    = [.have 7, .request 1 16384 16384, .piece 2 0 [1, 2, 3], .bitfield [255, 0], .port 6881] := by decide

example : WFMsg 100 (.piece 2 0 [1, 2, 3]) := by simp [WFMsg]

/-- Non-vacuity for the extension kinds: an extension handshake as rain sends it
(`m = {ut_metadata: 1, ut_pex: 2}`, `v = "Rain"`, `reqq = 250`) is well-formed and round-trips. -/
example : (run 1000 (encode (.ext 0 (.handshake
    { m := [([117,116,95,109,101,116,97,100,97,116,97], 1), ([117,116,95,112,101,120], 2)],
      v := [82,97,105,110], yourip := [127,0,0,1], metadataSize := 31337, reqq := 250 })))).msgs =
    [.ext 0 (.handshake
    { m := [([117,116,95,109,101,116,97,100,97,116,97], 1), ([117,116,95,112,101,120], 2)],
      v := [82,97,105,110], yourip := [127,0,0,1], metadataSize := 31337, reqq := 250 })] := by decide

example : Rain.Bencode.WFPayload (.metadata { msgType := 1, piece := 2, totalSize := 40000, data := [0, 17, 34] }) := by
  simp [Rain.Bencode.WFPayload, Rain.Bencode.WFMetadata]

example : encode (.request 1 16384 16384) = [0, 0, 0, 13, 6, 0, 0, 0, 1, 0, 0, 64, 0, 0, 0, 64, 0] := by decide

end Rain.Props.C11
