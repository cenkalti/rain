import RainModel.Lemmas.PieceDownloader
/-!
C10 — the piece downloader's request window (`internal/piecedownloader`, model `M-PD`), after the
repair of finding C10-F3.

`RequestBlocks` walks `remaining` and, while the window (`pending`) has room, moves blocks into it and
asks the peer for them.  A block may be in `remaining` although it has already been received: it was in
flight when a choke put the window back into `remaining`, and `GotBlock` stores such a block
(`ErrBlockNotRequested`, data kept).  The old loop entered that block into `pending` without sending a
request; `GotBlock` answers `ErrBlockDuplicate` for it before it reaches its `delete(d.pending, …)`, so
nothing ever removed the entry: one window slot per such block was lost for the life of the
downloader, and with the window full of dead entries `RequestBlocks` requested nothing while blocks were
missing and nothing was outstanding (`pd_stall_unfixed_counterexample`).  The repaired loop drops a
received block from `remaining` and leaves the window alone.
-/
namespace Rain.Props.C10PD
open Rain.Blocks Rain.PD

/-- The invariant holds in the state `New` returns. -/
theorem pd_pending_disjoint_done_init (bl : List Block) (af : Bool) (buf : Bytes) :
    ∀ x, x ∈ (init bl af buf).pending → x ∉ (init bl af buf).done :=
  pendFresh_init bl af buf

/-- Every call preserves the invariant, in any state (any block table, any buffer; `Choked` with any
iteration order, admissible or not). -/
theorem pd_pending_disjoint_done_step (s s' : State) (op : Op)
    (hinv : ∀ x, x ∈ s.pending → x ∉ s.done) (hstep : step s op = some s') :
    ∀ x, x ∈ s'.pending → x ∉ s'.done :=
  step_pendFresh hinv hstep

/-- **pd_pending_disjoint_done.** After every sequence of calls (blocks that are unrequested,
duplicated, of a wrong length; chokes with any iteration order; rejects; requests; cancels), for any
block list, buffer and `allowedFast`: no block is both in `pending` and in `done` — the request window
only holds requests whose answer has not arrived, so each entry is released by the block's arrival, by
a reject or by a choke. -/
theorem pd_pending_disjoint_done (bl : List Block) (af : Bool) (buf : Bytes) (ops : List Op) (s : State)
    (hrun : run (init bl af buf) ops = some s) : ∀ x, x ∈ s.pending → x ∉ s.done :=
  run_induct (P := fun _ => PendFresh) (pre := []) step_pendFresh (pendFresh_init bl af buf) hrun

/-- **pd_request_progress.** On the piece's computed blocks, in every state `s` reached from `New` by
calls whose `Choked` iteration orders are admissible, `RequestBlocks(q)` with room in the window
(`len(pending) < q`) does not panic and, with `s'` the state after it and `r` the requests it sent:

1. a request was sent, **or** `remaining` is now empty, the window is unchanged, and every block of the
   piece that has not been received is in the window;
2. every request sent is for a block of the piece that has not been received, and is in the window;
3. if the piece is incomplete (`Done()` false): a request was sent, **or** some missing block is in the
   window — which by `pd_pending_disjoint_done` is a request still awaiting its answer.  There is no
   state with a free window slot, a missing block, nothing outstanding and nothing requested. -/
theorem pd_request_progress (bs : Nat) (hbs : 0 < bs) (secs : List Sec) (bl : List Block)
    (hbl : calcBlocks bs secs = some bl) (af : Bool) (buf : Bytes) (ops : List Op) (s : State)
    (hadm : admissibleRun (init bl af buf) ops = true)
    (hrun : run (init bl af buf) ops = some s) (q : Int) (hq : (s.pending.length : Int) < q) :
    ∃ s' r, requestBlocks s q = some (s', r) ∧
      (r ≠ [] ∨ (s'.remaining = [] ∧ s'.pending = s.pending ∧
        ∀ b ∈ bl, b.b ∉ s'.done → b.b ∈ s'.pending)) ∧
      (∀ e ∈ r, (⟨e.1, e.2⟩ : Block) ∈ bl ∧ e.1 ∉ s'.done ∧ e.1 ∈ s'.pending) ∧
      (isDone s = false → r ≠ [] ∨ ∃ b ∈ bl, b.b ∉ s'.done ∧ b.b ∈ s'.pending) := by
  have hk := (calcBlocks_wf hbs hbl).nodup_keys
  obtain ⟨h2, h3⟩ : Inv2 bl s ∧ Inv3 bl s :=
    run_adm_induct (P := fun s => Inv2 bl s ∧ Inv3 bl s)
      (fun h23 hok h => ⟨step_inv2 h23.1 hok h, step_inv3 hk h23.1.blocks h23.2 hok h⟩)
      ⟨inv2_init af buf, inv3_init bl af buf⟩ hadm hrun
  exact requestBlocks_progress hk h2 h3 hq

/-! Non-vacuity, on the padded piece `[data 5][pad 2][data 3]`, block size 4 → blocks (0,4) (4,1) (7,3).

`stallOps`: all three requests go out, the peer chokes (all back into `remaining`), block 0 — already in
flight — arrives and is stored; next the peer unchokes and `RequestBlocks` runs. -/
def exSecs : List Sec := [⟨5, false⟩, ⟨2, true⟩, ⟨3, false⟩]
def exBlocks : List Block := [⟨0, 4⟩, ⟨4, 1⟩, ⟨7, 3⟩]
def exInit : State := init exBlocks false (List.replicate 10 0)
def stallOps : List Op := [.requestBlocks 3, .choked false [0, 4, 7], .gotBlock 0 [1, 2, 3, 4]]

example : calcBlocks 4 exSecs = some exBlocks := by decide
example : admissibleRun exInit stallOps = true := by decide
-- the state after `stallOps`: block 0 received *and* still queued in `remaining`; the window is empty
example : (run exInit stallOps).map (fun s => (s.remaining, s.pending, s.done, isDone s)) =
    some ([0, 4, 7], [], [0], false) := by decide
-- first alternative of `pd_request_progress`: the repaired loop skips block 0 and spends the slot on block 4
example : ((run exInit stallOps).bind (requestBlocks · 1)).map (fun p => (p.1.remaining, p.1.pending, p.2)) =
    some ([7], [4], [(4, 1)]) := by decide
-- second alternative: everything missing is outstanding, nothing more to send, `remaining` ran empty
example : ((run exInit (stallOps ++ [.requestBlocks 2])).bind (requestBlocks · 5)).map
      (fun p => (p.1.remaining, p.1.pending, p.1.done, p.2)) =
    some ([], [4, 7], [0], []) := by decide

/-- The loop of `RequestBlocks` as it was: a received block is entered into `pending` (without a
request) like any other. -/
def requestLoopOld (q : Int) : List Nat → State → List (Nat × Nat) → Option (State × List (Nat × Nat))
  | [], s, acc => some (s, acc.reverse)
  | begin :: rest, s, acc =>
    if (s.pending.length : Int) ≥ q then some (s, acc.reverse)
    else
      match mapGet s.blocks begin with
      | none => none
      | some len =>
        let acc' := if s.done.contains begin then acc else (begin, len) :: acc
        requestLoopOld q rest { s with remaining := s.remaining.drop 1, pending := setInsert s.pending begin } acc'

def requestBlocksOld (s : State) (q : Int) : Option (State × List (Nat × Nat)) :=
  requestLoopOld q s.remaining s []

/-- `step` with the old `RequestBlocks`. -/
def stepOld (s : State) : Op → Option State
  | .requestBlocks q => (requestBlocksOld s q).map (·.1)
  | op => step s op

def runOld (s : State) (ops : List Op) : Option State := ops.foldlM stepOld s

/-- **pd_stall_unfixed_counterexample.** With the old loop, the history request-3 / choke / in-flight
block 0 arrives / `RequestBlocks(1)` (an admissible history on a computed block list) ends in a state
`s` in which

* block 0 is both in `pending` and in `done` (the invariant of `pd_pending_disjoint_done` is broken),
* that last `RequestBlocks(1)` sent nothing, and every later `RequestBlocks(1)` sends nothing and
  changes nothing, although
* the piece is incomplete — blocks 4 and 7 are missing and wait in `remaining` — and no request is
  outstanding: every entry of the window is a block that has already been received, and a further copy
  of it is answered `ErrBlockDuplicate` with the state unchanged, so the entry is never released.

The repaired loop, from the same history, requests block 4 (and the window never holds block 0). -/
theorem pd_stall_unfixed_counterexample :
    calcBlocks 4 exSecs = some exBlocks ∧
    admissibleRun exInit stallOps = true ∧
    ∃ s0 s, run exInit stallOps = some s0 ∧ runOld exInit stallOps = some s0 ∧
      requestBlocksOld s0 1 = some (s, []) ∧
      s.pending = [0] ∧ s.done = [0] ∧ s.remaining = [4, 7] ∧ isDone s = false ∧
      (∀ x ∈ s.pending, x ∈ s.done) ∧
      requestBlocksOld s 1 = some (s, []) ∧
      gotBlock s 0 [1, 2, 3, 4] = (s, .duplicate) ∧
      (requestBlocks s0 1).map (·.2) = some [(4, 1)] := by
  refine ⟨by decide, by decide, ?_⟩
  refine ⟨{ blocks := [(0, 4), (4, 1), (7, 3)], remaining := [0, 4, 7], pending := [], done := [0],
            buf := [1, 2, 3, 4, 0, 0, 0, 0, 0, 0], allowedFast := false },
          { blocks := [(0, 4), (4, 1), (7, 3)], remaining := [4, 7], pending := [0], done := [0],
            buf := [1, 2, 3, 4, 0, 0, 0, 0, 0, 0], allowedFast := false }, ?_⟩
  decide

/-! ## No block is queued twice (C17) — after the repair of finding C17-F5

`Rejected(begin, length)` used to append `begin` to `remaining` whenever `(begin, length)` is a block of
the piece — also when no request for it was outstanding (a second reject for the same request, a reject
for a block never requested).  The block was then in `remaining` twice, or in `remaining` and in the
window at once; `RequestBlocks` sent a request for every occurrence, while the window (a set) got one
entry: more requests at the peer than the window counts (`pd_double_request_unfixed_counterexample`).
The repaired `Rejected` ignores a reject for a block that is not in the window. -/

/-- The begins of a computed block list are pairwise different (the hypothesis of the theorems below). -/
theorem calcBlocks_keys_nodup (bs : Nat) (hbs : 0 < bs) (secs : List Sec) (bl : List Block)
    (hbl : calcBlocks bs secs = some bl) : (bl.map (·.b)).Nodup :=
  (calcBlocks_wf hbs hbl).nodup_keys

/-- The queue invariant holds in the state `New` returns, for a block list with pairwise different begins. -/
theorem pd_queues_init (bl : List Block) (hkeys : (bl.map (·.b)).Nodup) (af : Bool) (buf : Bytes) :
    (init bl af buf).remaining.Nodup ∧ (init bl af buf).pending.Nodup ∧
    ∀ x, x ∈ (init bl af buf).remaining → x ∉ (init bl af buf).pending :=
  let h := inv4_init hkeys af buf
  ⟨h.remNodup, h.pendNodup, h.disj⟩

/-- Every call preserves the queue invariant (the three parts together: that `remaining` is duplicate-free and that
it is disjoint from `pending` need each other and that `pending` is duplicate-free; only the last is inductive
alone), in any state, provided a re-queueing `Choked` iterates `pending` in an admissible order (a permutation of it). -/
theorem pd_queues_step (s s' : State) (op : Op)
    (hinv : s.remaining.Nodup ∧ s.pending.Nodup ∧ ∀ x, x ∈ s.remaining → x ∉ s.pending)
    (hadm : ∀ pf order, op = .choked pf order → chokedRequeues s pf = true → chokedAdmissible s order = true)
    (hstep : step s op = some s') :
    s'.remaining.Nodup ∧ s'.pending.Nodup ∧ ∀ x, x ∈ s'.remaining → x ∉ s'.pending :=
  let h := step_inv4 ⟨hinv.1, hinv.2.1, hinv.2.2⟩ hadm hstep
  ⟨h.remNodup, h.pendNodup, h.disj⟩

/-- **pd_remaining_nodup.** For a block list with pairwise different begins (every computed one,
`calcBlocks_keys_nodup`), after every sequence of calls whose re-queueing chokes use admissible iteration
orders: no block occurs twice in `remaining` (nor in `pending`). -/
theorem pd_remaining_nodup (bl : List Block) (hkeys : (bl.map (·.b)).Nodup) (af : Bool) (buf : Bytes)
    (ops : List Op) (s : State) (hadm : admissibleRun (init bl af buf) ops = true)
    (hrun : run (init bl af buf) ops = some s) : s.remaining.Nodup ∧ s.pending.Nodup :=
  let h := run_inv4 (inv4_init hkeys af buf) hadm hrun
  ⟨h.remNodup, h.pendNodup⟩

/-- **pd_remaining_disjoint_pending.** Under the same hypotheses no block is in `remaining` and in
`pending` at once: a block is never queued for a request while a request for it is outstanding. -/
theorem pd_remaining_disjoint_pending (bl : List Block) (hkeys : (bl.map (·.b)).Nodup) (af : Bool)
    (buf : Bytes) (ops : List Op) (s : State) (hadm : admissibleRun (init bl af buf) ops = true)
    (hrun : run (init bl af buf) ops = some s) : ∀ x, x ∈ s.remaining → x ∉ s.pending :=
  (run_inv4 (inv4_init hkeys af buf) hadm hrun).disj

/-! Both hypotheses are needed: two blocks with the same begin are queued twice by `New`; a choke that
"iterates" a key twice queues it twice. -/
example : (init [⟨0, 4⟩, ⟨0, 4⟩] false []).remaining = [0, 0] := by decide
example : (run (init [⟨0, 4⟩] false []) [.requestBlocks 1, .choked false [0, 0]]).map (·.remaining) =
    some [0, 0] := by decide

/-! ### The window counts the requests at the peer -/

/-- `RequestPiece` calls made by the call `op` in state `s`. -/
def issuedBy (s : State) : Op → Nat
  | .requestBlocks q =>
    match requestBlocks s q with
    | some (_, r) => r.length
    | none => 0
  | _ => 0

/-- Requests that the call `op` in state `s` takes off the books: one for a block that answers a request
(`GotBlock` returning nil), one for a reject of a request that is in the window, all of the window for a
choke that re-queues (the peer has dropped them: no fast extension).  A block that arrives unrequested, a
duplicate, a reject for a block that is not in the window retire nothing. -/
def retiredBy (s : State) : Op → Nat
  | .gotBlock b d => if (gotBlock s b d).2 = .ok then 1 else 0
  | .rejected b l => if findBlock s b l && s.pending.contains b then 1 else 0
  | .choked pf _ => if chokedRequeues s pf then s.pending.length else 0
  | _ => 0

/-- Requests sent minus requests retired along `ops` from `s`, for the transition function `stp`. -/
def outstandingWith (stp : State → Op → Option State) : State → List Op → Int
  | _, [] => 0
  | s, op :: rest =>
    (issuedBy s op : Int) - (retiredBy s op : Int) +
      match stp s op with
      | some s' => outstandingWith stp s' rest
      | none => 0

/-- Requests sent minus requests retired along `ops` from `s`. -/
def outstanding (s : State) (ops : List Op) : Int := outstandingWith step s ops

theorem step_outstanding {s s' : State} {op : Op} (hi : Inv4 s) (h : step s op = some s') :
    (s'.pending.length : Int) = s.pending.length + issuedBy s op - retiredBy s op := by
  cases op with
  | gotBlock b d =>
    cases h
    have := gotBlock_window s hi.pendNodup b d
    simp only [issuedBy, retiredBy]
    omega
  | choked pf order =>
    cases h
    have := choked_window s pf order
    simp only [issuedBy, retiredBy]
    omega
  | rejected b l =>
    cases h
    have := rejected_window s hi.pendNodup b l
    simp only [issuedBy, retiredBy]
    omega
  | requestBlocks q =>
    obtain ⟨⟨s1, r⟩, h1, rfl⟩ := Option.map_eq_some_iff.mp h
    have := requestBlocks_window hi h1
    simp only [issuedBy, retiredBy, h1]
    omega
  | cancelPending =>
    obtain ⟨_, _, rfl⟩ := Option.map_eq_some_iff.mp h
    simp [issuedBy, retiredBy]
  | done =>
    cases h
    simp [issuedBy, retiredBy]
theorem run_outstanding : ∀ (ops : List Op) (s s' : State), Inv4 s → admissibleRun s ops = true →
    run s ops = some s' → outstanding s ops = (s'.pending.length : Int) - s.pending.length := by
  intro ops
  induction ops with
  | nil =>
    intro s s' _ _ h
    cases h
    simp [outstanding, outstandingWith]
  | cons op rest ih =>
    intro s s' hi hadm h
    obtain ⟨hok, hadm'⟩ := admissible_cons hadm
    rw [run_cons] at h
    obtain ⟨s1, hs, hr⟩ := Option.bind_eq_some_iff.mp h
    have h1 := step_outstanding hi hs
    have h2 := ih s1 s' (step_inv4 hi hok hs) (hadm' s1 hs) hr
    unfold outstanding at h2 ⊢
    simp only [outstandingWith, hs]
    omega

/-- **pd_requests_within_window.** For a block list with pairwise different begins, along every history
from `New` with admissible choke orders: the number of `RequestPiece` calls made minus the number of
requests retired (answered by their block, rejected, or dropped by a re-queueing choke) **equals**
`len(pending)` — every request sent has its own entry in the window, every entry stands for exactly one
request — and therefore never exceeds the largest `queueLength` passed to `RequestBlocks`.  (`ops` is
arbitrary, so this holds after every prefix of a history.) -/
theorem pd_requests_within_window (bl : List Block) (hkeys : (bl.map (·.b)).Nodup) (af : Bool)
    (buf : Bytes) (ops : List Op) (s : State) (hadm : admissibleRun (init bl af buf) ops = true)
    (hrun : run (init bl af buf) ops = some s) :
    outstanding (init bl af buf) ops = s.pending.length ∧ outstanding (init bl af buf) ops ≤ maxQ ops := by
  have h1 := run_outstanding ops _ s (inv4_init hkeys af buf) hadm hrun
  have h2 : (s.pending.length : Int) ≤ maxQ ops :=
    run_pending (pre := []) (s := init bl af buf) (Int.le_refl 0) hrun
  have h0 : (init bl af buf).pending.length = 0 := rfl
  rw [h0] at h1
  exact ⟨by omega, by omega⟩

/-! Non-vacuity: 3 requests, a reject (and a second reject for the same request, ignored), a re-request,
one block answered, a choke that drops the rest, an in-flight block arriving afterwards, 2 re-requests. -/
def winOps : List Op := [.requestBlocks 3, .rejected 4 1, .rejected 4 1, .requestBlocks 3,
  .gotBlock 0 [1, 2, 3, 4], .choked false [7, 4], .gotBlock 7 [7, 8, 9], .requestBlocks 3]

example : admissibleRun exInit winOps = true := by decide
example : (List.range 9).map (fun n => outstanding exInit (winOps.take n)) = [0, 3, 2, 2, 3, 2, 0, 0, 1] := by
  decide
example : (run exInit winOps).map (fun s => (s.remaining, s.pending, s.done)) = some ([], [4], [0, 7]) := by
  decide

/-- `Rejected` as it was: the block goes back into `remaining` whether or not a request was outstanding. -/
def rejectedOld (s : State) (begin length : Nat) : State × Bool :=
  if !findBlock s begin length then (s, false)
  else ({ s with pending := setDelete s.pending begin, remaining := s.remaining ++ [begin] }, true)

/-- `step` with the old `Rejected`. -/
def stepRejOld (s : State) : Op → Option State
  | .rejected b l => some (rejectedOld s b l).1
  | op => step s op

def runRejOld (s : State) (ops : List Op) : Option State := ops.foldlM stepRejOld s

def dblOps : List Op := [.requestBlocks 3, .rejected 4 1, .rejected 4 1]
def overOps : List Op := dblOps ++ [.requestBlocks 3, .rejected 0 4, .requestBlocks 3]

/-- **pd_double_request_unfixed_counterexample.** With the old `Rejected`, on a computed block list:

* after request-3 / reject of block 4 / a second reject of block 4, block 4 is in `remaining` twice, and
  `RequestBlocks(4)` then sends two requests for it while the window gets one entry;
  (a single reject for a block never requested already queues it twice);
* continuing with window size 3 throughout (`overOps`), 4 requests are at the peer — for blocks 7, 4, 4, 0
  — while `len(pending)` = 3 = the largest `queueLength`: the bound of `pd_requests_within_window` fails.

With the repaired `Rejected` the same calls leave block 4 queued once, one request is sent, and the books
balance. -/
theorem pd_double_request_unfixed_counterexample :
    calcBlocks 4 exSecs = some exBlocks ∧
    (∃ s s', runRejOld exInit dblOps = some s ∧ s.remaining = [4, 4] ∧ s.pending = [0, 7] ∧
      requestBlocks s 4 = some (s', [(4, 1), (4, 1)]) ∧ s'.pending = [0, 7, 4]) ∧
    (runRejOld exInit [.rejected 4 1]).map (·.remaining) = some [0, 4, 7, 4] ∧
    (outstandingWith stepRejOld exInit overOps = 4 ∧ maxQ overOps = 3 ∧
      (runRejOld exInit overOps).map (·.pending) = some [7, 4, 0]) ∧
    (∃ s s', run exInit dblOps = some s ∧ s.remaining = [4] ∧ s.pending = [0, 7] ∧
      requestBlocks s 4 = some (s', [(4, 1)]) ∧ s'.pending = [0, 7, 4]) ∧
    outstanding exInit overOps = 3 := by
  refine ⟨by decide, ?_, by decide, by decide, ?_, by decide⟩
  · refine ⟨{ blocks := [(0, 4), (4, 1), (7, 3)], remaining := [4, 4], pending := [0, 7], done := [],
              buf := List.replicate 10 0, allowedFast := false },
            { blocks := [(0, 4), (4, 1), (7, 3)], remaining := [], pending := [0, 7, 4], done := [],
              buf := List.replicate 10 0, allowedFast := false }, ?_⟩
    decide
  · refine ⟨{ blocks := [(0, 4), (4, 1), (7, 3)], remaining := [4], pending := [0, 7], done := [],
              buf := List.replicate 10 0, allowedFast := false },
            { blocks := [(0, 4), (4, 1), (7, 3)], remaining := [], pending := [0, 7, 4], done := [],
              buf := List.replicate 10 0, allowedFast := false }, ?_⟩
    decide

end Rain.Props.C10PD
