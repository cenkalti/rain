import Driver.Suites.Loop
import RainModel.Lemmas.LoopCfg
import RainModel.Lemmas.LoopWeak
/-!
The hypotheses `CfgWF` / `InitLike` of the M-LOOP theorems hold for what the driver replays: every
configuration `parseNew` builds from a `new …` line (whatever the line says) is well-formed, and the
initial state the driver builds from it (`initSt`, also in its `seeded=1` variant) is `InitLike`.

This file imports the driver module; the driver itself (`Driver.Main`) does not import it and stays
core-only.
-/
namespace Rain.Props.C01LoopCfg
open Rain.Loop Driver.Suites.Loop

/-- The blocks `parseNew` computes are `cfgBlocks` of the configuration it returns. -/
theorem parseNew_blocks (toks : List String) : (parseNew toks).blocks = cfgBlocks (parseNew toks) := by
  unfold parseNew cfgBlocks
  dsimp only [Cfg.n]
  simp only [List.length_map, List.length_range]
  rfl

/-- **parseNew_cfgWF.** Every configuration the driver builds from a `new` line satisfies `CfgWF`: a piece
without blocks has no data section. -/
theorem parseNew_cfgWF (toks : List String) : CfgWF (parseNew toks) :=
  cfgWF_of_blocks _ (parseNew_blocks toks)

/-- **parseNew_blocksHaveData.** … and the converse (`Cfg.blocksHaveData`): a piece that has blocks has a
non-padding section. -/
theorem parseNew_blocksHaveData (toks : List String) : (parseNew toks).blocksHaveData = true :=
  blocksHaveData_of_blocks _ (parseNew_blocks toks)

/-- The driver's initial state over any well-formed configuration is `InitLike`, whatever disk image
(`known`, `fileExists`, `bad`) replaces its own, as long as `bad` names real data sections. -/
theorem initSt_with_initLike (c : Cfg) (hc : CfgWF c) (magnet : Bool) (fe kn : List Bool) (bad : List (Nat × Nat))
    (hbad : BadWF { initSt c magnet with known := kn, fileExists := fe, bad := bad }) :
    InitLike { initSt c magnet with known := kn, fileExists := fe, bad := bad } :=
  ⟨hc, hbad, rfl, rfl, rfl, rfl, rfl, rfl, rfl, rfl, rfl, rfl, rfl, rfl, rfl, rfl, rfl⟩

/-- **initSt_initLike.** The driver's initial state (nothing on disk) is `InitLike`, for every `new` line. -/
theorem initSt_initLike (toks : List String) (magnet : Bool) : InitLike (initSt (parseNew toks) magnet) :=
  initSt_with_initLike _ (parseNew_cfgWF toks) magnet _ _ _ (badWF_dataSects _ rfl)

/-- … and so is its `seeded=1` variant (every file present with the true content, `bad = []`), with the
other fields the driver sets from the `new` line. -/
theorem initSt_seeded_initLike (toks : List String) (magnet : Bool) (fe kn : List Bool) :
    InitLike { initSt (parseNew toks) magnet with known := kn, fileExists := fe, bad := [] } :=
  initSt_with_initLike _ (parseNew_cfgWF toks) magnet fe kn [] (fun x hx => by cases hx)

/-- **driver_new_initLike.** The state `stepDriver` installs for a `new` line — `initSt`, the `seeded=1`
replacement of the disk image, and the configuration values it copies into the state — is `InitLike` and has
no verify pending, no hanging tracker, no panic, no piece write in flight: the hypotheses on the initial state
of every `…_run` theorem, C04 `no_panic_full_partial` included.  Its configuration also satisfies
`Cfg.blocksHaveData`, which none of them assumes. -/
theorem driver_new_initLike (toks : List String) (magnet seeded iaa : Bool) (nu no isz mm pm : Nat) :
    let c := parseNew toks
    let s := initSt c magnet
    let s := if seeded then { s with known := c.flens.map (fun _ => true), fileExists := c.flens.map (fun _ => true), bad := [] } else s
    let s := { s with nUnchoke := nu, nOptimistic := no }
    let s := { s with infoAtAdd := iaa, isize := isz, maxMeta := mm, parMeta := pm }
    InitLike s ∧ s.doVerify = false ∧ s.stopHang = false ∧ s.panicked = none ∧
      s.cfg.blocksHaveData = true ∧ s.writing = none := by
  dsimp only
  cases seeded
  · exact ⟨⟨parseNew_cfgWF toks, badWF_dataSects _ rfl, rfl, rfl, rfl, rfl, rfl, rfl, rfl, rfl, rfl, rfl, rfl, rfl,
      rfl, rfl, rfl⟩, rfl, rfl, rfl, parseNew_blocksHaveData toks, rfl⟩
  · exact ⟨⟨parseNew_cfgWF toks, (fun x hx => by cases hx), rfl, rfl, rfl, rfl, rfl, rfl, rfl, rfl, rfl, rfl, rfl, rfl,
      rfl, rfl, rfl⟩, rfl, rfl, rfl, parseNew_blocksHaveData toks, rfl⟩

/-! Non-vacuity: the layout `parseNew` builds for `pl=16384 files=16384:0,16384:1,100:0` (a data file, a
padding file, a short data file): the padding-only piece has no block — and no data section (`CfgWF`).
(`parseNew` itself parses strings and does not reduce in the kernel; the layout is written out.) -/
private def c3 : Cfg :=
  { pl := 16384, plens := [16384, 16384, 100], blocks := [], flens := [16384, 16384, 100],
    fpads := [false, true, false], fnames := ["t/f0", "t/.pad/16384", "t/f2"] }

example : cfgBlocks c3 = [[(0, 16384)], [], [(0, 100)]] := by decide
example : (c3.sections 1).map (fun sc => (sc.file, sc.len, c3.isData sc)) = [(1, 16384, false)] := by decide
example : CfgWF { c3 with blocks := cfgBlocks c3 } := cfgWF_of_blocks _ rfl
example : ({ c3 with blocks := cfgBlocks c3 } : Cfg).blocksHaveData = true := blocksHaveData_of_blocks _ rfl

end Rain.Props.C01LoopCfg
