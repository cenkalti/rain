import RainModel.Lemmas.AdmissionRun
import RainModel.Props.C18
/-!
C01 (clause "a peer that supplied a piece failing the hash check is disconnected and not
reused") at the level of HISTORIES of admission operations.

A history is a finite list of `(Op, blocklist in force at that step)`, of any length and in any
interleaving; `run` folds it over a state.  `OpOk max` are the per-step hypotheses of `Reach.push`
(the `AddrList` was created with `maxItems = max`; the resolution of the unstable sort is a sort);
they restrict `Op.peers` only.
-/
namespace Rain.Props.C01Admission
open Rain.AddrList Rain.Admission Rain.Props.C18

/-- **run_total.** For either version of the decision code (in particular `fixedCfg …`), from the
initial state, every history runs to the end: no step reaches a panic branch of the model
("addr list data structures not in sync", "desync", "index out of range", "dial loop out of
fuel"), and there is exactly one output per step. -/
theorem run_total (cfg : Cfg) (max : Nat) (hist : List (Op × (Nat → Bool)))
    (hok : ∀ e ∈ hist, OpOk max e.1) :
    ∃ s outs, run cfg {} hist = .ok (s, outs) ∧ outs.length = hist.length := by
  obtain ⟨s, outs, e, r⟩ := run_spec cfg hist {} (sinv_init max) hok
  exact ⟨s, outs, e, r.length⟩

/-- The instance asked for: the repaired code. -/
theorem run_total_fixed (maxDial maxAccept : Nat) (blIn blOut : Bool) (max : Nat)
    (hist : List (Op × (Nat → Bool))) (hok : ∀ e ∈ hist, OpOk max e.1) :
    ∃ s outs, run (fixedCfg maxDial maxAccept blIn blOut) {} hist = .ok (s, outs) ∧
      outs.length = hist.length :=
  run_total _ max hist hok

/-- The same from any state that satisfies the step invariant (good queue, `connected` without
duplicates); the invariant holds again at the end. -/
theorem run_total_from (cfg : Cfg) (max : Nat) (s0 : State) (h0 : SInv max s0)
    (hist : List (Op × (Nat → Bool))) (hok : ∀ e ∈ hist, OpOk max e.1) :
    ∃ s outs, run cfg s0 hist = .ok (s, outs) ∧ outs.length = hist.length ∧ SInv max s := by
  obtain ⟨s, outs, e, r⟩ := run_spec cfg hist s0 h0 hok
  exact ⟨s, outs, e, r.length, r.inv⟩

/-- **banned_monotone_run.** `bannedPeerIPs` only grows: whatever the history, every IP banned at
its start is banned at its end (no operation of the admission path removes a ban). -/
theorem banned_monotone_run (cfg : Cfg) (max : Nat) (s0 : State) (h0 : SInv max s0)
    (hist : List (Op × (Nat → Bool))) (hok : ∀ e ∈ hist, OpOk max e.1)
    (s : State) (outs : List StepOut) (hr : run cfg s0 hist = .ok (s, outs)) :
    ∀ x ∈ s0.banned, x ∈ s.banned := by
  obtain ⟨s', outs', e, r⟩ := run_spec cfg hist s0 h0 hok
  rw [hr] at e
  cases e
  exact r.mono

/-- **corrupt_sender_never_reused.** Repaired code (`cfg.checkBan = true`), any history
`pre ++ [(op, b)] ++ post` from the initial state in which `op` is the corrupt-piece branch of
`handlePieceWriteDone` for a peer with IP `ip` (outgoing `(ip, port)`, or incoming `ip`).
The history runs to the end, it decomposes along the three parts, and
* right after the corrupt-piece step `ip` is in `bannedPeerIPs` and NOT in `connectedPeerIPs`
  (the peer is disconnected and its IP released);
* the `dialAddresses` call inside that very step (`closePeer`) dials no address with IP `ip`;
* (i) no step of `post` — whatever it is, however many there are — dials an address with IP `ip`;
* (ii) every `Op.accept ip` in `post` gets a verdict different from `accept`
  (`post.zip outs3` pairs each step with its output; the lengths are equal);
* `ip` is still banned at the end. -/
theorem corrupt_sender_never_reused (cfg : Cfg) (hcb : cfg.checkBan = true) (max : Nat)
    (pre post : List (Op × (Nat → Bool))) (op : Op) (b : Nat → Bool) (ip : Nat)
    (hop : (∃ port, op = .corruptOut (ip, port)) ∨ op = .corruptIn ip)
    (hok : ∀ e ∈ pre ++ [(op, b)] ++ post, OpOk max e.1) :
    ∃ s1 outs1 s2 o s3 outs3,
      run cfg {} pre = .ok (s1, outs1) ∧ step cfg b s1 op = .ok (s2, o) ∧
      run cfg s2 post = .ok (s3, outs3) ∧
      run cfg {} (pre ++ [(op, b)] ++ post) = .ok (s3, outs1 ++ [o] ++ outs3) ∧
      ip ∈ s2.banned ∧ ip ∉ s2.connected ∧
      (∀ a ∈ o.dialled, a.1 ≠ ip) ∧
      (∀ so ∈ outs3, ∀ a ∈ so.dialled, a.1 ≠ ip) ∧
      outs3.length = post.length ∧
      (∀ p ∈ post.zip outs3, p.1.1 = .accept ip → p.2.verdict ≠ some .accept) ∧
      ip ∈ s3.banned := by
  have hok1 : ∀ e ∈ pre, OpOk max e.1 := fun e he => hok e (List.mem_append_left _ (List.mem_append_left _ he))
  have hok2 : OpOk max op := hok (op, b) (List.mem_append_left _ (List.mem_append_right _ List.mem_cons_self))
  have hok3 : ∀ e ∈ post, OpOk max e.1 := fun e he => hok e (List.mem_append_right _ he)
  obtain ⟨s1, outs1, e1, r1⟩ := run_spec cfg pre {} (sinv_init max) hok1
  obtain ⟨s2, o, e2, st⟩ := step_spec cfg b s1 op r1.inv hok2
  have hb : ip ∈ s2.banned := st.banned ip (by rcases hop with ⟨port, rfl⟩ | rfl <;> exact List.mem_cons_self)
  obtain ⟨s3, outs3, e3, r3⟩ := run_spec cfg post s2 st.inv hok3
  refine ⟨s1, outs1, s2, o, s3, outs3, e1, e2, e3, ?_, hb, st.disj hcb (r1.disj hcb disj_init) ip hb,
    fun a ha e => st.fresh hcb a ha (e ▸ hb), fun so hso a ha e => r3.fresh hcb so hso a ha (e ▸ hb),
    r3.length, fun p hp e => r3.refused p hp ip e hb, r3.mono ip hb⟩
  have hmid : run cfg s1 ((op, b) :: post) = .ok (s3, o :: outs3) := by simp only [run, e2, e3]
  rw [List.append_assoc, List.append_assoc]
  exact run_append cfg pre _ e1 hmid

/-- **banned_disjoint_connected_run.** Repaired code: after every history from the initial state
no IP is both in `bannedPeerIPs` and in `connectedPeerIPs` — a banned peer is never connected or
connecting.  No precondition on `corruptOut` / `corruptIn` is needed (for an address / IP that is
not a current peer — unreachable in the Go code — the step still only bans and releases), because
`connected` has no duplicates in every reachable state, so `erase` removes the IP entirely. -/
theorem banned_disjoint_connected_run (cfg : Cfg) (hcb : cfg.checkBan = true) (max : Nat)
    (hist : List (Op × (Nat → Bool))) (hok : ∀ e ∈ hist, OpOk max e.1)
    (s : State) (outs : List StepOut) (hr : run cfg {} hist = .ok (s, outs)) :
    s.connected.Nodup ∧ ∀ x, x ∈ s.banned → x ∉ s.connected := by
  obtain ⟨s', outs', e, r⟩ := run_spec cfg hist {} (sinv_init max) hok
  rw [hr] at e
  cases e
  exact ⟨r.inv.nodup, r.disj hcb disj_init⟩

/-- `MaxPeerDial = 1`.  (1) a tracker announces 7:80 — dialled, the only dial slot is now taken;
(2) 9 connects to us — accepted; (3) a tracker announces 9:81 — queued (9 is not banned), not
dialled because the slot is taken; (4) the incoming peer 9 sends a corrupt piece — banned and
closed; (5) the handshake with 7:80 fails — the slot is free and `dialAddresses` pops 9:81;
(6) 9 connects again. -/
def witness : List (Op × (Nat → Bool)) :=
  let env : Env := ⟨10, 6881, none, [], fun _ => false⟩
  let nb : Nat → Bool := fun _ => false
  [(.peers env stableSort [⟨7, 80, 5⟩] 0 1, nb), (.accept 9, nb),
   (.peers env stableSort [⟨9, 81, 6⟩] 0 2, nb), (.corruptIn 9, nb), (.hsfail (7, 80), nb),
   (.accept 9, nb)]

/-- The hypotheses of the theorems hold for `witness`. -/
example : ∀ e ∈ witness, OpOk 10 e.1 := by
  intro e he
  simp only [witness, List.mem_cons, List.not_mem_nil, or_false] at he
  rcases he with rfl | rfl | rfl | rfl | rfl | rfl <;>
    first | trivial | exact ⟨rfl, stableSort_admissible⟩

/-- Repaired code: the queue held 9:81 when the slot was released, and it is NOT dialled; the
second connection from 9 is refused as banned. -/
example : ((run (fixedCfg 1 2 false false) {} witness).toOption.map (·.2)) =
    some [{ dialled := [(7, 80)] }, { verdict := some .accept }, {}, {}, {},
          { verdict := some .banned }] := by decide

/-- The queue does hold the banned address right before the slot is released (steps 1–4). -/
example : ((run (fixedCfg 1 2 false false) {} (witness.take 4)).toOption.map
    fun r => (r.1.queue.entries.map fun p => (p.ip, p.port), r.1.banned, r.1.connected, r.1.outgoing)) =
    some ([(9, 81)], [9], [7], [(7, 80)]) := by decide

/-- Contrast, `checkBan := false` (the code before d1afeec): the banned address IS dialled. -/
example : ((run ⟨1, 2, false, false, false, true⟩ {} witness).toOption.map (·.2)) =
    some [{ dialled := [(7, 80)] }, { verdict := some .accept }, {}, {}, { dialled := [(9, 81)] },
          { verdict := some .duplicate }] := by decide

end Rain.Props.C01Admission
