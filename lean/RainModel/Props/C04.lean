import RainModel.Lemmas.LoopWeak
import RainModel.Lemmas.LoopStart
import RainModel.Lemmas.LoopVerify
import RainModel.Lemmas.LoopWInvDec
import RainModel.Lemmas.LoopNoPanicRun
import RainModel.Lemmas.LoopVerifyFlag
import RainModel.Lemmas.LoopMetaStop
/-!
C04 — lifecycle safety, loop level (M-LOOP).  Two inductive invariants of the event loop, proved for every
event with arbitrary parameters, every state satisfying them, and every admissible choice of the picker:

* `CompInv` — the completion flags are truthful;
* `Life` — a stopped or stopping torrent holds nothing, what is loaded has its files, nothing exists before
  the metadata;

reachability statements about single commands — `stop` (also with stub trackers that do not answer the `stopped`
event, and as `stopHeld`, given while the storage gates stay as they are), `start`, `verify` — and no panic
(`no_panic_partial` handler by handler; the inductive statement is `no_panic_full_partial` — see
notes/loop-proofs.md).  Tie to the code: suite `lifecycle` (and `loop-dl`, `loop-magnet`).
-/
namespace Rain.Props.C04
open Rain.Loop

/-- **completed_sound.** `completeC` is closed iff `completed`; `completed` implies every bit is set (or the
bitfield has been dropped for a re-verification, in which case the torrent is not seeding); a torrent past
allocation and verification has a bitfield.  Preserved by every event. -/
theorem completed_sound (s : St) (p : Parked) (kn : Nat → Bool) (op : Op) (h : CompInv s) :
    CompInv (step s p kn op).1.st := step_comp s p kn op h

/-- The same along whole histories, with the implementation's choices adopted. -/
theorem completed_sound_run (s0 : St) (h0 : InitLike s0) (evs : List Ev) : CompInv (drun (s0, none) evs).1 :=
  drun_comp evs (s0, none) h0.comp

/-- **seeding_truthful.** Status `Seeding` ⇒ there is a bitfield and every bit is set. -/
theorem seeding_truthful (s : St) (c : CompInv s) (l : Life s) (hs : s.status = .seeding) :
    ∃ b, s.bf = some b ∧ allTrue b = true :=
  c.seeding hs (l.files_of_running (Or.inr hs)).2.2

/-- **life_invariant.** The lifecycle invariant is preserved by every event (any parameters, any state). -/
theorem life_invariant (s : St) (p : Parked) (kn : Nat → Bool) (op : Op) (h : Life s) :
    Life (step s p kn op).1.st := step_life s p kn op h

/-- … and by the adoption of the implementation's choices, when `reconcile` accepted them. -/
theorem life_invariant_run (s0 : St) (h0 : InitLike s0) (evs : List Ev) (ha : drunAdmissible (s0, none) evs) :
    Life (drun (s0, none) evs).1 := drun_life evs (s0, none) h0.life ha

/-- **stopped_clean.** Status `Stopped` ⇒ no peers, no piece or metadata downloads, no open file handle, no
leaked handle, no allocator, verifier or acceptor. -/
theorem stopped_clean (s : St) (l : Life s) (hs : s.status = .stopped) :
    s.peers = [] ∧ s.dls = [] ∧ s.idls = [] ∧ s.openFiles = [] ∧ s.leaked = 0 ∧
    s.allocator = false ∧ s.verifier = false ∧ s.acceptor = false := l.stopped_clean hs

/-- Downloading or seeding ⇒ the pieces are loaded and every file of the torrent exists. -/
theorem running_has_files (s : St) (l : Life s) (hs : s.status = .downloading ∨ s.status = .seeding) :
    s.loaded = true ∧ FilesExist s ∧ s.info = true := l.files_of_running hs

/-- **stop_reaches_stopped.** From any state satisfying the invariant, in any status, **with or without a
requested verification pending** (`doVerify`; the stop command withdraws the request: fix of finding C04-F6):
after the `stop` command (and the worker completions it releases) the status is `Stopped` — when no tracker
leaves the `stopped` event unanswered (`stopHang = false`; see `stop_reaches_stopped_or_hangs` for the other
case). -/
theorem stop_reaches_stopped (s : St) (p : Parked) (kn : Nat → Bool) (l : Life s)
    (hp : s.panicked = none) (hh : s.stopHang = false) :
    (step s p kn .stop).1.st.status = .stopped := Rain.Loop.stop_reaches_stopped s p kn l hp hh

/-- **stop_reaches_stopped_or_hangs.** The same without any assumption about the trackers: after the `stop`
command no verify is pending and the torrent is `Stopped`, or a tracker does not answer (`stopHang` was and
is set) and the torrent is `Stopping` with its stop announcer waiting.  No hypothesis about `doVerify`. -/
theorem stop_reaches_stopped_or_hangs (s : St) (p : Parked) (kn : Nat → Bool) (l : Life s)
    (hp : s.panicked = none) :
    (step s p kn .stop).1.st.doVerify = false ∧
    ((step s p kn .stop).1.st.status = .stopped ∨
      (s.stopHang = true ∧ (step s p kn .stop).1.st.status = .stopping ∧ (step s p kn .stop).1.st.stopHang = true)) :=
  Rain.Loop.stop_reaches_stopped_or_hangs s p kn l hp

/-- The same for `Op.stopHeld` (the stop command given while the harness leaves the storage gates as they
are: an allocator or verifier held by a gate is dropped by `stop`, the gate stays). -/
theorem stopHeld_reaches_stopped_or_hangs (s : St) (p : Parked) (kn : Nat → Bool) (l : Life s)
    (hp : s.panicked = none) :
    (step s p kn .stopHeld).1.st.doVerify = false ∧
    ((step s p kn .stopHeld).1.st.status = .stopped ∨
      (s.stopHang = true ∧ (step s p kn .stopHeld).1.st.status = .stopping ∧
        (step s p kn .stopHeld).1.st.stopHang = true)) :=
  stopOp_reaches_stopped_or_hangs s p kn .stopHeld (Or.inr rfl) l hp

theorem stopHeld_reaches_stopped (s : St) (p : Parked) (kn : Nat → Bool) (l : Life s)
    (hp : s.panicked = none) (hh : s.stopHang = false) :
    (step s p kn .stopHeld).1.st.status = .stopped := stopOp_reaches_stopped s p kn .stopHeld (Or.inr rfl) l hp hh

/-- **stop_withdraws_verify** (fix for finding C04-F6).  For **every** state — no invariant, panicked or
not, any gates, any parked message — the state the handler of the stop command leaves, and the state at the
end of the whole step (after the worker completions and the delivery of a parked message), has
`doVerify = false`; for `Op.stop` and for `Op.stopHeld`.  (Nothing but the verify command sets the flag:
`PAdv.dv` of `runWorkers_pb`.) -/
theorem stop_withdraws_verify (s : St) (p : Parked) (kn : Nat → Bool) :
    ((handle s p kn .stop).1.1.doVerify = false ∧ (step s p kn .stop).1.st.doVerify = false) ∧
    ((handle s p kn .stopHeld).1.1.doVerify = false ∧ (step s p kn .stopHeld).1.st.doVerify = false) :=
  ⟨stopOp_withdraws_verify s p kn .stop (Or.inl rfl), stopOp_withdraws_verify s p kn .stopHeld (Or.inr rfl)⟩

/-- **stop_during_requested_verify_ends_stopped** (the point of finding C04-F6).  A verification has been
requested (`doVerify = true`) and is on its way — the torrent is `Stopping` (the stop the verify command
triggered has not completed), `Allocating` or `Verifying` (the restart is running, possibly held by the open
or the read gate, which `Op.stopHeld` leaves alone).  Then the stop command — `Op.stopHeld`, or `Op.stop` —
ends with the status `Stopped`, or `Stopping` while a tracker does not answer the `stopped` event
(`stopHang` was and is set); never `Verifying` or `Allocating` again; no allocator and no verifier is left;
and `doVerify = false`, so no later `handleStopped` restarts the torrent.  Before the fix `handleStopped`
saw the flag and restarted the torrent to verify: the user's stop was overridden.

Hypotheses really needed: the lifecycle invariant and `panicked = none` — the same as for
`stop_reaches_stopped_or_hangs`; the two that describe the scenario (`_hdv`, `_hst`) are not used: the
statement holds in every status and whatever `doVerify` was, for any gates. -/
theorem stop_during_requested_verify_ends_stopped (s : St) (p : Parked) (kn : Nat → Bool) (op : Op)
    (hop : op = .stopHeld ∨ op = .stop) (l : Life s) (hp : s.panicked = none) (_hdv : s.doVerify = true)
    (_hst : s.status = .stopping ∨ s.status = .allocating ∨ s.status = .verifying) :
    ((step s p kn op).1.st.status = .stopped ∨
      (s.stopHang = true ∧ (step s p kn op).1.st.status = .stopping ∧ (step s p kn op).1.st.stopHang = true)) ∧
    (step s p kn op).1.st.status ≠ .verifying ∧ (step s p kn op).1.st.status ≠ .allocating ∧
    (step s p kn op).1.st.doVerify = false ∧
    (step s p kn op).1.st.allocator = false ∧ (step s p kn op).1.st.verifier = false :=
  stopOp_ends_stopped s p kn op hop.symm l hp

/-- **waitstop_reaches_stopped.** `Op.waitstop` (TrackerStopTimeout has passed) and the worker completions
after it: a stopping (or stopped) torrent without a pending verify is `Stopped`, whatever `stopHang` was. -/
theorem waitstop_reaches_stopped (s : St) (p : Parked) (kn : Nat → Bool) (l : Life s)
    (hp : s.panicked = none) (hv : s.doVerify = false) (hs : s.status = .stopping ∨ s.status = .stopped) :
    (step s p kn .waitstop).1.st.status = .stopped ∧ (step s p kn .waitstop).1.st.doVerify = false :=
  Rain.Loop.waitstop_reaches_stopped s p kn l hp hv hs

/-- `stop`, then the stop timeout: `Stopped` in every case, provided the first step did not panic. -/
theorem stop_waitstop_reaches_stopped (s : St) (p : Parked) (kn kn' : Nat → Bool) (l : Life s)
    (hp : s.panicked = none) (hp' : (step s p kn .stop).1.st.panicked = none) :
    (step (step s p kn .stop).1.st (step s p kn .stop).2 kn' .waitstop).1.st.status = .stopped :=
  stopOp_waitstop_reaches_stopped s p kn kn' .stop (Or.inl rfl) l hp hp'

/-- … and for `Op.stopHeld`. -/
theorem stopHeld_waitstop_reaches_stopped (s : St) (p : Parked) (kn kn' : Nat → Bool) (l : Life s)
    (hp : s.panicked = none) (hp' : (step s p kn .stopHeld).1.st.panicked = none) :
    (step (step s p kn .stopHeld).1.st (step s p kn .stopHeld).2 kn' .waitstop).1.st.status = .stopped :=
  Rain.Loop.stopOp_waitstop_reaches_stopped s p kn kn' .stopHeld (Or.inr rfl) l hp hp'

/-- **start_not_dropped** (fix for finding C04-F3).  For *every* state — stopped, stopping with or without a
tracker that hangs, running, panicked or not — after `start()` the torrent is neither stopped nor stopping
(`errC` set, no stop announcer).  If it was already running, `start()` changed nothing; otherwise it did its
work: the last error is forgotten and the allocator, the verifier or the acceptor exists. -/
theorem start_not_dropped (m : M) :
    ((start m).1.errC = true ∧ (start m).1.stopAnn = false) ∧
    ((start m).1.status ≠ .stopped ∧ (start m).1.status ≠ .stopping) ∧
    ((m.1.errC = true ∧ m.1.stopAnn = false) → start m = m) ∧
    ((m.1.errC = false ∨ m.1.stopAnn = true) →
      (start m).1.lastErr = false ∧
      ((start m).1.allocator = true ∨ (start m).1.verifier = true ∨ (start m).1.acceptor = true)) := by
  have hr := start_running m
  refine ⟨hr, ⟨?_, ?_⟩, fun h => start_of_running m h.1 h.2, start_starts m⟩
  · rw [Ne, status_stopped_iff, hr.1]; simp
  · rw [Ne, status_stopping_iff, hr.2]; simp

/-- **start_while_stopping.** The case the finding was about, under the lifecycle invariant: a start while
the torrent is `Stopping` (`stopAnn`) closes the stop announcer — also one waiting for a hanging tracker —
finishes the stop, and starts again: status `Allocating` (metadata known) or `DownloadingMetadata`; nothing
panics; a pending verify only drops the bitfield. -/
theorem start_while_stopping (m : M) (l : Life m.1) (hs : m.1.stopAnn = true) :
    (start m).1.status = (if m.1.info then .allocating else .dlmeta) ∧
    (start m).1.stopHang = false ∧ (start m).1.panicked = m.1.panicked ∧ (start m).1.lastErr = false ∧
    (start m).1.doVerify = m.1.doVerify ∧ (start m).1.bf = (if m.1.doVerify then none else m.1.bf) :=
  Rain.Loop.start_while_stopping m l hs

/-- **verify_ends_stopped.** The verify command on a stopped torrent (metadata known, storage not failing,
trackers answering): within the op the files are opened and — if at least one of them existed — verified, and
the torrent is `Stopped` again with the verify flag cleared. -/
theorem verify_ends_stopped (s : St) (p : Parked) (kn : Nat → Bool) (l : Life s) (he : s.errC = false)
    (hi : s.info = true) (hp : s.panicked = none) (hf : s.failOpen = false)
    (hh : s.stopHang = false) :
    (step s p kn .verify).1.st.status = .stopped ∧ (step s p kn .verify).1.st.doVerify = false :=
  Rain.Loop.verify_ends_stopped s p kn l he hi hp hf hh

/-- **verify_without_files_ends_stopped** (fix for finding C04-F4; the case the property text names).  The
verify command on a stopped torrent of which **no** data file exists (metadata known, storage not failing,
trackers answering, not panicked): the files are created, there is nothing to verify, and the op ends
`Stopped` with the verify flag cleared — the torrent does not start downloading. -/
theorem verify_without_files_ends_stopped (s : St) (p : Parked) (kn : Nat → Bool) (l : Life s) (he : s.errC = false)
    (hi : s.info = true) (hp : s.panicked = none) (hf : s.failOpen = false) (_hnf : ¬ SomeFileExists s)
    (hh : s.stopHang = false) :
    (step s p kn .verify).1.st.status = .stopped ∧ (step s p kn .verify).1.st.doVerify = false :=
  Rain.Loop.verify_ends_stopped s p kn l he hi hp hf hh

/-- The same without the assumption about the trackers: verified, flag cleared, `Stopped` — or `Stopping`
with the stop announcer waiting for a tracker that does not answer. -/
theorem verify_ends_stopped_or_hangs (s : St) (p : Parked) (kn : Nat → Bool) (l : Life s) (he : s.errC = false)
    (hi : s.info = true) (hp : s.panicked = none) (hf : s.failOpen = false) :
    (step s p kn .verify).1.st.doVerify = false ∧
    ((step s p kn .verify).1.st.status = .stopped ∨
      (s.stopHang = true ∧ (step s p kn .verify).1.st.status = .stopping ∧
        (step s p kn .verify).1.st.stopHang = true)) :=
  verifyOp_ends_of_stopped s p kn .verify (Or.inl rfl) l he hi hp hf

/-- **verify_from_running_ends_stopped.** The verify command on a torrent that is *not* stopped — any other
status: downloading, seeding, allocating or verifying behind a gate, fetching nothing but already stopping —
with the metadata known, the storage not failing and every tracker answering: the command stops the torrent,
the completed stop restarts it without its bitfield (`handleStopped` sees `doVerify`), the files are re-opened
and verified (if none existed the allocation result ends the verification: fix C04-F4), and the op ends
`Stopped` with the verify flag cleared.
(`verify_running_magnet_not_stopped` below: false without the metadata.) -/
theorem verify_from_running_ends_stopped (s : St) (p : Parked) (kn : Nat → Bool) (l : Life s) (he : s.errC = true)
    (hi : s.info = true) (hp : s.panicked = none) (hf : s.failOpen = false)
    (hh : s.stopHang = false) :
    (step s p kn .verify).1.st.status = .stopped ∧ (step s p kn .verify).1.st.doVerify = false :=
  Rain.Loop.verify_from_running_ends_stopped s p kn l he hi hp hf hh

/-- The same without the assumption about the trackers: `Stopped` with the flag cleared — or a tracker does
not answer the `stopped` event and the torrent is `Stopping` with the verify still pending. -/
theorem verify_from_running_ends_stopped_or_hangs (s : St) (p : Parked) (kn : Nat → Bool) (l : Life s)
    (he : s.errC = true) (hi : s.info = true) (hp : s.panicked = none) (hf : s.failOpen = false) :
    ((step s p kn .verify).1.st.status = .stopped ∧ (step s p kn .verify).1.st.doVerify = false) ∨
    (s.stopHang = true ∧ (step s p kn .verify).1.st.status = .stopping ∧
      (step s p kn .verify).1.st.stopHang = true ∧ (step s p kn .verify).1.st.doVerify = true) :=
  (he ▸ verifyOp_ends s p kn .verify (Or.inl rfl) l hi hp hf : Ends s.stopHang true _)

/-- The two verify theorems for `Op.verifyHeld` (the verify command given while the harness leaves the storage
gates as they are): the op does not release the gates, so that they are released is a hypothesis.  With a gate
held the op ends `Allocating` / `Verifying` with the request pending — the situation in which finding C04-F6
arose (examples at the end of the file). -/
theorem verifyHeld_ends_stopped_or_hangs (s : St) (p : Parked) (kn : Nat → Bool) (l : Life s) (he : s.errC = false)
    (hi : s.info = true) (hp : s.panicked = none) (hf : s.failOpen = false)
    (hgo : s.gateOpen = false) (hgr : s.gateRead = false) :
    (step s p kn .verifyHeld).1.st.doVerify = false ∧
    ((step s p kn .verifyHeld).1.st.status = .stopped ∨
      (s.stopHang = true ∧ (step s p kn .verifyHeld).1.st.status = .stopping ∧
        (step s p kn .verifyHeld).1.st.stopHang = true)) :=
  verifyOp_ends_of_stopped s p kn .verifyHeld (Or.inr ⟨rfl, hgo, hgr⟩) l he hi hp hf

theorem verifyHeld_from_running_ends_stopped_or_hangs (s : St) (p : Parked) (kn : Nat → Bool) (l : Life s)
    (he : s.errC = true) (hi : s.info = true) (hp : s.panicked = none) (hf : s.failOpen = false)
    (hgo : s.gateOpen = false) (hgr : s.gateRead = false) :
    ((step s p kn .verifyHeld).1.st.status = .stopped ∧ (step s p kn .verifyHeld).1.st.doVerify = false) ∨
    (s.stopHang = true ∧ (step s p kn .verifyHeld).1.st.status = .stopping ∧
      (step s p kn .verifyHeld).1.st.stopHang = true ∧ (step s p kn .verifyHeld).1.st.doVerify = true) :=
  (he ▸ verifyOp_ends s p kn .verifyHeld (Or.inr ⟨rfl, hgo, hgr⟩) l hi hp hf : Ends s.stopHang true _)

/-- … and the pending verify of the second case runs to the end when the stop timeout passes
(`Op.waitstop`), the storage gates being released: `Stopped`, flag cleared. -/
theorem pending_verify_waitstop (s : St) (p : Parked) (kn : Nat → Bool) (l : Life s)
    (hs : s.stopAnn = true) (hdv : s.doVerify = true) (hi : s.info = true) (hp : s.panicked = none)
    (hf : s.failOpen = false) (hgo : s.gateOpen = false) (hgr : s.gateRead = false) :
    (step s p kn .waitstop).1.st.status = .stopped ∧ (step s p kn .waitstop).1.st.doVerify = false :=
  waitstop_ends s p kn ⟨l, .of_stopping fun _ => ⟨l.sa hs, hs⟩, hp, fun hd => Bool.noConfusion (hd.symm.trans hdv),
    fun _ => ⟨hi, hf, hgo, hgr⟩⟩

/-- Counterexample to `verify_from_running_ends_stopped` without `info` (a magnet torrent that is still
fetching its metadata): the verify stops it, the pending verify restarts it, and it is fetching metadata
again with the flag still set.  The request is not lost: when the metadata arrives the allocation result
finds the flag (`no_stale_verify_flag` and the examples after it). -/
theorem verify_running_magnet_not_stopped :
    let c : Cfg := { pl := 16384, plens := [16384], blocks := [[(0, 16384)]], flens := [16384], fpads := [false], fnames := ["t"] }
    let s : St := { cfg := c, info := false, infoAtAdd := false, errC := true, acceptor := true,
                    fileExists := [true], known := [true] }
    (step s none (fun _ => false) .verify).1.st.status = .dlmeta ∧
    (step s none (fun _ => false) .verify).1.st.doVerify = true := by decide

/-- **no_stale_verify_flag_step.**  The invariant behind `no_stale_verify_flag`, for one event from any state
(any op, any parameters, any parked message): `DV s` — while `doVerify` is set the torrent is stopping, or it
has no bitfield and its allocator or its verifier is running, or it is still fetching its metadata. -/
theorem no_stale_verify_flag_step (s : St) (p : Parked) (kn : Nat → Bool) (op : Op) (h : DV s) :
    DV (step s p kn op).1.st := step_dv s p kn op h

/-- **no_stale_verify_flag** (fix of finding C04-F4).  Along every history from a freshly added
torrent without a pending verification — any events with any parameters, any gates, mutations of the files,
verify commands at any time, magnet links included; the implementation's piece choices accepted by
`reconcile` (`drunAdmissible`, as in `life_invariant_run`) — a set `doVerify` means that the verification is
on its way: the status is `Stopping`, `Allocating`, `Verifying` or `DownloadingMetadata`, in particular never
`Downloading` and never `Seeding`: a verification request is never forgotten while the torrent runs normally.
(Before the fix: false, `verify` on a stopped torrent without files ended `Downloading` with the flag set.) -/
theorem no_stale_verify_flag (s0 : St) (h0 : InitLike s0) (hv : s0.doVerify = false) (evs : List Ev)
    (ha : drunAdmissible (s0, none) evs) (hd : (drun (s0, none) evs).1.doVerify = true) :
    ((drun (s0, none) evs).1.status ≠ .downloading ∧ (drun (s0, none) evs).1.status ≠ .seeding) ∧
    ((drun (s0, none) evs).1.status = .stopping ∨ (drun (s0, none) evs).1.status = .allocating ∨
      (drun (s0, none) evs).1.status = .verifying ∨ (drun (s0, none) evs).1.status = .dlmeta) := by
  have h := (drun_dv evs (s0, none) (DV.of_false hv)).status (drun_life evs (s0, none) h0.life ha) hd
  refine ⟨?_, h⟩
  rcases h with h | h | h | h <;> rw [h] <;> exact ⟨by decide, by decide⟩

/-- The `Downloading` half needs no hypothesis on the implementation's choices at all (`Seeding` needs the
lifecycle invariant: no metadata ⇒ not completed). -/
theorem no_stale_verify_flag_downloading (s0 : St) (hv : s0.doVerify = false) (evs : List Ev)
    (hd : (drun (s0, none) evs).1.doVerify = true) : (drun (s0, none) evs).1.status ≠ .downloading :=
  (drun_dv evs (s0, none) (DV.of_false hv)).not_downloading hd

/-- **no_panic_partial.** Handler by handler: under the stated clause of the loop invariant the handler
reaches none of Go's panic sites.  (`start` — also while stopping —, `handleStopped`: no worker left over; `checkCompletion`: a
bitfield, `completeC` closed only if completed; piece messages: the piece is not being written; write done:
the job's piece is not yet held; metadata: no allocator; replay of queued messages: queues hold only
messages that need the metadata.)  Handlers not listed have no panic site (`…_panicked` frame lemmas). -/
theorem no_panic_partial :
    (∀ m : M, ((m.1.errC = false ∨ m.1.stopAnn = true) → m.1.allocator = false ∧ m.1.verifier = false) →
        (start m).1.panicked = m.1.panicked) ∧
    (∀ m : M, (m.1.allocator = false ∧ m.1.verifier = false) → (handleStopped m).1.panicked = m.1.panicked) ∧
    (∀ m : M, (m.1.errC = false → m.1.allocator = false ∧ m.1.verifier = false) →
        (handleVerifyCommand m).1.panicked = m.1.panicked) ∧
    (∀ (s : St) (e : Bool), (s.stop e).panicked = s.panicked) ∧
    (∀ s : St, (s.completed = true ∨ s.bf.isSome = true) → (s.completeCClosed = true → s.completed = true) →
        s.checkCompletion.1.panicked = s.panicked) ∧
    (∀ (m : M) (k : Nat) (msg : Msg), (∀ i b l g, msg = .piece i b l g → m.1.wflag.getD i false = false) →
        (handlePeerMessage m k msg).1.panicked = m.1.panicked) ∧
    (∀ m : M, QueueOK m.1 → (processQueued m).1.panicked = m.1.panicked ∧ QueueOK (processQueued m).1) ∧
    (∀ (m : M) (w : WriteJob),
        (w.good = true → w.gen = m.1.gen → m.1.loaded = true → ∃ b, m.1.bf = some b ∧ b.getD w.piece false = false) →
        (m.1.completeCClosed = true → m.1.completed = true) → (writerRun m w).1.panicked = m.1.panicked) ∧
    (∀ m : M, m.1.completeCClosed = m.1.completed → QueueOK m.1 → (allocatorRun m).1.panicked = m.1.panicked) ∧
    (∀ m : M, m.1.completeCClosed = m.1.completed → QueueOK m.1 → m.1.panicked = none →
        (handleVerificationDone m).1.panicked = none) ∧
    (∀ (m : M) (k i len : Nat) (g : Bool), m.1.allocator = false →
        (handleMetadataData m k i len g).1.panicked = m.1.panicked) :=
  ⟨start_no_panic, handleStopped_no_panic, handleVerifyCommand_no_panic, stop_panicked, checkCompletion_no_panic,
    handlePeerMessage_no_panic, processQueued_no_panic, writerRun_no_panic, allocatorRun_no_panic,
    handleVerificationDone_no_panic, handleMetadataData_no_panic⟩

/-- The statement without further hypotheses: no history from a freshly added torrent ever sets `panicked`.
It is **false** as stated (`no_panic_full_false`): two hypotheses are missing, each with a concrete panicking
history below (section `Witnesses`).  The true statement is `no_panic_full_partial`. -/
def no_panic_full : Prop :=
  ∀ (s0 : St), InitLike s0 → s0.panicked = none → ∀ evs : List Ev, drunAdmissible (s0, none) evs →
    (drun (s0, none) evs).1.panicked = none

/-- **no_panic_full_partial** (the inductive theorem; `no_panic_full` under two explicit, decidable extra hypotheses).
From a freshly added torrent (`InitLike`) that is not panicked, with

* no piece write *from a future generation of pieces* in flight in the initial state (`InitLike` does not say
  so; every state the driver starts from has no write in flight at all),
* every choice of the implementation accepted by the model — piece downloads (`drunAdmissible`, `reconcile`
  reports no error) **and metadata downloads** (`drunAdmissibleI`, `reconcileIdl` reports no
  error: exactly the runs on which the driver reports neither C09 nor C13),

no history — any events, any parameters, any gates, any interleaving of worker completions — reaches one of
Go's panic sites (`crash(…)`, close of the closed `completeC`, nil bitfield).  Proof: the invariant
`Full = Life ∧ CompInv ∧ WInv` (`Lemmas/LoopWInv*.lean`) is inductive and implies each handler's local
precondition of `no_panic_partial`. -/
theorem no_panic_full_partial (s0 : St) (h0 : InitLike s0) (hp : s0.panicked = none)
    (hw : ∀ w, s0.writing = some w → w.gen ≤ s0.gen)
    (evs : List Ev) (ha : drunAdmissible (s0, none) evs) (hi : drunAdmissibleI (s0, none) evs) :
    (drun (s0, none) evs).1.panicked = none :=
  (drun_full evs (s0, none) (h0.full hw) ha hi).2 hp

/-- The same for one event from any state satisfying the invariant (any parked message, any parameters). -/
theorem no_panic_step (s : St) (p : Parked) (kn : Nat → Bool) (op : Op) (h : Full s) (hp : s.panicked = none) :
    (step s p kn op).1.st.panicked = none ∧ Full (step s p kn op).1.st :=
  ⟨(step_full s p kn op h).2 hp, (step_full s p kn op h).1⟩

/-- The write/download invariant along whole histories (what the proof of `no_panic_full_partial` carries). -/
theorem write_invariant_run (s0 : St) (h0 : InitLike s0) (hw : ∀ w, s0.writing = some w → w.gen ≤ s0.gen)
    (evs : List Ev) (ha : drunAdmissible (s0, none) evs)
    (hi : drunAdmissibleI (s0, none) evs) : WInv (drun (s0, none) evs).1 :=
  (drun_full evs (s0, none) (h0.full hw) ha hi).1.w

/-- **stale_write_result_ignored** (fix for finding C04-F9).  The result of a write that was started in an earlier
run of the torrent — the job's generation is not the current one, or no pieces are loaded (stopped, maybe started
again, while the piece was being written or its result was held) —, good hash, with or without a write error:
`handlePieceWriteDone` does nothing but forget the job and (same generation) clear its `Writing` flag.  Nothing
else of the state changes — no bit, no `done`, no stop, no message, no panic: in particular not the nil-bitfield
panic of the crash seed "piece written, result delivered after stop + restart". -/
theorem stale_write_result_ignored (m : M) (w : WriteJob) (e : Bool) (hg : w.good = true)
    (hst : w.gen ≠ m.1.gen ∨ m.1.loaded = false) :
    handlePieceWriteDone m w e =
      ({ m.1 with writing := none,
                  wflag := if w.gen = m.1.gen then setAt m.1.wflag w.piece false else m.1.wflag }, m.2) := by
  rw [handlePieceWriteDone_eq]
  dsimp only
  rw [if_neg (by simp [hg])]
  rw [if_pos]
  · rfl
  · rcases hst with h | h
    · simp [pwdReset, h]
    · simp [pwdReset, h]

/-- … in particular it keeps `panicked`, `bf`, `done`, `persisted`, the lifecycle and the outputs, whatever the state. -/
theorem stale_write_result_ignored_fields (m : M) (w : WriteJob) (e : Bool) (hg : w.good = true)
    (hst : w.gen ≠ m.1.gen ∨ m.1.loaded = false) :
    (handlePieceWriteDone m w e).1.panicked = m.1.panicked ∧ (handlePieceWriteDone m w e).1.bf = m.1.bf ∧
    (handlePieceWriteDone m w e).1.done = m.1.done ∧ (handlePieceWriteDone m w e).1.persisted = m.1.persisted ∧
    (handlePieceWriteDone m w e).1.status = m.1.status ∧ (handlePieceWriteDone m w e).1.writing = none ∧
    (handlePieceWriteDone m w e).2 = m.2 := by
  rw [stale_write_result_ignored m w e hg hst]
  exact ⟨rfl, rfl, rfl, rfl, rfl, rfl, rfl⟩

/-- `stop`, then the stop timeout: `Stopped` in every case along a history — the extra hypothesis of
`stop_waitstop_reaches_stopped` (the first step does not panic) is discharged by the invariant. -/
theorem stop_waitstop_reaches_stopped_full (s : St) (p : Parked) (kn kn' : Nat → Bool) (h : Full s)
    (hp : s.panicked = none) :
    (step (step s p kn .stop).1.st (step s p kn .stop).2 kn' .waitstop).1.st.status = .stopped :=
  stopOp_waitstop_reaches_stopped s p kn kn' .stop (Or.inl rfl) h.life hp ((step_full s p kn .stop h).2 hp)

/-! ### `StopAfterMetadata` and the piece-count limit: what the completion of the metadata download starts -/

/-- **stop_after_metadata_stops, handler form.**  `AddTorrentOptions.StopAfterMetadata`: the message that
completes a metadata download with the right hash (`HmdComplete`) on a running torrent whose info dictionary
is acceptable adopts the metadata and stops the torrent (`stopAndSetStoppedOnMetadata`) instead of starting
the allocator: `Stopping`, no error, no allocator, no verifier, nothing loaded, every peer closed (however
many were connected), no download, no permission to start one, no new panic.  No invariant is assumed. -/
theorem stop_after_metadata_stops_handler (m : M) (d : IDl) (k i len : Nat) (good : Bool)
    (he : m.1.errC = true) (hs : m.1.stopAnn = false) (hc : HmdComplete m d k i len good)
    (hsam : m.1.cfg.stopAfterMeta = true) (hn : m.1.cfg.n ≤ m.1.cfg.maxPieces) (hp : m.1.cfg.isPrivate = false) :
    (handleMetadataData m k i len good).1.info = true ∧
    (handleMetadataData m k i len good).1.status = .stopping ∧
    (handleMetadataData m k i len good).1.lastErr = false ∧
    (handleMetadataData m k i len good).1.allocator = false ∧
    (handleMetadataData m k i len good).1.verifier = false ∧
    (handleMetadataData m k i len good).1.loaded = false ∧
    (handleMetadataData m k i len good).1.peers = [] ∧
    (handleMetadataData m k i len good).1.dls = [] ∧
    (handleMetadataData m k i len good).1.mayStart = [] ∧
    (handleMetadataData m k i len good).1.panicked = m.1.panicked := by
  rw [handleMetadataData_complete m d k i len good hc]
  obtain ⟨f1, _, f3, f4, f5, f6, f7, f8, f9, _, f11, f12⟩ :=
    hmdAdopt_stopAfter_fields (hmdStored m d k i good) hn hp hsam ⟨he, hs⟩
  exact ⟨f1, f3, f4, f5, f6, f7, f8, f9, f11, f12⟩

/-- **stop_after_metadata_stops.**  The whole step (handler, workers, parked message), from any state of the
invariant `Full` with any number of peers connected: with `StopAfterMetadata` the event that completes the
metadata download ends with the metadata adopted and the status `Stopped` — or `Stopping` if a tracker does
not answer the `stopped` event — never `Allocating`, `Verifying` or `Downloading`; no allocator, no verifier,
nothing loaded, no peers, no downloads, no panic.  Hypotheses: no verify command is pending (`doVerify`; a
pending verify turns this stop — the loop's own, not the stop command, which withdraws the request — into a
restart: witness below) and the loop has not panicked. -/
theorem stop_after_metadata_stops (s : St) (p : Parked) (kn : Nat → Bool) (d : IDl) (k i len : Nat) (good : Bool)
    (h : Full s) (hpan : s.panicked = none) (hdv : s.doVerify = false)
    (hk : (s.findPeer k).isSome = true) (hc : HmdComplete (s, []) d k i len good)
    (hsam : s.cfg.stopAfterMeta = true) (hn : s.cfg.n ≤ s.cfg.maxPieces) (hp : s.cfg.isPrivate = false) :
    (step s p kn (.metadata k i len good)).1.st.info = true ∧
    ((step s p kn (.metadata k i len good)).1.st.status = .stopped ∨
      (s.stopHang = true ∧ (step s p kn (.metadata k i len good)).1.st.status = .stopping)) ∧
    (step s p kn (.metadata k i len good)).1.st.allocator = false ∧
    (step s p kn (.metadata k i len good)).1.st.verifier = false ∧
    (step s p kn (.metadata k i len good)).1.st.loaded = false ∧
    (step s p kn (.metadata k i len good)).1.st.peers = [] ∧
    (step s p kn (.metadata k i len good)).1.st.dls = [] ∧
    (step s p kn (.metadata k i len good)).1.st.doVerify = false ∧
    (step s p kn (.metadata k i len good)).1.st.panicked = none := by
  obtain ⟨he, hi⟩ := step_metadata_ends s p kn d k i len good h.life hpan hdv hk hc (Or.inr ⟨hn, hp, hsam⟩)
  obtain ⟨i1, i2, i3, _, _, i6, i7, _⟩ := (step_life s p kn _ h.life).idle he.not_running
  rw [if_neg fun h1 => h1.elim (Nat.not_lt.2 hn) fun h1 => Bool.noConfusion (hp.symm.trans h1)] at hi
  exact ⟨hi, he.withdrawn.2.imp_right fun x => ⟨x.1, x.2.1⟩, i1, i2, i3, i6, i7, he.withdrawn.1,
    (step_full s p kn _ h).2 hpan⟩

/-- **metadata_adopted_starts_allocator.**  The complement: the allocator is started by the completion of
the metadata download exactly when the info dictionary is acceptable (`n ≤ maxPieces`, not private) and
`StopAfterMetadata` is off.  Handler form; `Allocating` is then the status (the torrent was running), and
there is no panic unless an allocator existed already (excluded by `Life.ni` between events). -/
theorem metadata_adopted_starts_allocator (m : M) (d : IDl) (k i len : Nat) (good : Bool)
    (he : m.1.errC = true) (hs : m.1.stopAnn = false) (ha : m.1.allocator = false)
    (hc : HmdComplete m d k i len good) :
    ((handleMetadataData m k i len good).1.allocator = true ↔
      (m.1.cfg.n ≤ m.1.cfg.maxPieces ∧ m.1.cfg.isPrivate = false ∧ m.1.cfg.stopAfterMeta = false)) ∧
    ((m.1.cfg.n ≤ m.1.cfg.maxPieces ∧ m.1.cfg.isPrivate = false ∧ m.1.cfg.stopAfterMeta = false) →
      (handleMetadataData m k i len good).1.info = true ∧
      (handleMetadataData m k i len good).1.status = .allocating ∧
      (handleMetadataData m k i len good).1.panicked = m.1.panicked) := by
  rw [handleMetadataData_complete m d k i len good hc]
  have hr : Running (hmdStored m d k i good).1 := ⟨he, hs⟩
  have hfwd := fun h : m.1.cfg.n ≤ m.1.cfg.maxPieces ∧ m.1.cfg.isPrivate = false ∧ m.1.cfg.stopAfterMeta = false =>
    hmdAdopt_started_fields (hmdStored m d k i good) h.1 h.2.1 h.2.2 hr ha
  exact ⟨⟨hmdAdopt_allocator_only_if _ hr, fun h => (hfwd h).2.1⟩, fun h => ⟨(hfwd h).1, (hfwd h).2.2⟩⟩

/-- **startDls_noop_unloaded** (the crash scenario of finding C08-F5: `closePeer` → `startPieceDownloaders`
without a piece picker).  In every state the loop is in between two events (`Life`), while no pieces are
loaded `startPieceDownloaders` does nothing at all, and closing a peer neither creates a download nor grants
a permission to start one.  In no state whatever does `startDls` or `closePeer` create a download: in the model
downloads are only adopted by `reconcile`, and only if pieces are loaded (`no_download_unloaded`). -/
theorem startDls_noop_unloaded (s : St) (l : Life s) (hl : s.loaded = false) :
    s.startDls = s ∧ ∀ k, (∀ x ∈ (s.closePeer k).dls, x ∈ s.dls) ∧ (∀ x ∈ (s.closePeer k).mayStart, x ∈ s.mayStart) :=
  ⟨startDls_noop_of_status s (l.not_downloading_unloaded hl), fun k =>
    ⟨(closePeer_dls_idls_subset s k).1, closePeer_mayStart_of_status s k (l.not_downloading_unloaded hl)⟩⟩

theorem startDls_never_starts_download (s : St) :
    s.startDls.dls = s.dls ∧ ∀ k, ∀ x ∈ (s.closePeer k).dls, x ∈ s.dls :=
  ⟨by simp, fun k => (closePeer_dls_idls_subset s k).1⟩

/-- While no pieces are loaded an error-free `reconcile` adopts no new download, whatever `mayStart` says. -/
theorem no_download_unloaded (s : St) (impl : List ImplDl) (hl : s.loaded = false) (he : (reconcile s impl).2 = []) :
    ∀ x ∈ (reconcile s impl).1.dls, x ∈ s.dls := by
  intro x hx
  rcases reconcile_dls s impl he x hx with h | ⟨_, h, _⟩
  · exact h
  · rw [hl] at h; cases h

/-! Non-vacuity of `stopped_clean` / `seeding_truthful`: a download that completes, then stops. -/
section Example
private def c1 : Cfg :=
  { pl := 16384, plens := [16384], blocks := [[(0, 16384)]], flens := [16384], fpads := [false], fnames := ["t"] }
private def s1 : St := { cfg := c1, fileExists := [false], known := [false], bad := c1.dataSects }
private def kn (l : List Nat) : Nat → Bool := fun k => l.contains k
private def evs1 : List Ev := [
  ⟨.start, kn [], [], []⟩,
  ⟨.peer 1 "10.0.0.2" true true false, kn [], [], []⟩,
  ⟨.msg 1 .haveAll, kn [1], [], []⟩,
  ⟨.msg 1 .unchoke, kn [1], [⟨1, 0, false, false, false⟩], []⟩,
  ⟨.msg 1 (.piece 0 0 16384 true), kn [1], [], []⟩]

example : (drun (s1, none) evs1).1.status = .seeding ∧ (drun (s1, none) evs1).1.bf = some [true] := by decide
example : (drun (s1, none) (evs1 ++ [⟨.stop, kn [1], [], []⟩])).1.status = .stopped ∧
    (drun (s1, none) (evs1 ++ [⟨.stop, kn [1], [], []⟩])).1.peers = [] := by decide

/-! The case the property text names, on the concrete torrent (one file, nothing on disk): the verify command
ends `Stopped`, flag cleared, the file created, a fresh empty bitfield which is also the resume record.
Before the fix of finding C04-F4 this run ended `Downloading ∧ doVerify = true`. -/
example : (step s1 none (fun _ => false) .verify).1.st.status = .stopped ∧
    (step s1 none (fun _ => false) .verify).1.st.doVerify = false ∧
    (step s1 none (fun _ => false) .verify).1.st.bf = some [false] ∧
    (step s1 none (fun _ => false) .verify).1.st.persisted = some [false] ∧
    (step s1 none (fun _ => false) .verify).1.st.fileExists = [true] ∧ ¬ SomeFileExists s1 := by
  refine ⟨by decide, by decide, by decide, by decide, by decide, ?_⟩
  unfold SomeFileExists; decide

/-! Non-vacuity of `verify_from_running_ends_stopped`: verify on the seeding torrent — stopped, re-verified
(the bitfield is the verifier's), flag cleared; with a hanging tracker: `Stopping`, verify pending, and the
stop timeout completes it. -/
example : (drun (s1, none) (evs1 ++ [⟨.verify, kn [1], [], []⟩])).1.status = .stopped ∧
    (drun (s1, none) (evs1 ++ [⟨.verify, kn [1], [], []⟩])).1.doVerify = false ∧
    (drun (s1, none) (evs1 ++ [⟨.verify, kn [1], [], []⟩])).1.bf = some [true] ∧
    (drun (s1, none) evs1).1.errC = true := by decide
/-- … and on a torrent that is `Downloading` with nothing written yet (its file exists, the allocator created
it; the verifier finds no good piece): `Stopped`, flag cleared. -/
example : (drun (s1, none) (evs1.take 3 ++ [⟨.verify, kn [1], [], []⟩])).1.status = .stopped ∧
    (drun (s1, none) (evs1.take 3 ++ [⟨.verify, kn [1], [], []⟩])).1.doVerify = false ∧
    (drun (s1, none) (evs1.take 3)).1.status = .downloading := by decide
example : (drun ({ s1 with stopHang := true }, none) (evs1 ++ [⟨.verify, kn [1], [], []⟩])).1.status = .stopping ∧
    (drun ({ s1 with stopHang := true }, none) (evs1 ++ [⟨.verify, kn [1], [], []⟩])).1.doVerify = true := by decide
example : (drun ({ s1 with stopHang := true }, none)
      (evs1 ++ [⟨.verify, kn [1], [], []⟩, ⟨.waitstop, kn [1], [], []⟩])).1.status = .stopped ∧
    (drun ({ s1 with stopHang := true }, none)
      (evs1 ++ [⟨.verify, kn [1], [], []⟩, ⟨.waitstop, kn [1], [], []⟩])).1.doVerify = false := by decide

/-! Non-vacuity of the hanging-tracker statements (`stopHang` is set by the driver from the tracker stubs'
state; here it is set in the initial state): stop leaves the torrent `Stopping`; the stop timeout ends it;
a start while stopping restarts it (the download is already complete, so it seeds again). -/
private def s1h : St := { s1 with stopHang := true }
example : (drun (s1h, none) (evs1 ++ [⟨.stop, kn [1], [], []⟩])).1.status = .stopping ∧
    (drun (s1h, none) (evs1 ++ [⟨.stop, kn [1], [], []⟩])).1.peers = [] := by decide
example : (drun (s1h, none) (evs1 ++ [⟨.stop, kn [1], [], []⟩, ⟨.waitstop, kn [1], [], []⟩])).1.status = .stopped := by
  decide
example : (drun (s1h, none) (evs1 ++ [⟨.stop, kn [1], [], []⟩, ⟨.start, kn [1], [], []⟩])).1.status = .seeding ∧
    (drun (s1h, none) (evs1 ++ [⟨.stop, kn [1], [], []⟩, ⟨.start, kn [1], [], []⟩])).1.stopHang = false := by decide
/-- with the allocation gate held, the restarted torrent is seen `Allocating` (`start_while_stopping`) -/
example : (drun (s1h, none) (evs1 ++ [⟨.stop, kn [1], [], []⟩, ⟨.gate .open true, kn [1], [], []⟩,
    ⟨.start, kn [1], [], []⟩])).1.status = .allocating := by decide
end Example

/-! ### Witnesses: why `no_panic_full` needs the two extra hypotheses

Each history W1, W3 below starts from an `InitLike`, unpanicked state, every `reconcile` is error-free
(`drunAdmissible`), and the model panics.  None of them is a run of rain: W1 is flagged by the driver as C13
`metadata-download-inadmissible` (rain's `startInfoDownloaders` returns at once when `t.info != nil`), W3 needs a
torrent object created with a piece write of a future generation already in flight.  (W2 and `sW3o` are
histories that panicked before the fix of finding C04-F9.) -/
section Witnesses
private theorem initLike_of (s : St) (h1 : s.cfg.wfCheck = true) (h2 : s.bad = s.cfg.dataSects) (h3 : s.bf = none)
    (h4 : s.persisted = none) (h5 : s.errC = false) (h6 : s.stopAnn = false) (h7 : s.allocator = false)
    (h8 : s.verifier = false) (h9 : s.loaded = false) (h10 : s.acceptor = false) (h11 : s.openFiles = [])
    (h12 : s.peers = []) (h13 : s.dls = []) (h14 : s.idls = []) (h15 : s.leaked = 0) (h16 : s.completed = false)
    (h17 : s.completeCClosed = false) : InitLike s :=
  ⟨cfgWF_of_check _ h1, badWF_dataSects s h2, h3, h4, h5, h6, h7, h8, h9, h10, h11, h12, h13, h14, h15, h16, h17⟩

/-- W1 — a magnet link; after the metadata has arrived (allocation held by the gate) the "implementation"
starts another metadata download, which `reconcileIdl` rejects but `drunAdmissible` does not look at; its
completion finds the allocator running: `allocator exists`. -/
private def sW1 : St := { s1 with info := false, infoAtAdd := false, isize := 100 }
private def evsW1 : List Ev := [
  ⟨.gate .open true, kn [], [], []⟩,
  ⟨.start, kn [], [], []⟩,
  ⟨.peer 1 "10.0.0.2" true true false, kn [], [], []⟩,
  ⟨.exths 1 true 100 false, kn [1], [], [1]⟩,
  ⟨.metadata 1 0 100 true, kn [1], [], [1]⟩,
  ⟨.metadata 1 0 100 true, kn [1], [], []⟩]
example : (drun (sW1, none) evsW1).1.panicked = some "allocator exists" ∧ drunAdmissible (sW1, none) evsW1 ∧
    sW1.writing = none ∧ sW1.cfg.blocksHaveData = true ∧ ¬ drunAdmissibleI (sW1, none) evsW1 := by decide
example : InitLike sW1 := by apply initLike_of <;> decide

/-- W2 — piece 1 consists of a padding file only but has a block (a configuration
`Cfg.blocksHaveData` rejects).  Its write is held by the gate, a verify runs meanwhile (the verifier finds the
padding piece fine: bit set), then the stale write completes without touching the storage.  Before the fix of
finding C04-F9 it took the success path: `already have the piece`.  The stale result is ignored: no panic. -/
private def cW2 : Cfg :=
  { pl := 16384, plens := [16384, 16384], blocks := [[(0, 16384)], [(0, 16384)]], flens := [16384, 16384],
    fpads := [false, true], fnames := ["t", "pad"] }
private def sW2 : St := { cfg := cW2, fileExists := [false, false], known := [false, false], bad := cW2.dataSects }
private def evsW2 : List Ev := [
  ⟨.start, kn [], [], []⟩,
  ⟨.peer 1 "10.0.0.2" true true false, kn [], [], []⟩,
  ⟨.msg 1 .haveAll, kn [1], [], []⟩,
  ⟨.msg 1 .unchoke, kn [1], [⟨1, 1, false, false, false⟩], []⟩,
  ⟨.gate .write true, kn [1], [⟨1, 1, false, false, false⟩], []⟩,
  ⟨.msg 1 (.piece 1 0 16384 true), kn [1], [], []⟩,
  ⟨.verify, kn [1], [], []⟩,
  ⟨.gate .write false, kn [1], [], []⟩]
example : (drun (sW2, none) evsW2).1.panicked = none ∧ (drun (sW2, none) evsW2).1.writing = none ∧
    (drun (sW2, none) (evsW2.take 7)).1.writing.isSome = true ∧ (drun (sW2, none) (evsW2.take 7)).1.bf = some [false, true] ∧
    drunAdmissible (sW2, none) evsW2 ∧ drunAdmissibleI (sW2, none) evsW2 ∧ sW2.writing = none ∧
    sW2.cfg.blocksHaveData = false := by decide
example : InitLike sW2 := by apply initLike_of <;> decide

/-- `sW3o` — an initial state with a write in flight for a piece without sections: before the fix of
finding C04-F9 its completion at the first event found no bitfield (`handlePieceWriteDone: nil bitfield`); it
is stale (nothing is loaded) and ignored. -/
private def sW3o : St := { s1 with writing := some { piece := 5, src := 0, good := true, gen := 0 } }
example : (drun (sW3o, none) [⟨.nop, kn [], [], []⟩]).1.panicked = none ∧
    (drun (sW3o, none) [⟨.nop, kn [], [], []⟩]).1.writing = none := by decide

/-- W3 — `InitLike` does not exclude an initial state with a write in flight that claims to belong to the *next*
generation of pieces.  The file is on disk and good; the job is held by the write gate; `start`: allocation,
verification — the bit is set, the torrent seeds — and the pieces loaded are of the job's generation; the gate is
released, the job is "current", its piece is written again and the success path finds the bit set:
`already have the piece`.  (No torrent object is created with a write in flight.) -/
private def sW3 : St :=
  { s1 with fileExists := [true], known := [true], bad := [], gateWrite := true,
            writing := some { piece := 0, src := 0, good := true, gen := 1 } }
private def evsW3 : List Ev := [⟨.start, kn [], [], []⟩, ⟨.gate .write false, kn [], [], []⟩]
private theorem w3 : (drun (sW3, none) evsW3).1.panicked = some "already have the piece" ∧
    drunAdmissible (sW3, none) evsW3 ∧ drunAdmissibleI (sW3, none) evsW3 ∧
    sW3.panicked = none ∧ (drun (sW3, none) (evsW3.take 1)).1.status = .seeding := by decide
private theorem initLike_sW3 : InitLike sW3 :=
  ⟨cfgWF_of_check _ (by decide), fun x hx => (by cases hx), rfl, rfl, rfl, rfl, rfl, rfl, rfl, rfl, rfl, rfl, rfl, rfl,
    rfl, rfl, rfl⟩

/-- **`no_panic_full` is false as stated** (witness W3; W1 refutes it as well). -/
theorem no_panic_full_false : ¬ no_panic_full := by
  intro h
  have := h sW3 initLike_sW3 w3.2.2.2.1 evsW3 w3.2.1
  rw [w3.1] at this
  cases this

/-! Non-vacuity of `no_panic_full_partial`: the download of `evs1` (start, peer, have-all, unchoke, block →
verified write → seeding) and the stop after it satisfy every hypothesis. -/
example : InitLike s1 ∧ s1.panicked = none ∧ s1.writing = none ∧
    drunAdmissible (s1, none) (evs1 ++ [⟨.stop, kn [1], [], []⟩]) ∧
    drunAdmissibleI (s1, none) (evs1 ++ [⟨.stop, kn [1], [], []⟩]) :=
  ⟨by apply initLike_of <;> decide, by decide, by decide, by decide, by decide⟩
example : (drun (s1, none) (evs1 ++ [⟨.stop, kn [1], [], []⟩])).1.panicked = none :=
  no_panic_full_partial s1 (by apply initLike_of <;> decide) (by decide) (noFuture_of_none (by decide)) _ (by decide) (by decide)
/-- a magnet link whose metadata arrives (W1 without the inadmissible choice) -/
example : drunAdmissible (sW1, none) (evsW1.take 5 ++ [⟨.gate .open false, kn [1], [], []⟩]) ∧
    (drun (sW1, none) (evsW1.take 5 ++ [⟨.gate .open false, kn [1], [], []⟩])).1.status = .downloading := by decide

/-! Non-vacuity of `no_stale_verify_flag`, the magnet case: `verify` on a torrent that is fetching its
metadata leaves the flag set (`DownloadingMetadata`); a peer delivers the metadata; the allocation finds no
file: fresh bitfield, flag cleared, `Stopped` (before the fix of C04-F4: `Downloading` with the flag set).
With a file on disk the verifier runs (held by the read gate: `Verifying`, flag still set) and ends the
same way. -/
private def evsM : List Ev := [
  ⟨.start, kn [], [], []⟩,
  ⟨.verify, kn [], [], []⟩,
  ⟨.peer 1 "10.0.0.2" true true false, kn [], [], []⟩,
  ⟨.exths 1 true 100 false, kn [1], [], [1]⟩,
  ⟨.metadata 1 0 100 true, kn [1], [], []⟩]
example : InitLike sW1 ∧ sW1.doVerify = false ∧ drunAdmissible (sW1, none) evsM ∧
    (drun (sW1, none) (evsM.take 4)).1.doVerify = true ∧ (drun (sW1, none) (evsM.take 4)).1.status = .dlmeta ∧
    (drun (sW1, none) evsM).1.status = .stopped ∧ (drun (sW1, none) evsM).1.doVerify = false ∧
    (drun (sW1, none) evsM).1.bf = some [false] ∧ (drun (sW1, none) evsM).1.info = true :=
  ⟨by apply initLike_of <;> decide, by decide, by decide, by decide, by decide, by decide, by decide, by decide,
    by decide⟩
private def sW1e : St := { sW1 with fileExists := [true], known := [true] }
private def evsMg : List Ev := evsM.take 4 ++ [⟨.gate .read true, kn [1], [], [1]⟩, ⟨.metadata 1 0 100 true, kn [1], [], []⟩]
example : (drun (sW1e, none) evsMg).1.status = .verifying ∧ (drun (sW1e, none) evsMg).1.doVerify = true ∧
    (drun (sW1e, none) (evsMg ++ [⟨.gate .read false, kn [1], [], []⟩])).1.status = .stopped ∧
    (drun (sW1e, none) (evsMg ++ [⟨.gate .read false, kn [1], [], []⟩])).1.doVerify = false ∧
    (drun (sW1e, none) (evsMg ++ [⟨.gate .read false, kn [1], [], []⟩])).1.bf = some [false] := by decide

/-! Non-vacuity of `stop_after_metadata_stops` (the scenario of finding C08-F5): a magnet link added with
`StopAfterMetadata`, two peers connected, peer 1 delivers the info dictionary.  The state before the event is
reached by an admissible history from an `InitLike` state, so it satisfies `Full`; every other hypothesis is
checked by `decide`; the event ends `Stopped` with the metadata, both peers closed, no allocator, no panic.
Without the option the same history ends `Allocating` (held by the gate) with both peers still connected
(`metadata_adopted_starts_allocator`). -/
private def cS (sam : Bool) : Cfg :=
  { pl := 16384, plens := [16384], blocks := [[(0, 16384)]], flens := [16384], fpads := [false], fnames := ["t"],
    stopAfterMeta := sam }
private def sS (sam : Bool) : St :=
  { cfg := cS sam, info := false, infoAtAdd := false, isize := 100, fileExists := [false], known := [false],
    bad := (cS sam).dataSects }
private def evsS : List Ev := [
  ⟨.gate .open true, kn [], [], []⟩,
  ⟨.start, kn [], [], []⟩,
  ⟨.peer 1 "10.0.0.2" true true false, kn [], [], []⟩,
  ⟨.peer 2 "10.0.0.3" true true false, kn [1], [], []⟩,
  ⟨.exths 1 true 100 false, kn [1, 2], [], [1]⟩]
private def evS : Ev := ⟨.metadata 1 0 100 true, kn [1, 2], [], []⟩

example : Full (drun (sS true, none) evsS).1 :=
  (drun_full evsS (sS true, none) (InitLike.full (by apply initLike_of <;> decide) (noFuture_of_none (by decide)))
    (by decide) (by decide)).1
example : (drun (sS true, none) evsS).1.panicked = none ∧ (drun (sS true, none) evsS).1.doVerify = false ∧
    ((drun (sS true, none) evsS).1.findPeer 1).isSome = true ∧ (drun (sS true, none) evsS).1.peers.length = 2 ∧
    (drun (sS true, none) evsS).1.cfg.stopAfterMeta = true ∧
    (drun (sS true, none) evsS).1.cfg.n ≤ (drun (sS true, none) evsS).1.cfg.maxPieces ∧
    (drun (sS true, none) evsS).1.cfg.isPrivate = false ∧
    ∃ d, HmdComplete ((drun (sS true, none) evsS).1, []) d 1 0 100 true :=
  ⟨by decide, by decide, by decide, by decide, by decide, by decide, by decide,
    ⟨{ k := 1, size := 100, nb := 1, pending := 1, blocks := [none] }, by rfl, by decide, by decide, by decide,
      by decide, by decide⟩⟩
example : (drun (sS true, none) (evsS ++ [evS])).1.status = .stopped ∧ (drun (sS true, none) (evsS ++ [evS])).1.info = true ∧
    (drun (sS true, none) (evsS ++ [evS])).1.lastErr = false ∧ (drun (sS true, none) (evsS ++ [evS])).1.peers = [] ∧
    (drun (sS true, none) (evsS ++ [evS])).1.allocator = false ∧ (drun (sS true, none) (evsS ++ [evS])).1.loaded = false ∧
    (drun (sS true, none) (evsS ++ [evS])).1.bf = none ∧ (drun (sS true, none) (evsS ++ [evS])).1.panicked = none := by
  decide
example : (drun (sS false, none) (evsS ++ [evS])).1.status = .allocating ∧
    (drun (sS false, none) (evsS ++ [evS])).1.info = true ∧ (drun (sS false, none) (evsS ++ [evS])).1.peers.length = 2 := by
  decide
/-- a later `start` of the torrent stopped after its metadata allocates and downloads as usual -/
example : (drun (sS true, none) (evsS ++ [evS, ⟨.gate .open false, kn [], [], []⟩, ⟨.start, kn [], [], []⟩])).1.status
    = .downloading := by decide

/-- Why `stop_after_metadata_stops` assumes `doVerify = false`: with a verify command pending (issued while the
metadata was being fetched) the stop is turned into the restart that runs the verification — `Allocating`
while the gate holds the allocator, the peers of the metadata phase closed — and the torrent is stopped once that
is over (`no_stale_verify_flag`). -/
private def evsV : List Ev := [
  ⟨.start, kn [], [], []⟩,
  ⟨.verify, kn [], [], []⟩,
  ⟨.gate .open true, kn [], [], []⟩,
  ⟨.peer 1 "10.0.0.2" true true false, kn [], [], []⟩,
  ⟨.peer 2 "10.0.0.3" true true false, kn [1], [], []⟩,
  ⟨.exths 1 true 100 false, kn [1, 2], [], [1]⟩]
example : (drun (sS true, none) evsV).1.doVerify = true ∧ (drun (sS true, none) evsV).1.status = .dlmeta ∧
    (drun (sS true, none) evsV).1.peers.length = 2 ∧
    (drun (sS true, none) (evsV ++ [evS])).1.status = .allocating ∧
    (drun (sS true, none) (evsV ++ [evS])).1.peers = [] ∧
    (drun (sS true, none) (evsV ++ [evS, ⟨.gate .open false, kn [], [], []⟩])).1.status = .stopped ∧
    (drun (sS true, none) (evsV ++ [evS, ⟨.gate .open false, kn [], [], []⟩])).1.doVerify = false := by decide

/-- the window of finding C08-F5 in the model: inside the `stop` of `StopAfterMetadata` the metadata is known,
no allocator runs and nothing is loaded — the status function says `Downloading` (so `Life` does not hold
*inside* the handler).  `St.startDls` carries rain's guard `if t.piecePicker == nil { return }` as `s.loaded`
(`startDls_noop_of_unloaded`, any state): `closePeer` there grants no permission and starts nothing. -/
example : ({ (drun (sS true, none) evsS).1 with idls := [], info := true, metaDone := true } : St).status = .downloading ∧
    ({ (drun (sS true, none) evsS).1 with idls := [], info := true, metaDone := true } : St).loaded = false ∧
    (({ (drun (sS true, none) evsS).1 with idls := [], info := true, metaDone := true } : St).closePeer 1).mayStart = [] ∧
    (({ (drun (sS true, none) evsS).1 with idls := [], info := true, metaDone := true } : St).closePeer 1).dls = [] := by
  decide

/-! ### Finding C04-F6: a stop during a requested verification (non-vacuity of `stop_withdraws_verify`,
`stop_during_requested_verify_ends_stopped`, `stopHeld_reaches_stopped_or_hangs`)

The one-file torrent with its file on disk.  The verify command given with the gates left alone
(`Op.verifyHeld`) while the read gate is held leaves the torrent `Verifying` with the request pending; with the
open gate held, `Allocating`; on the seeding torrent whose tracker does not answer, `Stopping`.  All three are
states of the invariant reached by `drun` from an `InitLike` state, so the hypotheses of the theorem are
satisfiable in each of its three statuses.  `Op.stopHeld` then ends `Stopped` (`Stopping` behind the hanging
tracker), flag withdrawn, the held worker dropped; a gate event afterwards / the stop timeout restarts
nothing. -/
private def s1e : St := { s1 with fileExists := [true], known := [true] }
private def evsRV : List Ev := [⟨.gate .read true, kn [], [], []⟩, ⟨.verifyHeld, kn [], [], []⟩]
private def evsRA : List Ev := [⟨.gate .open true, kn [], [], []⟩, ⟨.verifyHeld, kn [], [], []⟩]
private def evsRS : List Ev := evs1 ++ [⟨.verifyHeld, kn [1], [], []⟩]
private def evStopHeld : Ev := ⟨.stopHeld, kn [1], [], []⟩

example : Life (drun (s1e, none) evsRV).1 ∧ Life (drun (s1e, none) evsRA).1 ∧ Life (drun (s1h, none) evsRS).1 :=
  ⟨drun_life _ _ (InitLike.life (by apply initLike_of <;> decide)) (by decide),
   drun_life _ _ (InitLike.life (by apply initLike_of <;> decide)) (by decide),
   drun_life _ _ (InitLike.life (by apply initLike_of <;> decide)) (by decide)⟩
/-- the hypotheses, in the three statuses -/
example : (drun (s1e, none) evsRV).1.status = .verifying ∧ (drun (s1e, none) evsRV).1.doVerify = true ∧
    (drun (s1e, none) evsRV).1.gateRead = true ∧ (drun (s1e, none) evsRV).1.panicked = none ∧
    (drun (s1e, none) evsRA).1.status = .allocating ∧ (drun (s1e, none) evsRA).1.doVerify = true ∧
    (drun (s1e, none) evsRA).1.gateOpen = true ∧ (drun (s1e, none) evsRA).1.panicked = none ∧
    (drun (s1h, none) evsRS).1.status = .stopping ∧ (drun (s1h, none) evsRS).1.doVerify = true ∧
    (drun (s1h, none) evsRS).1.stopHang = true ∧ (drun (s1h, none) evsRS).1.panicked = none := by decide
/-- `Verifying` behind the read gate: `stopHeld` ⇒ `Stopped`, request withdrawn, no verifier (`St.stop` drops
the held worker and with it its gate); a later gate event restarts nothing -/
example : (drun (s1e, none) (evsRV ++ [evStopHeld])).1.status = .stopped ∧
    (drun (s1e, none) (evsRV ++ [evStopHeld])).1.doVerify = false ∧
    (drun (s1e, none) (evsRV ++ [evStopHeld])).1.verifier = false ∧
    (drun (s1e, none) (evsRV ++ [evStopHeld])).1.gateRead = false ∧
    (drun (s1e, none) (evsRV ++ [evStopHeld, ⟨.gate .read false, kn [], [], []⟩])).1.status = .stopped := by decide
/-- `Allocating` behind the open gate -/
example : (drun (s1e, none) (evsRA ++ [evStopHeld])).1.status = .stopped ∧
    (drun (s1e, none) (evsRA ++ [evStopHeld])).1.doVerify = false ∧
    (drun (s1e, none) (evsRA ++ [evStopHeld])).1.allocator = false ∧
    (drun (s1e, none) (evsRA ++ [evStopHeld])).1.gateOpen = false ∧
    (drun (s1e, none) (evsRA ++ [evStopHeld, ⟨.gate .open false, kn [], [], []⟩])).1.status = .stopped := by decide
/-- `Stopping` behind a hanging tracker: `stopHeld` ⇒ still `Stopping`, request withdrawn; the stop timeout ends
`Stopped` — without the `stopHeld` it runs the verification first (same end, bitfield re-verified) -/
example : (drun (s1h, none) (evsRS ++ [evStopHeld])).1.status = .stopping ∧
    (drun (s1h, none) (evsRS ++ [evStopHeld])).1.doVerify = false ∧
    (drun (s1h, none) (evsRS ++ [evStopHeld, ⟨.gate .read true, kn [1], [], []⟩, ⟨.waitstop, kn [1], [], []⟩])).1.status
      = .stopped ∧
    (drun (s1h, none) (evsRS ++ [⟨.gate .read true, kn [1], [], []⟩, ⟨.waitstop, kn [1], [], []⟩])).1.status
      = .verifying := by decide
/-- `verifyHeld_ends_stopped_or_hangs` / `verifyHeld_from_running_ends_stopped_or_hangs`: with the gates
released `Op.verifyHeld` runs the verification to the end, like `Op.verify` -/
example : (step s1e none (fun _ => false) .verifyHeld).1.st.status = .stopped ∧
    (step s1e none (fun _ => false) .verifyHeld).1.st.doVerify = false ∧
    (step s1e none (fun _ => false) .verifyHeld).1.st.bf = some [false] ∧
    (drun (s1, none) (evs1 ++ [⟨.verifyHeld, kn [1], [], []⟩])).1.status = .stopped ∧
    (drun (s1, none) (evs1 ++ [⟨.verifyHeld, kn [1], [], []⟩])).1.bf = some [true] ∧
    (drun (s1, none) evs1).1.gateOpen = false ∧ (drun (s1, none) evs1).1.gateRead = false := by decide
/-- the same with `Op.stop` (gates released by the harness) -/
example : (drun (s1e, none) (evsRV ++ [⟨.stop, kn [], [], []⟩])).1.status = .stopped ∧
    (drun (s1e, none) (evsRV ++ [⟨.stop, kn [], [], []⟩])).1.doVerify = false ∧
    (drun (s1e, none) (evsRV ++ [⟨.stop, kn [], [], []⟩])).1.gateRead = false := by decide
/-- `stop_withdraws_verify` needs no invariant: a panicked state with the flag set -/
example : (step { s1e with doVerify := true, panicked := some "x", errC := true } none (fun _ => false) .stopHeld).1.st.doVerify
    = false := by decide
end Witnesses

end Rain.Props.C04
