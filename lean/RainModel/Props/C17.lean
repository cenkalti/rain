import RainModel.Lemmas.ResourceManager
import RainModel.Model.WebseedCap
import RainModel.Lemmas.TokenBucket
import RainModel.Lemmas.Semaphore
/-! C17 — configured resource limits hold at all times and reservations balance. -/
namespace Rain.Props.C17
open Rain.RM

/-- **rm_balance.** For every limit `≥ 0` and every history of manager events (requests that
are answered or dropped through their cancel channel, deferred grants through the notify branch
for any pickable pending request, cancellations of pending requests, stats queries, releases) in
which only amounts that are currently held are released (each acquisition released at most
once), none of the three `panic` statements of the manager is reached, and after the history
`0 ≤ available ≤ limit`, `available = limit − Σ held amounts` and `objects` = number of held
acquisitions (`balanced`, the predicate suite `rm` evaluates on the implementation's `Stats`). -/
theorem rm_balance (limit : Int) (hl : 0 ≤ limit) (es : List Event) :
    (∀ msg, grun (ginit limit) es ≠ .panic msg) ∧
    (∀ g, grun (ginit limit) es = .ok g → balanced g = true ∧ g.s.limit = limit) := by
  have h := grun_inv es (Inv.init limit)
  refine ⟨h.no_panic, fun g hg => ?_⟩
  have hb := h.ok hg
  refine ⟨?_, hb.lim⟩
  simp only [balanced, Bool.and_eq_true, decide_eq_true_eq, hb.lim]
  exact ⟨⟨⟨by have := hb.bal.low; omega, hb.bal.le_limit⟩, hb.bal.eq⟩, hb.bal.objs⟩

/-- Non-vacuity: limit 10; 6 granted at once, 7 refused and queued, 6 released, 7 granted through
the notify branch, a second queued request (3) cancelled, 7 and 2 released. -/
example : grun (ginit 10)
    [.request ⟨1, 0, 6⟩ true, .request ⟨2, 0, 7⟩ true, .request ⟨3, 1, 2⟩ true, .request ⟨4, 1, 3⟩ true,
     .stats, .release 6, .cancel 1 0, .notify 0 0, .release 7, .release 2] =
    .ok { s := { limit := 10, available := 10, objects := 0, requests := [] },
          out := [], granted := [2, 3, 1], seen := [4, 3, 2, 1] } := by
  decide

/-- **rm_no_double_grant.** In every history (requests carry fresh identities) a request is
granted at most once — either at once by `handleRequest` or later through the notify branch,
never both and never twice: the list of grant events has no duplicate identity, no granted
identity is still pending (so `deleteRequest`'s swap-remove took out exactly the notified
request), and no identity is queued twice. -/
theorem rm_no_double_grant (limit : Int) (es : List Event) (g : G)
    (h : grun (ginit limit) es = .ok g) :
    g.granted.Nodup ∧ (pendingIds g).Nodup ∧ (∀ id ∈ g.granted, id ∉ pendingIds g) := by
  have hi := (grun_inv es (Inv.init limit)).ok h
  refine ⟨?_, ?_, ?_⟩
  · rw [List.nodup_iff_count]; intro a; have := hi.ids.once a; omega
  · rw [List.nodup_iff_count]; intro a; have := hi.ids.once a; omega
  · intro id hid hp
    have h1 : 0 < List.count id g.granted := List.count_pos_iff.mpr hid
    have h2 : 0 < List.count id (pendingIds g) := List.count_pos_iff.mpr hp
    have := hi.ids.once id
    omega

/-- The hypothesis is needed: releasing an amount twice reaches `panic("invalid release call")`
in the un-instrumented machine. -/
example : step (init 10) (.release 1) = .panic "invalid release call" := by decide

/-! ### Web-seed source cap and configuration-dependent slicing -/
section Webseed
open Rain.WebseedCap

/-- What `newTorrent` keeps, as an equation: the first `cap` supported sources. -/
theorem sourcesOf_eq (cap : Int) (hc : 0 ≤ cap) (urls : List Scheme) :
    sourcesOf cap urls = some ((urls.filter supported).take cap.toNat) := by
  unfold sourcesOf capSources sliceTo
  generalize urls.filter supported = ws
  by_cases h : (ws.length : Int) > cap
  · have h2 : ¬ (cap < 0 ∨ cap > ws.length) := by omega
    simp only [h, h2, if_true, if_false]
  · simp only [h, if_false]
    have : ws.length ≤ cap.toNat := by omega
    rw [List.take_of_length_le this]

/-- **webseed_caps.** For every configured cap `≥ 0` and every url-list, `newTorrent` keeps a
prefix of the supported sources of length `min cap n` — in particular never more than the cap —
and the slice expression does not panic. -/
theorem webseed_caps (cap : Int) (hc : 0 ≤ cap) (urls : List Scheme) :
    ∃ l, sourcesOf cap urls = some l ∧ (l.length : Int) ≤ cap ∧
      l.length = min cap.toNat (urls.filter supported).length ∧
      l = (urls.filter supported).take cap.toNat ∧ ∀ u ∈ l, supported u = true :=
  ⟨_, sourcesOf_eq cap hc urls, by simp [List.length_take]; omega, by simp [List.length_take], rfl,
    fun u hu => (List.mem_filter.mp (List.mem_of_mem_take hu)).2⟩

/-- **config_no_panic** (the configuration-dependent slice of the package-level scope): under
`LegalConfig` the web-seed cap expression evaluates without a run-time panic for every url-list. -/
theorem config_no_panic (c : Config) (h : LegalConfig c) (urls : List Scheme) :
    sourcesOf c.webseedMaxSources urls ≠ none := by
  rw [sourcesOf_eq _ h.1]; simp

/-- `LegalConfig` is needed: a negative cap panics for every url-list (`len > cap` always holds). -/
example : sourcesOf (-1) [.http] = none := by decide

/-- Non-vacuity: cap 5, seven supported and two unsupported entries. -/
example : sourcesOf 5 [.http, .other, .https, .http, .http, .other, .https, .http, .http] =
    some [.http, .https, .http, .http, .https] := by decide

/-- The historical defect (fixed in the rain checkout): with the hard-coded `[:10]` a cap of 5 and
7 sources panics, and a cap of 5 with 12 sources keeps 10 > 5.  Witnesses in `corpus/wscap/`. -/
theorem webseed_cap_old_counterexample :
    sourcesOfOld 5 (List.replicate 7 .http) = none ∧
    (∃ l, sourcesOfOld 5 (List.replicate 12 .http) = some l ∧ l.length = 10) := by
  refine ⟨by decide, List.replicate 10 .http, by decide, by decide⟩

end Webseed

/-! ### Rate limits: the token bucket and the take-sleep-transfer pattern -/
section Bucket
open Rain.TokenBucket

/-- **bucket_grants_bound.** For every bucket (`fillInterval`, `capacity`, `quantum` > 0, initially
full) and every sequence of `Take` calls issued at non-decreasing clock values, the tokens whose
ready time (call time + returned wait) is `≤ t` total at most `capacity + quantum · ⌊t / fillInterval⌋`,
for every `t`. -/
theorem bucket_grants_bound (fi C q : Nat) (b0 : Bucket) (h0 : new fi C q = some b0)
    (calls : List Call) (hm : Monotone 0 calls) (t : Nat) :
    grantedBy t (run b0 [] calls).2 ≤ C + q * (t / fi) :=
  run_inv calls (new_inv h0) hm t

/-- **bucket_bound.** The take-then-sleep-then-transfer pattern of the three use sites
(peerreader.readPiece, peerwriter.messageWriter, urldownloader.Run): if every transfer happens
at or after the ready time of its `Take` and moves at most the taken count (nothing when the
goroutine is stopped while waiting), then the bytes passed by time `t` are at most
`capacity + quantum · ⌊t / fillInterval⌋ ≤ burst + rate · t` (second conjunct: the same bound
multiplied out, `rate = quantum / fillInterval` tokens per nanosecond). -/
theorem bucket_bound (fi C q : Nat) (b0 : Bucket) (h0 : new fi C q = some b0)
    (calls : List Call) (hm : Monotone 0 calls) (xs : List Transfer)
    (hf : Follows xs (run b0 [] calls).2) (t : Nat) :
    passedBy t xs ≤ C + q * (t / fi) ∧ passedBy t xs * fi ≤ C * fi + q * t := by
  have h1 : passedBy t xs ≤ C + q * (t / fi) :=
    Nat.le_trans (passedBy_le_grantedBy t xs _ hf) (bucket_grants_bound fi C q b0 h0 calls hm t)
  refine ⟨h1, ?_⟩
  have h2 : passedBy t xs * fi ≤ (C + q * (t / fi)) * fi := Nat.mul_le_mul_right fi h1
  have h3 : t / fi * fi ≤ t := Nat.div_mul_le_self t fi
  have h4 : q * (t / fi) * fi ≤ q * t := by
    rw [Nat.mul_assoc]; exact Nat.mul_le_mul_left q h3
  rw [Nat.add_mul] at h2
  omega

/-- Non-vacuity: 4 tokens per 10 ns, burst 8; a 20-token take at time 3 has to wait until tick 3
(ready at 30), a later 1-token take queues behind it. -/
example : (run { capacity := 8, quantum := 4, fillInterval := 10, availableTokens := 8, latestTick := 0 } []
    [⟨3, 20⟩, ⟨5, 1⟩, ⟨61, 8⟩]).2 = [⟨61, 8⟩, ⟨40, 1⟩, ⟨30, 20⟩] := by decide

end Bucket

/-! ### Parallel read / write semaphore -/
section Sem
open Rain.Semaphore (Act SemInv)

/-- **semaphore_bound.** For every size `n ≥ 0`, every number of goroutines and every interleaving
of their atomic steps: the number of goroutines between the return of `Wait` and their call of
`Signal` never exceeds `n` (nor does the library's count), the `waiting` and `active` metrics
never go negative, and `Len()` (`active`) exceeds `n` by at most the number of goroutines that
are inside `Signal` between `Release` and the metric update. -/
theorem semaphore_bound (n : Int) (hn : 0 ≤ n) (k : Nat) (acts : List Act) (s : Rain.Semaphore.State)
    (h : Rain.Semaphore.run (Rain.Semaphore.init n k) acts = some s) :
    (s.holding : Int) ≤ n ∧ s.cur ≤ n ∧ 0 ≤ s.cur ∧ 0 ≤ s.waiting ∧ 0 ≤ s.active ∧ s.active ≤ n + s.rel ∧ s.n = n := by
  obtain ⟨h0, h1, h2, h3, h4⟩ :=
    Rain.Semaphore.run_semInv acts _ s (⟨rfl, rfl, hn, rfl, rfl⟩ : SemInv n (Rain.Semaphore.init n k)) h
  refine ⟨?_, h2, ?_, ?_, ?_, ?_, h0⟩ <;> omega

/-- Non-vacuity, and the metric overshoot is real: size 1, two goroutines; the second acquires
right after the first released and updates `active` before the first one does: `Len() = 2 > 1`. -/
example : (Rain.Semaphore.run (Rain.Semaphore.init 1 2) [.waitInc, .acquire, .waitDec, .activeInc, .waitInc, .release, .acquire, .waitDec, .activeInc]).map
    (fun s => (s.active, s.holding, s.cur)) = some (2, 1, 1) := by decide

end Sem

end Rain.Props.C17
