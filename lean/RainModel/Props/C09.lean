import RainModel.Lemmas.PickerPick
/-!
C09 — piece selection safety invariants hold for every event history.
Property theorems, the counterexample states and the non-vacuity examples; the model is `Model/Picker.lean`, the
invariant and the per-pick predicates (also the driver's oracle) are in `Model/PickerInv.lean`, helper lemmas in
`Lemmas/Picker*.lean`.

`step false` is the protocol step of the code as it is now (after the `fix:` commits 8da1edd and
166d17e); `step true` / `findPiece true` is the ladder before them, kept for the counterexamples.
-/
namespace Rain.Props.C09
open Rain.Picker

/-- `piecepicker.New` establishes the invariant, for any `Done` flags, file-edge flags, end-game
limit, number of web-seed sources and either mode. -/
theorem init_inv (flags : List (Bool × Bool × Bool)) (maxDup ns : Nat) (seq : Bool) :
    PickInv (init flags maxDup ns seq) :=
  .of_idle (fun i => by simp only [init]; split <;> simp) rfl (fun _ => rfl) rfl (by simp only [init]; split <;> omega)

theorem step_inv (legacy : Bool) (s : State) (op : Op) (h : PickInv s) : AllInv (step legacy s op) := by
  cases op with
  | connect => exact step_connect_inv legacy s h
  | «have» p i => exact step_have_inv legacy s p i h
  | afast p i => exact step_afast_inv legacy s p i h
  | unchoke p => exact step_unchoke_inv legacy s p h
  | choke p => exact step_choke_inv legacy s p h
  | snub p => exact step_snub_inv legacy s p h
  | cancel p => exact step_cancel_inv legacy s p h
  | disc p => exact step_disc_inv legacy s p h
  | pick p => exact step_pick_inv legacy s p h
  | pdone p => exact step_pdone_inv legacy s p h
  | wwrite i => exact step_wwrite_inv legacy s i h
  | wok i web => exact step_wok_inv legacy s i web h
  | wfail i => exact step_wfail_inv legacy s i h
  | pickweb k => exact step_pickweb_inv legacy s k h
  | wadv k => exact step_wadv_inv legacy s k h
  | closeweb k => exact step_closeweb_inv legacy s k h

/-- **PickInv is inductive.** Every outcome of every operation the caller protocol allows —
whichever admissible choice the picker makes among equals — is a proper state (no assertion of
`piecepicker`, no index or nil panic) that satisfies `PickInv` again. Any number of peers, pieces
and sources, both modes, every end-game limit. -/
theorem step_preserves (s : State) (op : Op) (h : PickInv s) :
    ∀ r ∈ step false s op, ∃ s' o, r = .ok (s', o) ∧ PickInv s' := step_inv false s op h

/-- The same holds for the ladder before the two fixes: they changed which piece is asked for in
sequential mode, the safety invariant was never at stake. -/
theorem step_preserves_legacy (s : State) (op : Op) (h : PickInv s) :
    ∀ r ∈ step true s op, ∃ s' o, r = .ok (s', o) ∧ PickInv s' := step_inv true s op h

/-- A finite event history: the operations and, for each, one of its admissible outcomes. -/
inductive Run : State → List Op → State → Prop
  | nil (s : State) : Run s [] s
  | cons {s s1 s' : State} {op : Op} {o : Obs} {ops : List Op} :
      .ok (s1, o) ∈ step false s op → Run s1 ops s' → Run s (op :: ops) s'

/-- **All histories.** After any finite sequence of protocol operations on a fresh picker the
invariant holds. -/
theorem pickInv_all_histories (flags : List (Bool × Bool × Bool)) (maxDup ns : Nat) (seq : Bool)
    (ops : List Op) (s : State) (hrun : Run (init flags maxDup ns seq) ops s) : PickInv s := by
  have key : ∀ (s0 : State) (ops : List Op) (s : State), Run s0 ops s → PickInv s0 → PickInv s := by
    intro s0 ops s hr
    induction hr with
    | nil s => exact id
    | cons hstep _ ih =>
      intro h0
      obtain ⟨s', o', he, hI⟩ := step_preserves _ _ h0 _ hstep
      cases he
      exact ih hI
  exact key _ _ _ hrun (init_inv flags maxDup ns seq)

/-- **No assertion or panic is reachable**: in a reachable state no operation has an error outcome
(`invalid source in piece`, `peer snubbed while choked`, `already downloading from webseed url`,
index out of range, nil downloader). -/
theorem no_panic_reachable (flags : List (Bool × Bool × Bool)) (maxDup ns : Nat) (seq : Bool)
    (ops : List Op) (s : State) (hrun : Run (init flags maxDup ns seq) ops s) (op : Op) (m : String) :
    .error m ∉ step false s op := by
  intro hm
  obtain ⟨s', o, he, _⟩ := step_preserves s op (pickInv_all_histories flags maxDup ns seq ops s hrun) _ hm
  cases he

/-- **Progress.** Every operation has at least one admissible outcome in every state, so the
statements above ("every outcome …") are not vacuous for any operation and the model never blocks. -/
theorem step_has_outcome (s : State) (op : Op) : step false s op ≠ [] := step_ne_nil false s op

/-! ### what `PickInv` says, clause by clause (the property's sentences) -/

theorem requested_sub_having {s : State} (h : PickInv s) {i p : Nat} (hi : i < s.n)
    (hp : p ∈ (s.pieces i).requested) : p ∈ (s.pieces i).having := h.reqSubHaving i hi p hp

theorem stalled_sub_requested_disjoint {s : State} (h : PickInv s) {i : Nat} (hi : i < s.n) :
    (∀ p, p ∈ (s.pieces i).snubbed ∨ p ∈ (s.pieces i).choked → p ∈ (s.pieces i).requested) ∧
    (∀ p, ¬ (p ∈ (s.pieces i).snubbed ∧ p ∈ (s.pieces i).choked)) := by
  have := h.stalled i hi
  refine ⟨?_, ?_⟩
  · intro p hp; rcases hp with hp | hp
    · exact (this.1 p hp).1
    · exact this.2 p hp
  · intro p hp; exact (this.1 p hp.1).2 hp.2

/-- At most one piece download per peer. -/
theorem one_download_per_peer {s : State} (h : PickInv s) {i j p : Nat} (hi : i < s.n) (hj : j < s.n)
    (hpi : p ∈ (s.pieces i).requested) (hpj : p ∈ (s.pieces j).requested) : i = j := by
  have h1 := h.reqDl i hi p hpi
  have h2 := h.reqDl j hj p hpj
  rw [h1] at h2; exact Option.some.inj h2

/-- Simultaneous downloads of one piece stay within the end-game limit. -/
theorem duplicate_limit {s : State} (h : PickInv s) {i : Nat} (hi : i < s.n) :
    (s.pieces i).requested.length ≤ max 1 s.maxDup := h.dupLimit i hi

/-- Ranges of two different downloading web seeds do not overlap. -/
theorem webseed_ranges_disjoint {s : State} (h : PickInv s) {k k' : Nat} {d d' : Dl} (hk : k < s.ns) (hk' : k' < s.ns)
    (hd : s.srcs k = some d) (hd' : s.srcs k' = some d') (hne : k ≠ k') : d.e ≤ d'.b ∨ d'.e ≤ d.b := by
  have h1 := h.srcOk k hk d hd
  have h2 := h.srcOk k' hk' d' hd'
  rcases Nat.lt_or_ge d'.b d.e with hlt | hge
  · rcases Nat.lt_or_ge d.b d'.e with hlt' | hge'
    · -- the later of the two beginnings lies in both ranges and names one source
      exfalso
      rcases Nat.le_total d.b d'.b with hle | hle
      · exact hne (Option.some.inj ((h1.2.2.2 d'.b hlt hle).symm.trans
          (h2.2.2.2 d'.b (Nat.lt_of_le_of_lt h2.1 h2.2.1) (Nat.le_refl _))))
      · exact hne (Option.some.inj ((h1.2.2.2 d.b (Nat.lt_of_le_of_lt h1.1 h1.2.1) (Nat.le_refl _)).symm.trans
          (h2.2.2.2 d.b hlt' hle)))
    · exact Or.inr hge'
  · exact Or.inl hge

/-- `RequestedWebseed i = src` exactly for the pieces of `src`'s `[Begin, End)`. -/
theorem webseed_owner_iff_range {s : State} (h : PickInv s) {i k : Nat} (hi : i < s.n) (hk : k < s.ns) :
    (s.pieces i).webseed = some k ↔ ∃ d, s.srcs k = some d ∧ d.b ≤ i ∧ i < d.e :=
  owner_iff h.webOwner h.srcOk hi hk

/-- The reported count of available pieces is the number of pieces held by a connected peer. -/
theorem available_eq {s : State} (h : PickInv s) :
    s.available = ((List.range s.n).filter fun i => !(s.pieces i).having.isEmpty).length ∧
    ∀ i, i < s.n → ∀ p ∈ (s.pieces i).having, p < s.np ∧ (s.peers p).closed = false := by
  refine ⟨?_, h.havingOpen⟩
  rw [h.avail]; unfold countAvail; exact List.countP_eq_length_filter

/-- **A returned piece is safe**: not `Done`, not `Writing`, held by the peer, the peer is unchoking
or the piece is allowed-fast, and the peer had no download — for every admissible pick. -/
theorem pick_safe (s : State) (h : PickInv s) (p i : Nat) (af : Bool) (s' : State)
    (hr : .ok (s', .pick (some (i, af))) ∈ step false s (.pick p)) : PickSafe s p i :=
  step_pick_safe false s p h s' i af hr

/-- **sequential_lowest.** Sequential mode, the peer is unchoking and idle, no web seed is
downloading, no file-edge piece is left for the peer: whenever some piece is pickable, the pick is
the lowest-indexed pickable piece (no hypothesis about the end-game flag or the limit). -/
theorem sequential_lowest (s : State) (p : Nat) (s' : State) (r : Option (Nat × Bool))
    (hr : .ok (s', .pick r) ∈ step false s (.pick p)) : SeqLowest s p (r.map (·.1)) := by
  obtain ⟨s1, h1⟩ := step_pick_mem hr
  exact findPiece_seqLowest s p _ h1 s1 r rfl

/-- `sliceset.SliceSet.Remove` (swap the last element into the hole) and the model's `List.erase`
leave the same elements; only their order differs, which no picker function reads. -/
theorem sliceset_remove_perm (l : List Nat) (x : Nat) : (removeSwap l x).Perm (l.erase x) := by
  induction l with
  | nil => simp [removeSwap]
  | cons y r ih =>
    simp only [removeSwap]
    by_cases h : y = x
    · subst h
      simp only [if_true, List.erase_cons_head]
      cases hl : r.getLast? with
      | none => simp [List.getLast?_eq_none_iff.mp hl]
      | some z =>
        obtain ⟨ys, rfl⟩ := List.getLast?_eq_some_iff.mp hl
        rw [List.dropLast_concat]
        exact (List.perm_append_singleton z ys).symm
    · simp only [h, if_false]
      rw [List.erase_cons_tail (by simpa using h)]
      exact ih.cons y

/-- Pick results of a list of outcomes (`none` = a panic outcome). -/
def pickResults (l : List (R (State × Option (Nat × Bool)))) : List (Option (Option (Nat × Bool))) :=
  l.map fun r => match r with
    | .ok (_, x) => some x
    | .error _ => none

/-- DESIGN 10 #17b: ten pieces of one file all held by the unchoking peer 0, both file-edge pieces
done, allowed-fast set {7}. -/
def cexAllowedFast : State :=
  { n := 10
    pieces := fun i => { having := [0], done := i == 0 || i == 9, head := i == 0, tail := i == 9 }
    np := 1
    peers := fun _ => { choking := false, af := [7] }
    ns := 0
    srcs := fun _ => none
    maxDup := 2, maxWeb := 1, available := 10, endgame := false, sequential := true }

/-- **Counterexample (before 8da1edd).** The state satisfies `PickInv` and the hypotheses of
`sequential_lowest`, the lowest pickable piece is 1, and the old ladder returns the allowed-fast
piece 7; the ladder as it is now returns piece 1. -/
theorem legacy_allowedFast_counterexample :
    PickInv cexAllowedFast ∧ SeqHyp cexAllowedFast 0 ∧ lowestPickable cexAllowedFast 0 = some 1 ∧
    pickResults (findPiece true cexAllowedFast 0) = [some (some (7, true))] ∧
    ¬ SeqLowest cexAllowedFast 0 (some 7) ∧
    pickResults (findPiece false cexAllowedFast 0) = [some (some (1, false))] := by
  decide

/-- Six pieces, edges done, end game entered earlier; pieces 1 and 3 are being downloaded by peers
0 and 2, pieces 2 and 4 became free again; peer 1 is idle and unchoking. -/
def cexEndgame : State :=
  { n := 6
    pieces := fun i =>
      { having := [0, 1, 2], done := i == 0 || i == 5, head := i == 0, tail := i == 5
        requested := if i == 1 then [0] else if i == 3 then [2] else [] }
    np := 3
    peers := fun p => { choking := false, dl := if p == 0 then some (1, false) else if p == 2 then some (3, false) else none }
    ns := 0
    srcs := fun _ => none
    maxDup := 2, maxWeb := 1, available := 6, endgame := true, sequential := true }

/-- **Counterexample (before 166d17e).** With the end-game flag set, the old ladder went straight
to `pickEndgame`, whose order is that of the last sort by running downloads: piece 4 is an
admissible answer although piece 2 is the lowest pickable one. The ladder as it is now returns 2. -/
theorem legacy_endgame_counterexample :
    PickInv cexEndgame ∧ SeqHyp cexEndgame 1 ∧ lowestPickable cexEndgame 1 = some 2 ∧
    some (some (4, false)) ∈ pickResults (findPiece true cexEndgame 1) ∧
    ¬ SeqLowest cexEndgame 1 (some 4) ∧
    pickResults (findPiece false cexEndgame 1) = [some (some (2, false))] := by
  decide

/-- Follow the first admissible outcome of every operation. -/
def runFirst (s : State) : List Op → Option State
  | [] => some s
  | op :: ops =>
    match step false s op with
    | .ok (s1, _) :: _ => runFirst s1 ops
    | _ => none

theorem runFirst_run : ∀ (ops : List Op) (s s' : State), runFirst s ops = some s' → Run s ops s'
  | [], s, s', h => by simp [runFirst] at h; subst h; exact Run.nil s
  | op :: ops, s, s', h => by
    simp only [runFirst] at h
    split at h
    · rename_i s1 o rest heq
      exact Run.cons (by rw [heq]; exact List.Mem.head _) (runFirst_run ops s1 s' h)
    · cases h

theorem run_of_runFirst {s0 : State} {ops : List Op} {P : State → Prop} [DecidablePred P]
    (h : (runFirst s0 ops).any (fun s => decide (P s)) = true) : ∃ s, Run s0 ops s ∧ P s := by
  cases hr : runFirst s0 ops with
  | none => rw [hr] at h; cases h
  | some s => exact ⟨s, runFirst_run _ _ _ hr, by simpa [hr] using h⟩

/-- A history that exercises the indexes: two peers, end game on piece 1 (limit 2), one peer choked in
the middle of the download and one snubbed, a web-seed range picked and then truncated by the write. -/
def sampleOps : List Op :=
  [.connect, .connect, .have 0 1, .have 1 1, .have 0 2, .have 1 3, .unchoke 0, .unchoke 1,
   .pick 0, .pick 1, .pickweb 0, .pdone 0, .pick 0, .wok 1 false, .pick 1, .choke 1, .snub 0, .afast 1 2]

/-- Non-vacuity of `pickInv_all_histories`: the sample history is a `Run` from a fresh sequential
picker, and it ends in a state with non-empty `Requested`, `Snubbed`, `Choked`, a finished piece
and a downloading web seed. -/
example : ∃ s, Run (init [(false, true, false), (false, false, false), (false, false, false), (false, false, true)] 2 1 true) sampleOps s ∧
    (s.pieces 2).requested = [0] ∧ (s.pieces 2).snubbed = [0] ∧ (s.pieces 3).choked = [1] ∧
    (s.pieces 1).done = true ∧ (s.srcs 0).isSome = true ∧ s.available = 3 :=
  run_of_runFirst (by decide)

/-- Non-vacuity of `sequential_lowest` and `pick_safe`: in `cexAllowedFast` the hypotheses hold, a
piece is pickable, and the protocol step returns it. -/
example : SeqHyp cexAllowedFast 0 ∧ lowestPickable cexAllowedFast 0 = some 1 ∧
    ((step false cexAllowedFast (.pick 0)).map fun r => r.toOption.map (·.2)) = [some (.pick (some (1, false)))] ∧
    PickSafe cexAllowedFast 0 1 := by decide

end Rain.Props.C09

