import RainModel.Lemmas.LoopPeers
import RainModel.Lemmas.LoopHmd
import RainModel.Lemmas.LoopMetaStop
import RainModel.Lemmas.LoopMeta
import RainModel.Lemmas.LoopIdl
import RainModel.Lemmas.LoopWeak
import RainModel.Lemmas.LoopPrivate
/-!
C13 — magnet metadata, loop level (M-LOOP): the info dictionary is adopted only through the hash gate,
never for a private torrent, and a metadata download is only ever started for an admissible size.
The tie to the code is the `loop-magnet` suite.
-/
namespace Rain.Props.C13Loop
open Rain.Loop

/-- What the hash gate of `handleMetadataData` checks for the downloader `d` after block `i` arrived:
the announced size is the true size and every block's last stored data was the true bytes. -/
def HashOK (s : St) (d : IDl) (i : Nat) (good : Bool) : Prop :=
  d.size = s.isize ∧ ∀ x ∈ d.blocks.set i (some good), x = some true

/-- **adopt_only_if_hash.** If a metadata data message turns `info` from false to true, then the
torrent is not private, the message completed the download of the peer's downloader, and the assembled
buffer passed the hash gate. -/
theorem adopt_only_if_hash (m : M) (k i len : Nat) (good : Bool) (h0 : m.1.info = false)
    (h1 : (handleMetadataData m k i len good).1.info = true) :
    m.1.cfg.isPrivate = false ∧
    ∃ d, m.1.idls.find? (·.k = k) = some d ∧ i < d.nb ∧ len = blockSizeOf d.size i ∧
      d.pending - 1 = 0 ∧ HashOK m.1 d i good :=
  have ⟨d, ⟨hd, hi, hlen, _, hpend, hh⟩, _, hp⟩ := handleMetadataData_adopts m k i len good h0 h1
  ⟨hp, d, hd, hi, hlen, hpend, hh⟩

/-- **private_magnet_refused.** A private torrent never adopts metadata fetched from peers, whatever the
peers send. -/
theorem private_magnet_refused (m : M) (k i len : Nat) (good : Bool) (hp : m.1.cfg.isPrivate = true) :
    (handleMetadataData m k i len good).1.info = m.1.info :=
  handleMetadataData_info_refused m k i len good (Or.inr hp)

/-- **adopt_only_if_hash, step form.** Whatever the event, its parameters and the state: if a step of
the event loop turns `info` from false to true, the event was a metadata data message that passed
the hash gate, and the torrent is not private. -/
theorem step_adopts_only_if_hash (s : St) (p : Parked) (kn : Nat → Bool) (op : Op)
    (h0 : s.info = false) (h1 : (step s p kn op).1.st.info = true) :
    ∃ k i len good, op = .metadata k i len good ∧ s.cfg.isPrivate = false ∧
      ∃ d, s.idls.find? (·.k = k) = some d ∧ HashOK s d i good := by
  rw [step_info] at h1
  revert h1
  refine handle_info_inv (Q := fun b => b = true → _) _ p kn op (fun h => Bool.noConfusion (h0.symm.trans h))
    fun k i len good e h1 => ?_
  obtain ⟨hp, d, hd, _, _, _, hh⟩ := adopt_only_if_hash (s.opStart, []) k i len good h0 h1
  exact ⟨k, i, len, good, e, hp, d, hd, hh⟩

/-- **adopt_only_if_within_limit.**  `Session.parseInfo` holds an info dictionary received from peers to
`Config.MaxPieces` like any other: if a metadata data message turns `info` from false to true, the torrent
has at most `maxPieces` pieces. -/
theorem adopt_only_if_within_limit (m : M) (k i len : Nat) (good : Bool) (h0 : m.1.info = false)
    (h1 : (handleMetadataData m k i len good).1.info = true) : m.1.cfg.n ≤ m.1.cfg.maxPieces :=
  have ⟨_, _, hn, _⟩ := handleMetadataData_adopts m k i len good h0 h1
  hn

/-- **over_limit_info_refused_step** (the handler).  A torrent with more pieces than `Config.MaxPieces`: whatever
metadata message arrives, `info` keeps its value; and the message that completes a metadata download with
the right hash (`HmdComplete`) on a running torrent leaves it stopping with the error recorded
(`lastErr = true`: "cannot parse info bytes"), every peer and metadata download closed, no allocator. -/
theorem over_limit_info_refused_step (m : M) (k i len : Nat) (good : Bool)
    (hn : m.1.cfg.n > m.1.cfg.maxPieces) :
    (handleMetadataData m k i len good).1.info = m.1.info ∧
    ∀ d, HmdComplete m d k i len good → m.1.errC = true → m.1.stopAnn = false →
      (handleMetadataData m k i len good).1.status = .stopping ∧
      (handleMetadataData m k i len good).1.lastErr = true ∧
      (handleMetadataData m k i len good).1.idls = [] ∧ (handleMetadataData m k i len good).1.peers = [] ∧
      (handleMetadataData m k i len good).1.allocator = false ∧
      (handleMetadataData m k i len good).1.panicked = m.1.panicked := by
  constructor
  · exact handleMetadataData_info_refused m k i len good (Or.inl hn)
  · intro d hc he hs
    rw [handleMetadataData_complete m d k i len good hc]
    obtain ⟨_, _, f3, f4, f5, _, _, f8, _, f10, f11⟩ :=
      hmdAdopt_refused_fields (hmdStored m d k i good) (Or.inl hn) ⟨he, hs⟩
    exact ⟨f3, f4, f10, f8, f5, f11⟩

/-- One event, any parameters: a torrent whose info dictionary `parseInfo` refuses (too many pieces, or
private) never gets `info`. -/
theorem step_refused_info (s : St) (p : Parked) (kn : Nat → Bool) (op : Op) (h0 : s.info = false)
    (h : s.cfg.n > s.cfg.maxPieces ∨ s.cfg.isPrivate = true) : (step s p kn op).1.st.info = false :=
  (step_info_refused s p kn op h).trans h0

/-- **refused_info_never_adopted** (`over_limit_info_refused` is its instance for the piece limit).  Along every history — any events with any parameters, any choices of the
implementation, admissible or not, from any state without metadata (in particular a freshly added magnet
torrent, `InitLike`) — a torrent with more pieces than `Config.MaxPieces` never adopts an info dictionary
received from peers: `info` stays false (and the configuration is never changed).  The same holds for a
private torrent (`private_magnet_refused`, run form). -/
theorem refused_info_never_adopted (s0 : St) (p0 : Parked) (hi : s0.info = false)
    (h : s0.cfg.n > s0.cfg.maxPieces ∨ s0.cfg.isPrivate = true) (evs : List Ev) :
    (drun (s0, p0) evs).1.info = false ∧ (drun (s0, p0) evs).1.cfg = s0.cfg :=
  ⟨(drun_info_refused evs (s0, p0) h).trans hi, drun_cfg evs (s0, p0)⟩

theorem over_limit_info_refused (s0 : St) (hi : s0.info = false) (hn : s0.cfg.n > s0.cfg.maxPieces)
    (evs : List Ev) : (drun (s0, none) evs).1.info = false ∧ (drun (s0, none) evs).1.cfg = s0.cfg :=
  refused_info_never_adopted s0 none hi (Or.inl hn) evs

/-- **over_limit_metadata_stops.**  The whole step (handler, workers, parked message) in which a
metadata download completes with the right hash, on a torrent above the piece-count limit (or private), from
any state of the lifecycle invariant: `info` keeps its value and the torrent ends `Stopped` — or `Stopping`
behind a tracker that does not answer — with nothing running.  Hypotheses: no panic so far, no verify command
pending (this stop is the loop's own, not the stop command, which alone withdraws a verification request). -/
theorem over_limit_metadata_stops (s : St) (p : Parked) (kn : Nat → Bool) (d : IDl) (k i len : Nat) (good : Bool)
    (l : Life s) (hpan : s.panicked = none) (hdv : s.doVerify = false)
    (hk : (s.findPeer k).isSome = true) (hc : HmdComplete (s, []) d k i len good)
    (h : s.cfg.n > s.cfg.maxPieces ∨ s.cfg.isPrivate = true) :
    (step s p kn (.metadata k i len good)).1.st.info = s.info ∧
    ((step s p kn (.metadata k i len good)).1.st.status = .stopped ∨
      (s.stopHang = true ∧ (step s p kn (.metadata k i len good)).1.st.status = .stopping)) ∧
    (step s p kn (.metadata k i len good)).1.st.allocator = false ∧
    (step s p kn (.metadata k i len good)).1.st.peers = [] ∧
    (step s p kn (.metadata k i len good)).1.st.idls = [] := by
  obtain ⟨he, hi⟩ := step_metadata_ends s p kn d k i len good l hpan hdv hk hc (Or.inl h)
  obtain ⟨i1, _, _, _, _, i6, _, i8⟩ := (step_life s p kn _ l).idle he.not_running
  exact ⟨hi.trans (if_pos h), he.withdrawn.2.imp_right fun x => ⟨x.1, x.2.1⟩, i1, i6, i8⟩

/-- **oversize_never_requested.** Whenever the implementation's set of metadata downloads is accepted
by `reconcileIdl` without complaint, every download that was not already running is from a connected
peer that advertised `ut_metadata` with a size `0 < size ≤ MaxMetadataSize`, and the metadata is still
unknown.  (The driver reports any other choice of the implementation as a C13 violation.) -/
theorem oversize_never_requested (s : St) (impl : List Nat) (h : (reconcileIdl s impl).2 = []) :
    ∀ d ∈ (reconcileIdl s impl).1.idls, d ∈ s.idls ∨
      (d.size ≠ 0 ∧ d.size ≤ s.maxMeta ∧ s.info = false ∧
        ∃ p, s.findPeer d.k = some p ∧ p.extMeta = true ∧ p.extSize = d.size) := by
  intro d hd
  rcases reconcileIdl_idls s impl h d hd with h1 | ⟨hi, _, p, hp, _, hm, hs, h0, hmax⟩
  · exact Or.inl h1
  · exact Or.inr ⟨h0, hmax, hi, p, hp, hm, hs.symm⟩

/-- **The size bound is a step invariant.** `IdlInv s`: every running metadata download is for a size
`0 < size ≤ maxMeta`.  No event of the loop, whatever its parameters, creates a metadata download or
changes the size of one (they are closed with their peer, cleared by `stop` and by the completion of the
metadata, or updated in place by data messages and snubs), and `maxMeta` never changes. -/
theorem idl_size_bound_step (s : St) (p : Parked) (kn : Nat → Bool) (op : Op) (h : IdlInv s) :
    IdlInv (step s p kn op).1.st ∧ (step s p kn op).1.st.maxMeta = s.maxMeta :=
  ⟨step_idlInv s p kn op h, (step_writes ..).maxMeta⟩

/-- … and it survives the adoption of the implementation's choices: any choice of piece downloads
(`reconcile` does not touch `idls`), and a choice of metadata downloads that `reconcileIdl` accepted. -/
theorem idl_size_bound_adopt (s : St) (impl : List ImplDl) (implI : List Nat) (h : IdlInv s)
    (ha : (reconcileIdl (reconcile s impl).1 implI).2 = []) :
    IdlInv (reconcileIdl (reconcile s impl).1 implI).1 :=
  reconcileIdl_idlInv _ _ (reconcile_idlInv s impl h) ha

/-- **oversize_never_requested_run.** Along every history from a freshly added torrent — any events with
any parameters, any choices of piece downloads (admissible or not), and choices of metadata downloads that
`reconcileIdl` accepted after every event (`drunAdmissibleI`: the runs on which the driver reports no C13
violation) — no metadata download in `idls` is for a metadata size above `MaxMetadataSize`, or for size 0;
and `maxMeta` is still the configured value. -/
theorem oversize_never_requested_run (s0 : St) (h0 : InitLike s0) (evs : List Ev)
    (ha : drunAdmissibleI (s0, none) evs) :
    (∀ d ∈ (drun (s0, none) evs).1.idls, d.size ≠ 0 ∧ d.size ≤ s0.maxMeta) ∧
    (drun (s0, none) evs).1.maxMeta = s0.maxMeta := by
  have hm : ∀ (evs : List Ev) (sp : St × Parked), (drun sp evs).1.maxMeta = sp.1.maxMeta := fun evs sp =>
    foldl_keep (·.1.maxMeta) dstep (fun sp e => by
      unfold dstep
      exact (reconcileIdl_writes ..).maxMeta.trans ((reconcile_writes ..).maxMeta.trans (step_writes ..).maxMeta)) evs sp
  have hinv : IdlInv s0 := by
    intro d hd; rw [h0.idls] at hd; cases hd
  have := drun_idlInv evs (s0, none) hinv ha
  refine ⟨fun d hd => ?_, hm evs _⟩
  have h1 := this d hd
  rw [hm evs] at h1
  exact h1

/-! Non-vacuity: a public magnet torrent adopts the metadata from an honest one-block answer; the same
answer to a private one does not. -/
example :
    let c : Cfg := { pl := 16384, plens := [], blocks := [], flens := [], fpads := [], fnames := [] }
    let s : St := { cfg := c, info := false, errC := true, isize := 100,
                    idls := [{ k := 1, size := 100, nb := 1, pending := 1, blocks := [none] }] }
    (handleMetadataData (s, []) 1 0 100 true).1.info = true := by decide

example :
    let c : Cfg := { pl := 16384, plens := [], blocks := [], flens := [], fpads := [], fnames := [], isPrivate := true }
    let s : St := { cfg := c, info := false, errC := true, isize := 100,
                    idls := [{ k := 1, size := 100, nb := 1, pending := 1, blocks := [none] }] }
    (handleMetadataData (s, []) 1 0 100 true).1.info = false := by decide

/-! Non-vacuity of `oversize_never_requested_run`: a magnet torrent, two peers advertise `ut_metadata`, one
with an admissible size (the implementation starts a download from it: accepted, `idls` holds it), one
with a size above the cap; a download from the second is **not** accepted by `reconcileIdl`. -/
section Example
private def cm : Cfg := { pl := 16384, plens := [], blocks := [], flens := [], fpads := [], fnames := [] }
private def sm : St := { cfg := cm, info := false, infoAtAdd := false, isize := 100, maxMeta := 1000 }
private def kn (l : List Nat) : Nat → Bool := fun k => l.contains k
private def evsm : List Ev := [
  ⟨.start, kn [], [], []⟩,
  ⟨.peer 1 "10.0.0.2" true true false, kn [], [], []⟩,
  ⟨.peer 2 "10.0.0.3" true true false, kn [1], [], []⟩,
  ⟨.exths 1 true 100 false, kn [1, 2], [], [1]⟩,
  ⟨.exths 2 true 5000 false, kn [1, 2], [], [1]⟩]

example : drunAdmissibleI (sm, none) evsm := by
  simp only [evsm, drunAdmissibleI, Ev.admissibleI, and_true]
  decide

example : (drun (sm, none) evsm).1.idls.map (fun d => (d.k, d.size)) = [(1, 100)] ∧
    (drun (sm, none) evsm).1.status = .dlmeta := by decide

/-- a download from the peer that announced 5000 > `maxMeta` bytes is refused by `reconcileIdl` -/
example : ¬ drunAdmissibleI (sm, none) (evsm.dropLast ++ [⟨.exths 2 true 5000 false, kn [1, 2], [], [1, 2]⟩]) := by
  simp only [evsm, List.dropLast, List.cons_append, List.nil_append, drunAdmissibleI, Ev.admissibleI, and_true]
  decide

/-! Non-vacuity of `over_limit_info_refused(_step)`: a one-piece magnet torrent under `MaxPieces = 0`.  Two peers
are connected, peer 1 delivers the whole info dictionary with the right hash: the hypothesis `HmdComplete`
holds, `info` stays false, the torrent is stopped with the error recorded, both peers are gone.  Under
`MaxPieces = 1` the same history adopts the metadata and allocates. -/
private def cl (maxp : Nat) : Cfg :=
  { pl := 16384, plens := [16384], blocks := [[(0, 16384)]], flens := [16384], fpads := [false], fnames := ["t"],
    maxPieces := maxp }
private def sl (maxp : Nat) : St :=
  { cfg := cl maxp, info := false, infoAtAdd := false, isize := 100, fileExists := [false], known := [false],
    bad := (cl maxp).dataSects }
private def evsl : List Ev := [
  ⟨.gate .open true, kn [], [], []⟩,
  ⟨.start, kn [], [], []⟩,
  ⟨.peer 1 "10.0.0.2" true true false, kn [], [], []⟩,
  ⟨.peer 2 "10.0.0.3" true true false, kn [1], [], []⟩,
  ⟨.exths 1 true 100 false, kn [1, 2], [], [1]⟩]
private def evl : Ev := ⟨.metadata 1 0 100 true, kn [1, 2], [], []⟩

example : (sl 0).cfg.n > (sl 0).cfg.maxPieces ∧ (sl 0).info = false := by decide
/-- the hypotheses of the handler form hold in the state the fifth event leaves -/
example : (drun (sl 0, none) evsl).1.errC = true ∧ (drun (sl 0, none) evsl).1.stopAnn = false ∧
    (drun (sl 0, none) evsl).1.peers.length = 2 ∧
    ∃ d, HmdComplete ((drun (sl 0, none) evsl).1, []) d 1 0 100 true :=
  ⟨by decide, by decide, by decide,
    ⟨{ k := 1, size := 100, nb := 1, pending := 1, blocks := [none] }, by rfl, by decide, by decide, by decide,
      by decide, by decide⟩⟩
example : (drun (sl 0, none) (evsl ++ [evl])).1.info = false ∧ (drun (sl 0, none) (evsl ++ [evl])).1.status = .stopped ∧
    (drun (sl 0, none) (evsl ++ [evl])).1.lastErr = true ∧ (drun (sl 0, none) (evsl ++ [evl])).1.peers = [] ∧
    (drun (sl 0, none) (evsl ++ [evl])).1.allocator = false ∧ (drun (sl 0, none) (evsl ++ [evl])).1.panicked = none := by
  decide
example : (drun (sl 1, none) (evsl ++ [evl])).1.info = true ∧ (drun (sl 1, none) (evsl ++ [evl])).1.status = .allocating ∧
    (drun (sl 1, none) (evsl ++ [evl])).1.peers.length = 2 := by decide
end Example

end Rain.Props.C13Loop
