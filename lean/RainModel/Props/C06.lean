import RainModel.Lemmas.Validate
/-!
C06 — untrusted metainfo is rejected or well-formed.

Hypotheses that appear below are guarantees of the Go types / the decoder, not restrictions on the
attacker: `PieceLength` is a `uint32`, `Length` an `int64`, and `zeebo/bencode` parses the length of
a byte string with `ParseInt(…, 10, 32)`, so `len(pieces) < 2^31`.
-/
namespace Rain.Props.C06
open Rain.Path Rain.Validate

/-- **newInfo_accept_wf.** Whatever the decoded dictionary contains, an accepting run of
`NewInfo` yields a well-formed description (`WF`, the predicate the check evaluates on the
implementation's output): positive piece length, at least one piece, every file length
non-negative, the *true* (non-wrapping) sum of the file lengths equals `Length ≤ MaxInt64`, and
`(numPieces − 1)·pieceLength < Length ≤ numPieces·pieceLength`; `0 ≤ Padding ≤ Length`. -/
theorem newInfo_accept_wf (p : Params) (ib : InfoIn) (o : InfoOut)
    (hpl : ib.pieceLength < two32) (hpieces : ib.piecesLen < 2147483648)
    (hlen : inInt64 ib.length = true) (h : newInfo p ib = .ok o) : WF o = true := by
  obtain ⟨h1, _, h3, _, _, _, length, padding, hl, hd, rfl⟩ := newInfo_ok_elim p ib o h
  have hnp1 : 1 ≤ ib.piecesLen / 20 := Nat.pos_of_ne_zero h3
  have hnp : ib.piecesLen / 20 < 134217728 := by omega
  have hnp32 : ib.piecesLen / 20 < two32 := by unfold two32; omega
  rw [Nat.mod_eq_of_lt hnp32] at hd ⊢
  obtain ⟨hin, hp0, hpos, hne, hsum⟩ := lengthsOf_spec hlen hl rfl
  obtain ⟨h0, h9, h10⟩ := deltaBad_false hpl hnp1 hnp hin hd
  obtain ⟨hpl', hnn⟩ := hpos (Int.le_of_lt h0)
  simp only [inInt64, Bool.and_eq_true, decide_eq_true_eq] at hin
  exact (WF_iff _).2 ⟨Nat.pos_of_ne_zero h1, hpl, hnp1, hnp32, hne, hnn, hsum, hin.2, h9, h10, hp0, hpl'⟩

/-- Non-vacuity: a padded multi-file torrent is accepted. -/
example : (newInfo ⟨true, true, []⟩
      { pieceLength := 64, piecesLen := 40, name := [0x74], nameUtf8 := [], priv := [0x69, 0x31, 0x65], length := 0,
        files := [⟨50, [[0x61]], [], []⟩, ⟨14, [[0x62]], [], [0x70]⟩, ⟨36, [[0x63]], [], []⟩] }).toBool = true := by
  decide

/-- A negative file length is never accepted (corollary, stated on its own because it is the
defect the unrepaired code had). -/
theorem newInfo_rejects_negative (p : Params) (ib : InfoIn) (o : InfoOut)
    (hpl : ib.pieceLength < two32) (hpieces : ib.piecesLen < 2147483648)
    (hlen : inInt64 ib.length = true) (h : newInfo p ib = .ok o) : ∀ f ∈ o.files, 0 ≤ f.length :=
  ((WF_iff o).1 (newInfo_accept_wf p ib o hpl hpieces hlen h)).2.2.2.2.2.1

/-- Both session-level parsers end in `NewInfo` followed by the piece-count guard. -/
theorem guarded_limits (maxPieces : Nat) (p : Params) (ib : InfoIn) (o : InfoOut)
    (hpl : ib.pieceLength < two32) (hpieces : ib.piecesLen < 2147483648) (hlen : inInt64 ib.length = true)
    (h : (match newInfo p ib with
          | .error _ => none
          | .ok o => match piecesGuard maxPieces o with
            | .ok o => some o
            | .error _ => none) = some o) :
    o.numPieces ≤ maxPieces ∧ WF o = true := by
  split at h
  · cases h
  rename_i o' hn
  unfold piecesGuard at h
  split at h
  · rename_i o'' hg
    split at hg
    · cases hg
    · cases hg; cases h
      rename_i hle
      exact ⟨by omega, newInfo_accept_wf _ ib _ hpl hpieces hlen hn⟩
  · cases h

/-- **limits (resume data, peer-supplied info).** What `Session.parseInfo` lets through is
well-formed and has at most `MaxPieces` pieces. -/
theorem sessionParseInfo_limits (maxPieces : Nat) (version : Int) (hashHex : Bytes) (ib : InfoIn) (o : InfoOut)
    (hpl : ib.pieceLength < two32) (hpieces : ib.piecesLen < 2147483648) (hlen : inInt64 ib.length = true)
    (h : sessionParseInfo maxPieces version hashHex ib = some o) :
    o.numPieces ≤ maxPieces ∧ WF o = true := by
  unfold sessionParseInfo at h
  split at h
  · cases h
  · exact guarded_limits maxPieces _ ib o hpl hpieces hlen h

/-- **limits (.torrent file, URL body).** The same for `Session.parseMetaInfo`. -/
theorem sessionParseMetaInfo_limits (maxPieces : Nat) (hashHex : Bytes) (ib : InfoIn) (o : InfoOut)
    (hpl : ib.pieceLength < two32) (hpieces : ib.piecesLen < 2147483648) (hlen : inInt64 ib.length = true)
    (h : sessionParseMetaInfo maxPieces hashHex ib = some o) :
    o.numPieces ≤ maxPieces ∧ WF o = true :=
  guarded_limits maxPieces _ ib o hpl hpieces hlen h

/-- **limits (size).** The decoder never sees more than `MaxTorrentSize` bytes of a `.torrent`
file or URL body (`io.LimitReader`), and a declared `Content-Length` above the limit is refused
before anything is read. -/
theorem limitRead_le (maxTorrentSize : Nat) (body : Bytes) :
    (limitRead maxTorrentSize body).length ≤ maxTorrentSize := by
  unfold limitRead; simp [List.length_take]; omega

theorem contentLengthGuard_spec (maxTorrentSize : Nat) (cl : Int) :
    contentLengthGuard maxTorrentSize cl = false → cl ≤ (maxTorrentSize : Int) := by
  unfold contentLengthGuard; intro h; simpa using h

/-- Non-vacuity of the limits theorems: an accepted dictionary within, and one beyond, the limit. -/
example : (sessionParseInfo 2 3 [] { pieceLength := 64, piecesLen := 40, name := [0x74], nameUtf8 := [], priv := [], length := 100, files := [] }).isSome = true := by decide
example : (sessionParseInfo 1 3 [] { pieceLength := 64, piecesLen := 40, name := [0x74], nameUtf8 := [], priv := [], length := 100, files := [] }).isSome = false := by decide

/-- The historical defect (fixed in the rain checkout): the parser as it was accepted
`files = [50, −50, 100]` (only the sum was checked), a description that is not well-formed — the one
`piece.NewPieces` never terminates on.  The same witness is kept in `corpus/parse/`. -/
theorem newInfoPre_negative_counterexample :
    acceptedNotWF (newInfoPre ⟨true, true, []⟩
      { pieceLength := 64, piecesLen := 40, name := [0x74], nameUtf8 := [], priv := [], length := 0,
        files := [⟨50, [[0x61]], [], []⟩, ⟨-50, [[0x62]], [], []⟩, ⟨100, [[0x63]], [], []⟩] }) = true := by
  decide

/-- The same defect through a wrapping sum: `2^63−1 + 2^63−1 + 102 ≡ 100 (mod 2^64)`. -/
theorem newInfoPre_wrap_counterexample :
    acceptedNotWF (newInfoPre ⟨true, true, []⟩
      { pieceLength := 64, piecesLen := 40, name := [0x74], nameUtf8 := [], priv := [], length := 0,
        files := [⟨9223372036854775807, [[0x61]], [], []⟩, ⟨9223372036854775807, [[0x62]], [], []⟩,
                  ⟨102, [[0x63]], [], []⟩] }) = true := by
  decide

end Rain.Props.C06
