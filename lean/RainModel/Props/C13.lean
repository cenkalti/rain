import RainModel.Lemmas.InfoDownloader
import RainModel.Lemmas.Adopt
import RainModel.Lemmas.Magnet
/-!
C13 — magnet metadata is adopted only if it hashes to the link's info-hash.
-/
namespace Rain.Props.C13
open Rain.InfoDL

/-! ## InfoDownloader (`internal/infodownloader`) -/

/-- **id_accept.** After *any* history of `RequestBlocks`/`GotBlock` calls on a fresh downloader
for a `sz`-byte info, a further `GotBlock(i, data)`
* never panics (no slice-bounds failure, no `uint32` wrap: the byte range fits in `sz`);
* if it returns nil, then `i` is an index that was passed to `RequestMetadataPiece` in that
  history, `i` is a valid piece index, `data` has exactly that piece's size, and the buffer changes
  to `splice old (i*bs) data` — i.e. bytes before `i*bs` and from `i*bs + len(data)` on are untouched;
* if it returns an error, the downloader (buffer, pending, cursor) is unchanged. -/
theorem id_accept (bs sz : Nat) (hbs : 0 < bs) (ops : List Op) (i : Nat) (data : Bytes) :
    let d := run bs (newWith bs sz) ops
    let r := gotBlock bs d i data
    r.2 ≠ .panic ∧
    (r.2 = .ok →
      i ∈ requestedIdx bs (newWith bs sz) ops ∧ i < numBlocks bs sz ∧
      data.length = blockLen bs sz i ∧ i * bs + data.length ≤ sz ∧
      r.1.bytes = splice d.bytes (i * bs) data ∧ r.1.bytes.length = sz) ∧
    (r.2 ≠ .ok → r.1 = d) := by
  intro d r
  have w : WF bs sz d := (hinv_run hbs ops (hinv_new (sz := sz) hbs)).wf
  rcases gotBlock_cases hbs w i data with ⟨e, he⟩ | ⟨hn, hl, hrc, he⟩
  · have : r = (d, .err e) := he
    simp [this]
  · have hr : r = (stored bs sz d i data, .ok) := he
    have hi : i < numBlocks bs sz := Nat.lt_of_lt_of_le hn w.next_le
    have := range_le (sz := sz) hbs hi
    rw [hr]
    refine ⟨by simp, fun _ => ⟨?_, hi, hl, by omega, rfl, (wf_stored hbs w hn hl hrc).blen⟩, by simp⟩
    exact ((mem_requestedIdx hbs ops (wf_new hbs)).2 i).2 ⟨Nat.zero_le _, hn⟩

/-- Non-vacuity of `id_accept` (block size 2, 5-byte info): an accepted answer for the short last
piece, and the four rejections. -/
example :
    let d := run 2 (newWith 2 5) [.req 3]
    (gotBlock 2 d 2 [9]).2 = .ok ∧ (gotBlock 2 d 2 [9]).1.bytes = [0, 0, 0, 0, 9] ∧
    (gotBlock 2 d 2 [9, 9]).2 = .err .size ∧ (gotBlock 2 d 3 [9]).2 = .err .index ∧
    (gotBlock 2 (run 2 (newWith 2 5) [.req 2]) 2 [9]).2 = .err .unrequested ∧
    (gotBlock 2 (run 2 (newWith 2 5) [.req 3, .got 2 [9]]) 2 [8]).2 = .err .duplicate := by decide

/-- **id_accepted_once.** With the repaired `GotBlock` no index is accepted twice, in every history
(before the repair this was a hypothesis about the peer, `_once` below). -/
theorem id_accepted_once (bs sz : Nat) (hbs : 0 < bs) (ops : List Op) :
    ((accepted bs (newWith bs sz) ops).map (·.1)).Nodup := by
  have hI := hinv_run hbs ops (hinv_new (sz := sz) hbs)
  simpa using hI.nd

/-- **id_assembled.** For every history from a fresh downloader: if `Done()` is true at the end,
then every piece index has an accepted answer and `Bytes` is the concatenation of the accepted
answers in index order. -/
theorem id_assembled (bs sz : Nat) (hbs : 0 < bs) (ops : List Op)
    (hdone : done (run bs (newWith bs sz) ops) = true) :
    (∀ i, i < numBlocks bs sz → ∃ data, (i, data) ∈ accepted bs (newWith bs sz) ops) ∧
    (run bs (newWith bs sz) ops).bytes = assembled bs sz (accepted bs (newWith bs sz) ops) :=
  assembled_of_done hbs (hinv_run hbs ops (hinv_new hbs)) hdone

/-- **id_assembled_honest.** `id_assembled` under the hypothesis `_once` (no index accepted twice), which had to be
assumed of the peer before the repair of `GotBlock`; `id_accepted_once` proves it. -/
theorem id_assembled_honest (bs sz : Nat) (hbs : 0 < bs) (ops : List Op)
    (_once : ((accepted bs (newWith bs sz) ops).map (·.1)).Nodup)
    (hdone : done (run bs (newWith bs sz) ops) = true) :
    (∀ i, i < numBlocks bs sz → ∃ data, (i, data) ∈ accepted bs (newWith bs sz) ops) ∧
    (run bs (newWith bs sz) ops).bytes = assembled bs sz (accepted bs (newWith bs sz) ops) :=
  id_assembled bs sz hbs ops hdone

/-- Non-vacuity of `id_assembled`: an out-of-order exchange with a repeated and a late answer
(block size 2, 5 bytes); the repeats are refused and change nothing. -/
example :
    let ops := [Op.req 2, .got 1 [3, 4], .got 1 [9, 9], .got 0 [1, 2], .req 2, .got 0 [7, 7], .got 2 [5]]
    done (run 2 (newWith 2 5) ops) = true ∧
    (run 2 (newWith 2 5) ops).bytes = [1, 2, 3, 4, 5] ∧
    accepted 2 (newWith 2 5) ops = [(1, [3, 4]), (0, [1, 2]), (2, [5])] := by decide

/-! ### The repaired accounting of `pending` (finding C17-F6) -/

/-- Largest window ever passed to `RequestBlocks` in a history (0 if none was positive). -/
def maxQ : List Op → Int
  | [] => 0
  | .req q :: rest => max q (maxQ rest)
  | .got _ _ :: rest => maxQ rest

/-- **idl_pending_counts_outstanding.** In every reachable state `pending` is the number of blocks
that were requested and whose answer has not been stored (`outstanding`), so it is never negative;
and only requested blocks are marked received. -/
theorem idl_pending_counts_outstanding (bs sz : Nat) (hbs : 0 < bs) (ops : List Op) :
    let d := run bs (newWith bs sz) ops
    d.pending = ((d.blocks.countP fun b => b.requested && !b.received : Nat) : Int) ∧
    0 ≤ d.pending ∧
    ∀ b ∈ d.blocks, b.received = true → b.requested = true := by
  intro d
  have hI := hinv_run hbs ops (hinv_new (sz := sz) hbs)
  exact ⟨hI.wf.cnt, by rw [hI.wf.cnt]; omega, hI.wf.requested_of_received⟩

/-- **idl_pending_within_window.** `RequestBlocks(q)` from any reachable state: `pending` afterwards
is at most `max q (pending before)`; the requests it sends plus those already outstanding stay
within the window (`≤ max q outstanding`), and every request sent is counted as outstanding. -/
theorem idl_pending_within_window (bs sz : Nat) (hbs : 0 < bs) (ops : List Op) (q : Int) :
    let d := run bs (newWith bs sz) ops
    let r := requestBlocks d q
    r.1.pending ≤ max q d.pending ∧
    (outstanding d : Int) + r.2.length ≤ max q (outstanding d) ∧
    (outstanding r.1 : Int) = outstanding d + r.2.length := by
  intro d r
  have hI := hinv_run hbs ops (hinv_new (sz := sz) hbs)
  obtain ⟨w, _, _, _, hp, hwin, _⟩ := requestBlocks_spec hI.wf q
  refine ⟨hwin, ?_, by rw [← w.cnt, hp, hI.wf.cnt]⟩
  rw [← hI.wf.cnt]
  exact hp ▸ hwin

theorem maxQ_nonneg : ∀ ops : List Op, 0 ≤ maxQ ops
  | [] => Int.le_refl 0
  | .req _ :: rest => Int.le_trans (maxQ_nonneg rest) (Int.le_max_right ..)
  | .got _ _ :: rest => maxQ_nonneg rest

/-- `RequestBlocks(q)` stops at `q`, `GotBlock` only counts down. -/
theorem run_pending_le {bs sz : Nat} (hbs : 0 < bs) (ops : List Op) :
    ∀ {d : ID}, WF bs sz d → (run bs d ops).pending ≤ max d.pending (maxQ ops) := by
  induction ops with
  | nil => intro d _; exact Int.le_max_left ..
  | cons op rest ih =>
    intro d hw
    refine Int.le_trans (ih (wf_step hbs hw op)) (Int.max_le.2 ?_)
    cases op with
    | req q =>
      -- `max q pending ≤ max pending (max q (maxQ rest))`
      exact ⟨Int.le_trans (requestBlocks_spec hw q).2.2.2.2.2.1
          (Int.max_le.2 ⟨Int.le_trans (Int.le_max_left ..) (Int.le_max_right ..), Int.le_max_left ..⟩),
        Int.le_trans (Int.le_max_right q _) (Int.le_max_right ..)⟩
    | got i data =>
      refine ⟨Int.le_trans ?_ (Int.le_max_left ..), Int.le_max_right ..⟩
      rcases gotBlock_cases hbs hw i data with ⟨_, e⟩ | ⟨_, _, _, e⟩ <;> rw [step, e]
      · exact Int.le_refl _
      · exact Int.sub_le_self _ (by decide)

/-- **idl_pending_bound** (for C17). After every history, `pending` — which is the number of requests
without an answer — lies between 0 and the largest window ever passed to `RequestBlocks`. -/
theorem idl_pending_bound (bs sz : Nat) (hbs : 0 < bs) (ops : List Op) :
    let d := run bs (newWith bs sz) ops
    0 ≤ d.pending ∧ d.pending ≤ maxQ ops ∧ (outstanding d : Int) ≤ maxQ ops := by
  intro d
  have hcnt : d.pending = (outstanding d : Int) := (hinv_run hbs ops (hinv_new (sz := sz) hbs)).wf.cnt
  have hk : d.pending ≤ max 0 (maxQ ops) := run_pending_le hbs ops (wf_new hbs)
  have := maxQ_nonneg ops
  omega

/-- **idl_done_iff_all_received.** In every reachable state `Done()` is true exactly when every
block has a stored answer: never before (no premature `Done`), and as soon as the last answer is
stored. -/
theorem idl_done_iff_all_received (bs sz : Nat) (hbs : 0 < bs) (ops : List Op) :
    let d := run bs (newWith bs sz) ops
    done d = true ↔ ∀ b ∈ d.blocks, b.received = true :=
  have hI := hinv_run hbs ops (hinv_new (sz := sz) hbs)
  done_iff_all_received hI.wf

/-- Non-vacuity (block size 2, 5 bytes, windows 2 and 1): `pending` follows the outstanding
requests through a repeated answer, the window is respected, `Done()` turns true with the last
answer and not earlier. -/
example :
    let ops := [Op.req 2, .got 0 [1, 2], .got 0 [1, 2], .req 1]
    let d := run 2 (newWith 2 5) ops
    d.pending = 1 ∧ outstanding d = 1 ∧ maxQ ops = 2 ∧ done d = false ∧
    (requestBlocks d 2).2 = [2] ∧ (requestBlocks d 2).1.pending = 2 ∧
    done (run 2 d [.req 2, .got 1 [3, 4]]) = false ∧
    done (run 2 d [.req 2, .got 1 [3, 4], .got 2 [5]]) = true := by decide

/-- `GotBlock` as it was before the repair: no memory of stored answers, every accepted answer
decrements `pending`. -/
def gotBlockOld (bs : Nat) (d : ID) (index : Nat) (data : Bytes) : ID × GotRes :=
  if index ≥ d.blocks.length then (d, .err .index) else
  match d.blocks[index]? with
  | none => (d, .panic)
  | some b =>
    if !b.requested then (d, .err .unrequested) else
    if data.length ≠ b.size then (d, .err .size) else
    let d1 := { d with pending := d.pending - 1 }
    let begin := index * bs
    let end_ := begin + b.size
    if end_ > d.bytes.length then (d1, .panic) else
    ({ d1 with bytes := d.bytes.take begin ++ data ++ d.bytes.drop end_ }, .ok)

def stepOld (bs : Nat) (d : ID) : Op → ID
  | .req q => (requestBlocks d q).1
  | .got i data => (gotBlockOld bs d i data).1

def runOld (bs : Nat) (d : ID) (ops : List Op) : ID := ops.foldl (stepOld bs) d

/-- **idl_repeat_unfixed_counterexample** (finding C17-F6). With the old `GotBlock` (block size 4,
a 12-byte info, three blocks), a peer that repeats its answers
* drives `pending` below zero,
* makes `RequestBlocks(1)` send two requests at once (window 1, two requests outstanding),
* makes `Done()` true although blocks 1 and 2 never arrived (their bytes are still zero),
and a peer that repeats only its first answer leaves `pending` at −1 when everything has arrived,
so that `Done()` is never true.  The same histories on the repaired model refuse the repeats. -/
theorem idl_repeat_unfixed_counterexample :
    let d0 := newWith 4 12
    -- pending below zero
    (runOld 4 d0 [.req 1, .got 0 [1, 2, 3, 4], .got 0 [1, 2, 3, 4], .got 0 [1, 2, 3, 4]]).pending = -2 ∧
    -- window 1, two requests in one call
    (requestBlocks (runOld 4 d0 [.req 1, .got 0 [1, 2, 3, 4], .got 0 [1, 2, 3, 4]]) 1).2 = [1, 2] ∧
    -- premature Done
    (let d := runOld 4 d0 [.req 1, .got 0 [1, 2, 3, 4], .got 0 [1, 2, 3, 4], .req 1, .got 0 [1, 2, 3, 4]]
     done d = true ∧ d.bytes = [1, 2, 3, 4, 0, 0, 0, 0, 0, 0, 0, 0]) ∧
    -- Done never
    (let d := runOld 4 d0 [.req 3, .got 0 [1, 2, 3, 4], .got 0 [1, 2, 3, 4], .got 1 [5, 6, 7, 8], .got 2 [9, 10, 11, 12]]
     done d = false ∧ d.pending = -1 ∧ d.bytes = [1, 2, 3, 4, 5, 6, 7, 8, 9, 10, 11, 12]) ∧
    -- the repaired model on the same histories
    (run 4 d0 [.req 1, .got 0 [1, 2, 3, 4], .got 0 [1, 2, 3, 4], .got 0 [1, 2, 3, 4]]).pending = 0 ∧
    (gotBlock 4 (run 4 d0 [.req 1, .got 0 [1, 2, 3, 4]]) 0 [1, 2, 3, 4]).2 = .err .duplicate ∧
    (requestBlocks (run 4 d0 [.req 1, .got 0 [1, 2, 3, 4], .got 0 [1, 2, 3, 4]]) 1).2 = [1] ∧
    done (run 4 d0 [.req 1, .got 0 [1, 2, 3, 4], .got 0 [1, 2, 3, 4], .req 1, .got 0 [1, 2, 3, 4]]) = false ∧
    done (run 4 d0 [.req 3, .got 0 [1, 2, 3, 4], .got 0 [1, 2, 3, 4], .got 1 [5, 6, 7, 8], .got 2 [9, 10, 11, 12]]) = true := by
  decide

/-- A repeated answer makes `Done()` true with a piece missing under the old `GotBlock`; the repaired
one refuses the repeat. -/
theorem id_done_premature_by_repeat :
    let ops := [Op.req 2, .got 0 [1, 2], .got 0 [1, 2]]
    (done (runOld 2 (newWith 2 4) ops) = true ∧ (runOld 2 (newWith 2 4) ops).bytes = [1, 2, 0, 0]) ∧
    (done (run 2 (newWith 2 4) ops) = false ∧ accepted 2 (newWith 2 4) ops = [(0, [1, 2])]) := by decide

/-! ## Adoption (`torrent/torrent_metadataextension.go`, `torrent_infodownload.go`) -/
section Adopt
open Rain.Adopt
variable {Hash : Type} [DecidableEq Hash]

/-- **adopt_only_if_hash.** For every hash function `H`, every info-hash, every behaviour of
`parseInfo`/`WriteInfo`, every configuration, and **every history** of connects, extension
handshakes, metadata data/reject messages (any index, any size, any duplication, from any number
of peers), snub time-outs and disconnects, with every resolution of the map-iteration
nondeterminism: if the torrent ends up with metadata `b`, then `H b = infoHash`. -/
theorem adopt_only_if_hash (env : Env Hash) (es : List Event) (b : Bytes) :
    (Adopt.run env State.init es).info = some b → env.H b = env.infoHash :=
  fun h => ((inv_run env es State.init (inv_init env)).hash b h).1

/-- **private_refused** (with C19). In every history, metadata whose info dictionary carries the
private flag (or does not parse) is never adopted from peers. -/
theorem private_refused (env : Env Hash) (es : List Event) (b : Bytes) :
    (Adopt.run env State.init es).info = some b → env.parseInfo b = some false :=
  fun h => ((inv_run env es State.init (inv_init env)).hash b h).2

/-- The decision function on its own: it answers `adopt` (or sets `info` while stopping on a
resume-write error) only if the assembled bytes hash to the info-hash, and never for a private
torrent or unparsable bytes. -/
theorem decide_adopt_iff (env : Env Hash) (bytes : Bytes) :
    (decide_ env bytes = .adopt ↔
      env.H bytes = env.infoHash ∧ env.parseInfo bytes = some false ∧ env.writeOk bytes = true) ∧
    (∀ r, decide_ env bytes = .stop r true → env.H bytes = env.infoHash) :=
  ⟨(decide_spec env bytes).1, fun r h => ((decide_spec env bytes).2 r h).1⟩

/-- **size_cap.** For every history and every next event, every `RequestMetadataPiece(i)` the
client sends goes to a connected peer whose extension handshake announced a metadata size with
`0 < size ≤ MaxMetadataSize` (and `ut_metadata` support), and `i` is a valid piece index for that
size.  Together with the decoder's clamp this covers negative, zero and oversized announcements. -/
theorem size_cap (env : Env Hash) (es : List Event) (e : Event) (p : PeerId) (i : Nat) :
    let s := Adopt.run env State.init es
    Out.request p i ∈ (Adopt.step env s e).2 →
    ∃ pe ∈ (Adopt.step env s e).1.peers, pe.id = p ∧ ∃ h, pe.hs = some h ∧
      0 < h.msize ∧ h.msize ≤ env.maxSize ∧ h.hasMeta = true ∧
      i < numBlocks blockSize (peerMetadataSize h) := by
  intro s hmem
  have hI := inv_run env es State.init (inv_init env)
  obtain ⟨pe, hpe, hid, h, hh, hg, hi⟩ := (step_spec env s e hI).2 _ hmem p i rfl
  exact ⟨pe, hpe, hid, h, hh, hg.1, hg.2.1, hg.2.2, hi⟩

/-- With `MaxMetadataSize < 2^32` (default 30 MiB) the buffer allocated for such a peer has exactly
the announced size, hence at most `MaxMetadataSize` bytes. -/
theorem size_cap_alloc (h : Handshake) (maxSize : Int) (hm : maxSize < 2 ^ 32)
    (h0 : 0 < h.msize) (h1 : h.msize ≤ maxSize) :
    (new (peerMetadataSize h)).bytes.length = h.msize.toNat := by
  simp only [new, newWith, List.length_replicate, peerMetadataSize]
  rw [Int.emod_eq_of_lt (by omega) (by omega)]

/-- The slice-bounds panic of `GotBlock` is unreachable in every history. -/
theorem metadata_never_panics (env : Env Hash) (es : List Event) :
    (Adopt.run env State.init es).panicked = false :=
  (inv_run env es State.init (inv_init env)).nopanic

/-- Non-vacuity: with the identity as "hash", block size 16 KiB and a 3-byte info, a lying peer
(1) is dropped on hash mismatch and an honest peer (2) gets the metadata adopted; requests are
really sent. -/
def demoEnv : Env Bytes :=
  { H := id, infoHash := [7, 8, 9], parseInfo := fun _ => some false, writeOk := fun _ => true,
    queue := fun _ => 2, maxSize := 100, parallel := 1 }

example :
    let es := [Event.connect 1, .connect 2, .handshake 1 3 true [], .handshake 2 3 true [],
               .data 1 0 [1, 1, 1] [], .data 2 0 [7, 8, 9] []]
    (Adopt.run demoEnv State.init es).info = some [7, 8, 9] ∧
    (Adopt.step demoEnv (Adopt.run demoEnv State.init (es.take 2)) (es.getD 2 (.connect 0))).2 = [Out.request 1 0] ∧
    (Adopt.step demoEnv (Adopt.run demoEnv State.init (es.take 4)) (es.getD 4 (.connect 0))).2 =
      [Out.closePeer 1, Out.request 2 0] := by decide

/-- Non-vacuity of the cap: announcements 0, −5 (clamped) and 101 > max are never asked. -/
example :
    let es := [Event.connect 1, .connect 2, .connect 3, .handshake 1 0 true [], .handshake 2 (-5) true [],
               .handshake 3 101 true []]
    (Adopt.run demoEnv State.init es).dls = [] := by decide

end Adopt

/-! ## Magnet links (`internal/magnet`) -/
section MagnetLinks
open Rain.Magnet

/-- **magnet_roundtrip.** For every magnet value `m` (20-byte info-hash; any name, any tiers, any
peer strings — at the level of decoded query parameters) and **every** iteration order of the
`url.Values` map (`order`: the distinct keys of the rendered link, each once): parsing the
rendered link succeeds and yields the same info-hash, name and peers, and a tier list that is a
permutation of the non-empty tiers of `m`, each tier unchanged (same members, same order).
Empty tiers are not representable in a link; `Session.parseTrackers` never produces one, so for
an exported link the tiers are the same multiset. -/
theorem magnet_roundtrip (m : Magnet) (hih : m.ih.length = 20) (hb : ∀ b ∈ m.ih, b < 256)
    (hlen : m.trackers.length ≤ 2 ^ 63) (order : List Str) (hnd : order.Nodup)
    (hmem : ∀ k, k ∈ order ↔ k ∈ (render m).map (·.1)) :
    ∃ m', parse [109, 97, 103, 110, 101, 116] order (render m) = .ok m' ∧
      m'.ih = m.ih ∧ m'.name = m.name ∧ m'.peers = m.peers ∧
      m'.trackers.Perm (m.trackers.filter (· ≠ [])) :=
  ⟨_, parse_render m hih hb order, rfl, rfl, rfl, rawTiers_order_perm m hlen order hnd hmem⟩

/-- The same statement for the driver's decidable oracle `roundtripOk`. -/
theorem magnet_roundtrip_oracle (m : Magnet) (hih : m.ih.length = 20) (hb : ∀ b ∈ m.ih, b < 256)
    (hlen : m.trackers.length ≤ 2 ^ 63) (order : List Str) (hnd : order.Nodup)
    (hmem : ∀ k, k ∈ order ↔ k ∈ (render m).map (·.1)) :
    ∃ m', parse [109, 97, 103, 110, 101, 116] order (render m) = .ok m' ∧ roundtripOk m m' = true := by
  obtain ⟨m', hp, h1, h2, h3, h4⟩ := magnet_roundtrip m hih hb hlen order hnd hmem
  refine ⟨m', hp, ?_⟩
  simp only [roundtripOk, h1, h2, h3, sameTiers, decide_true, Bool.and_self, Bool.true_and]
  exact List.isPerm_iff.2 h4

/-- Non-vacuity: a link with a name needing escaping, a multi-tracker tier before a single one
(so the order of tiers changes), an empty tier and two peers; `distinctKeys` is one admissible
order. -/
example :
    let m : Magnet := { ih := List.replicate 20 171, name := [97, 32, 38, 98],
                        trackers := [[[1], [2]], [[3]], [], [[4], [5], [6]]], peers := [[49], [50]] }
    (distinctKeys (render m)).Nodup ∧ (∀ k ∈ (render m).map (·.1), k ∈ distinctKeys (render m)) ∧
    (parse [109, 97, 103, 110, 101, 116] (distinctKeys (render m)) (render m)).toOption.map (·.trackers) =
      some [[[3]], [[1], [2]], [[4], [5], [6]]] := by decide

end MagnetLinks

end Rain.Props.C13
