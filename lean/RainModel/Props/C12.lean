import RainModel.Lemmas.MSE
/-!
C12 — MSE handshake/stream correct for all pads and chunkings; forced encryption holds.
The definitions the statements use (`Honest`, `MatchAt`, `doneA/doneB`, `sendAll/recvAll`,
`Conn.encrypted`) are in `Lemmas/MSE`.

Cryptography is a parameter `c : Crypto`; every theorem holds for every `c`.  What an honest run
needs from it (sizes, Diffie-Hellman agreement) and the two *named hypotheses* — the
synchronisation markers do not occur in the random pads before their true position — are the
fields of `Honest`.  The transport's fragmentation enters the handshake only through the size of
the first read (`frA`, `frB`: every admissible value `96 ≤ fr ≤ 96 + |pad|`), and the stream
afterwards through arbitrary fragment lists (`recvAll`).
-/
namespace Rain.Props.C12
open Rain.MSE

/-- **sync_found.** For a marker `key` behind `pub ‖ pad` (`|pub| = 96`), every admissible first
read `fr` and the scan budget the code uses (`96 + 512 + |key| - fr`; 628 for `req1`, 616 for the
encrypted VC): if `key` does not occur earlier (named hypothesis `hno`), then for every
`|pad| ≤ 512` the scan stops exactly behind the marker, and for every longer pad it reports
failure after exactly `608 + |key|` bytes of the stream — it never runs past its bound. -/
theorem sync_found (key pub pad tail : Bytes) (fr : Nat)
    (hpub : pub.length = 96) (hfr : 96 ≤ fr) (hfr2 : fr ≤ 96 + pad.length) (hfr3 : fr ≤ 608)
    (hno : ∀ j, fr ≤ j → j < 96 + pad.length → ¬ MatchAt key (pub ++ pad ++ key) j) :
    readSync key (((608 + key.length : Nat) : Int) - fr) ((pub ++ pad ++ key ++ tail).drop fr) =
      if pad.length ≤ 512 then .found tail
      else .notFound ((pub ++ pad ++ key ++ tail).drop (608 + key.length)) := by
  rw [sync_prefix key (pub ++ pad) tail fr (608 + key.length) _ _ (by rw [List.length_append, hpub]) rfl hfr2
    (by omega) hno]
  by_cases hp : pad.length ≤ 512
  · rw [if_pos hp, if_pos (by omega)]
  · rw [if_neg hp, if_neg (by omega)]

/-- The scan for `req1` exactly as `HandshakeIncoming` runs it (`readSync(req1, 628-firstRead)`),
for all `|PadA| ≤ 512` and all admissible first reads. -/
theorem sync_found_req1 (req1 pub pad tail : Bytes) (fr : Nat) (h20 : req1.length = 20)
    (hpub : pub.length = 96) (hpad : pad.length ≤ 512) (hfr : 96 ≤ fr) (hfr2 : fr ≤ 96 + pad.length)
    (hno : ∀ j, fr ≤ j → j < 96 + pad.length → ¬ MatchAt req1 (pub ++ pad ++ req1) j) :
    readSync req1 (628 - (fr : Int)) ((pub ++ pad ++ req1 ++ tail).drop fr) = .found tail := by
  have := sync_found req1 pub pad tail fr hpub hfr hfr2 (by omega) hno
  simp only [h20, hpad, if_true] at this
  exact this

/-- The scan for the encrypted VC exactly as `HandshakeOutgoing` runs it
(`readSync(vcEnc, 616-firstRead)`), for all `|PadB| ≤ 512` and all admissible first reads. -/
theorem sync_found_vc (vcEnc pub pad tail : Bytes) (fr : Nat) (h8 : vcEnc.length = 8)
    (hpub : pub.length = 96) (hpad : pad.length ≤ 512) (hfr : 96 ≤ fr) (hfr2 : fr ≤ 96 + pad.length)
    (hno : ∀ j, fr ≤ j → j < 96 + pad.length → ¬ MatchAt vcEnc (pub ++ pad ++ vcEnc) j) :
    readSync vcEnc (616 - (fr : Int)) ((pub ++ pad ++ vcEnc ++ tail).drop fr) = .found tail := by
  have := sync_found vcEnc pub pad tail fr hpub hfr hfr2 (by omega) hno
  simp only [h8, hpad, if_true] at this
  exact this

/-- Soundness for arbitrary input (no hypothesis on the pad): a scan that succeeds stopped behind
the *first* occurrence of the marker and that occurrence ends within the budget. -/
theorem sync_sound (key s : Bytes) (max : Nat) (hmax : key.length ≤ max) (r : Bytes)
    (h : readSync key (max : Int) s = .found r) :
    ∃ k, MatchAt key s k ∧ (∀ j, j < k → ¬ MatchAt key s j) ∧ k + key.length ≤ max ∧
      r = s.drop (k + key.length) :=
  readSync_sound key s max hmax r h

/-- Non-vacuity of `sync_found`: pad 3 with first read 97, marker found; and a planted early
occurrence is where the scan stops (the named hypothesis is needed). -/
example : readSync [7, 7] (628 - 97) ((List.replicate 96 1 ++ [1, 2, 3] ++ [7, 7] ++ [9]).drop 97) = .found [9] := by
  decide
example : readSync [7, 7] (628 - 96) ((List.replicate 96 1 ++ [7, 7, 3] ++ [7, 7] ++ [9]).drop 96)
    = .found [3, 7, 7, 9] := by decide

/-- Non-vacuity of `Honest` (and with it of `agree`, `stream_id`, `both_or_neither`): pads 2/1/1/2,
initiator's first read 97 (one pad byte swallowed), receiver's 96. -/
example : Honest toyC toyO toyI 97 96 where
  pubA := by decide
  pubB := by decide
  dhAgree := by decide
  req1Len := by decide
  req3Len := by decide
  hskLen := by decide
  padA := by decide
  padB := by decide
  padC := by decide
  padD := by decide
  provide := by decide
  frAok := by decide
  frBok := by decide
  noEarlyReq1 := by
    intro j h1 h2
    have : j = 96 ∨ j = 97 := by simp [toyO] at h2; omega
    rcases this with rfl | rfl <;> decide
  noEarlyVC := by
    intro j h1 h2
    simp [toyI] at h2; omega

example : selectedCheck (toyI.select toyO.provide) toyO.provide = .ok () := by rfl
example : toyI.getSKey (toyC.hashSKey toyO.sKey) = some toyO.sKey := by decide

/-- **agree.** Two honest endpoints, any pads `≤ 512`, any admissible first reads, any offer and
any `cryptoSelect` function: if both sides complete, they hold the same selected method, it is a
single bit, and that bit is one of the offered ones. -/
theorem agree (c : Crypto) (o : OutCfg) (i : InCfg) (frA frB : Nat) (H : Honest c o i frA frB)
    (hl : LooksUpByHash c i) (hinj : ∀ a b, c.hashSKey a = c.hashSKey b → a = b)
    (hselR : i.select o.provide < 4294967296)
    (dA dB : Done) (hA : (session c o i frA frB).resA = .ok dA) (hB : (session c o i frA frB).resB = .ok dB) :
    dA.selected = dB.selected ∧ dB.provided = o.provide ∧
      ∃ k, k < 32 ∧ dA.selected = 2 ^ k ∧ o.provide.testBit k = true := by
  rw [session_eq c o i frA frB H (getSKey_honest c o i hl hinj)] at hA hB
  obtain ⟨hchk, rfl, hB'⟩ := honestSession_ok hA
  rw [hB'] at hB
  obtain rfl := Except.ok.inj hB
  obtain ⟨k, hk, hb⟩ := selectedCheck_ok _ _ hchk
  refine ⟨rfl, rfl, k, ?_, hk, hb⟩
  have : 2 ^ k < 2 ^ 32 := by
    rw [← hk]; exact hselR
  exact (Nat.pow_lt_pow_iff_right (by omega)).1 this

/-- **both_or_neither.** Under the same hypotheses the handshake completes on both sides or on
neither. -/
theorem both_or_neither (c : Crypto) (o : OutCfg) (i : InCfg) (frA frB : Nat) (H : Honest c o i frA frB)
    (hl : LooksUpByHash c i) (hinj : ∀ a b, c.hashSKey a = c.hashSKey b → a = b)
    (hselR : i.select o.provide < 4294967296) :
    (∃ dA, (session c o i frA frB).resA = .ok dA) ↔ (∃ dB, (session c o i frA frB).resB = .ok dB) := by
  rw [session_eq c o i frA frB H (getSKey_honest c o i hl hinj)]
  rcases honestSession_cases c o i with ⟨eA, eB, hA, hB⟩ | ⟨_, hA, hB⟩
  · rw [hA, hB]
    exact ⟨fun ⟨_, h⟩ => (nomatch h), fun ⟨_, h⟩ => (nomatch h)⟩
  · exact ⟨fun _ => ⟨_, hB⟩, fun _ => ⟨_, hA⟩⟩

/-- **completes.** Liveness half: an honest run whose offer is non-empty, whose initial payload
fits the 16-bit length field, whose key the receiver knows and whose `cryptoSelect` picks one
offered bit *does* complete on both sides (so `agree` and `stream_id` are not vacuous). -/
theorem completes (c : Crypto) (o : OutCfg) (i : InCfg) (frA frB : Nat) (H : Honest c o i frA frB)
    (hprov0 : o.provide ≠ 0) (hia : o.ia.length ≤ 65535)
    (hkey : i.getSKey (c.hashSKey o.sKey) = some o.sKey)
    (hselR : i.select o.provide < 4294967296)
    (hchk : selectedCheck (i.select o.provide) o.provide = .ok ()) :
    ∃ dA dB, (session c o i frA frB).resA = .ok dA ∧ (session c o i frA frB).resB = .ok dB := by
  rw [session_eq c o i frA frB H (fun k hk => by rw [hkey] at hk; exact (Option.some.inj hk).symm)]
  unfold honestSession
  rw [if_neg hprov0, if_neg (by omega), hkey, hchk]
  exact ⟨_, _, rfl, rfl⟩

/-- **fragmentation_irrelevant.** The only place where the transport's fragmentation enters the
handshake is the size of each side's first read.  For any two admissible pairs of first-read sizes
the whole session — both results with their cipher states, and every byte put on the wire in
either direction — is the same. -/
theorem fragmentation_irrelevant (c : Crypto) (o : OutCfg) (i : InCfg) (frA frB frA' frB' : Nat)
    (H : Honest c o i frA frB) (H' : Honest c o i frA' frB')
    (hl : LooksUpByHash c i) (hinj : ∀ a b, c.hashSKey a = c.hashSKey b → a = b)
    (hselR : i.select o.provide < 4294967296) :
    session c o i frA frB = session c o i frA' frB' := by
  rw [session_eq c o i frA frB H (getSKey_honest c o i hl hinj),
    session_eq c o i frA' frB' H' (getSKey_honest c o i hl hinj)]

/-- **stream_id.** If both sides complete: the receiver holds the initial payload unchanged; each
side's write cipher state equals the other side's read cipher state — same key-stream, same
position (1024 discarded bytes + VC + fields + pads [+ initial payload]), same RC4/plaintext
switch; nothing of the transport is left unconsumed; and therefore, for every sequence of writes
on one side and every fragmentation of the resulting wire bytes on the other, the bytes read are
exactly the bytes written (after the initial payload in the A→B direction). -/
theorem stream_id (c : Crypto) (o : OutCfg) (i : InCfg) (frA frB : Nat) (H : Honest c o i frA frB)
    (hl : LooksUpByHash c i) (hinj : ∀ a b, c.hashSKey a = c.hashSKey b → a = b)
    (hselR : i.select o.provide < 4294967296)
    (dA dB : Done) (hA : (session c o i frA frB).resA = .ok dA) (hB : (session c o i frA frB).resB = .ok dB) :
    dB.buffered = o.ia ∧ dA.buffered = [] ∧ dA.rest = [] ∧ dB.rest = [] ∧
    dA.w = dB.r ∧ dB.w = dA.r ∧
    (dA.selected ≠ 1 →
      dA.w.pos = 1024 + (8 + 4 + 2 + o.padCLen + 2 + o.ia.length) ∧
      dB.w.pos = 1024 + (8 + 4 + 2 + i.padDLen) ∧ dA.w.plain = false ∧ dB.w.plain = false) ∧
    (dA.selected = 1 → dA.w.plain = true ∧ dB.w.plain = true) ∧
    (∀ (ps frags : List Bytes), frags.flatten = (sendAll dA ps).1 →
      (recvAll dB frags).1 = o.ia ++ ps.flatten) ∧
    (∀ (ps frags : List Bytes), frags.flatten = (sendAll dB ps).1 →
      (recvAll dA frags).1 = ps.flatten) := by
  rw [session_eq c o i frA frB H (getSKey_honest c o i hl hinj)] at hA hB
  obtain ⟨_, rfl, hB'⟩ := honestSession_ok hA
  rw [hB'] at hB
  obtain rfl := Except.ok.inj hB
  refine ⟨rfl, rfl, rfl, rfl, rfl, rfl, ?_, ?_, ?_, ?_⟩
  · intro hne
    have hne' : i.select o.provide ≠ 1 := hne
    simp [doneA, doneB, updateCipher, hne', Ciph.init, apply_rc4, body3_length, body4_length]
  · intro he
    have he' : i.select o.provide = 1 := he
    simp [doneA, doneB, updateCipher, he']
  · exact stream_id_of_sync _ _ rfl rfl
  · exact stream_id_of_sync _ _ rfl rfl

/-- **wrong_key_fails.** The receiver looks keys up by hash, `HashSKey` is injective (named
hypothesis) and the receiver does not hold the initiator's key: the receiver stops with
"invalid SKEY hash" (after `req2 ⊕ req3` was un-xored with its own `req3`), the initiator never
sees step 4, and so neither side completes — for all pads and first reads. -/
theorem wrong_key_fails (c : Crypto) (o : OutCfg) (i : InCfg) (frA frB : Nat) (H : Honest c o i frA frB)
    (hl : LooksUpByHash c i) (hinj : ∀ a b, c.hashSKey a = c.hashSKey b → a = b)
    (hunknown : ∀ h, i.getSKey h ≠ some o.sKey) :
    (∀ d, (session c o i frA frB).resA ≠ .ok d) ∧ (∀ d, (session c o i frA frB).resB ≠ .ok d) ∧
    (o.provide ≠ 0 → o.ia.length ≤ 65535 →
      (session c o i frA frB).resB = .error .invalidSKey ∧ (session c o i frA frB).resA = .error .eof) := by
  have hk : i.getSKey (c.hashSKey o.sKey) = none := by
    cases h : i.getSKey (c.hashSKey o.sKey) with
    | none => rfl
    | some k => rw [getSKey_honest c o i hl hinj k h] at h; exact absurd h (hunknown _)
  rw [session_eq c o i frA frB H (getSKey_honest c o i hl hinj)]
  unfold honestSession
  by_cases h0 : o.provide = 0
  · rw [if_pos h0]
    exact ⟨fun _ h => (nomatch h), fun _ h => (nomatch h), fun h => absurd h0 h⟩
  by_cases h1 : o.ia.length > 65535
  · rw [if_neg h0, if_pos h1]
    exact ⟨fun _ h => (nomatch h), fun _ h => (nomatch h), fun _ h => absurd h1 (by omega)⟩
  rw [if_neg h0, if_neg h1, hk]
  exact ⟨fun _ h => (nomatch h), fun _ h => (nomatch h), fun _ _ => ⟨rfl, rfl⟩⟩

/-- Each side's own guarantee needs no honesty of the other: whatever bytes arrive, a completed
`HandshakeOutgoing` returns a single bit of its own offer, and the stream is switched to plaintext
exactly when that bit is `PlainText`. -/
theorem outgoing_selected (c : Crypto) (o : OutCfg) (fr : Nat) (inp : Bytes) (d : Done)
    (h : (outgoing c o fr inp).2 = .ok d) :
    (∃ k, d.selected = 2 ^ k ∧ o.provide.testBit k = true) ∧
    d.r.plain = decide (d.selected = 1) ∧ d.w.plain = decide (d.selected = 1) := by
  have := outgoing_ok h
  exact ⟨selectedCheck_ok _ _ this.check, this.rplain, this.wplain⟩

/-- … and a completed `HandshakeIncoming` has selected, with its `cryptoSelect`, a single bit of
the offer it decoded. -/
theorem incoming_selected (c : Crypto) (i : InCfg) (fr : Nat) (inp : Bytes) (d : Done)
    (h : (incoming c i fr inp).2 = .ok d) :
    d.selected = i.select d.provided ∧ (∃ k, d.selected = 2 ^ k ∧ d.provided.testBit k = true) ∧
    d.r.plain = decide (d.selected = 1) ∧ d.w.plain = decide (d.selected = 1) := by
  have := incoming_ok h
  exact ⟨this.selected, selectedCheck_ok _ _ this.check, this.rplain, this.wplain⟩

/-- **force_accept.** With `forceEncryption` set, for every byte stream a remote can send, every
first-read size and every `getSKey`: if `Accept` returns a connection at all, it is the MSE
connection with RC4 selected and both directions still under RC4, and the `cipher` it reports is
RC4.  (A plaintext BitTorrent handshake and an MSE handshake offering only plaintext are both
refused.) -/
theorem force_accept (c : Crypto) (a : AcceptCfg) (i : InCfg) (fr : Nat) (inp : Bytes) (w : Bytes) (r : ConnOk)
    (hforce : a.force = true) (h : accept c a i fr inp = (w, .ok r)) :
    r.conn.encrypted = true ∧ r.cipher = 2 := by
  rcases accept_ok h with hf | ⟨p, hcip, hc, henc⟩
  · rw [hforce] at hf; cases hf
  -- the callback answers RC4 or nothing, and nothing does not pass the check
  have h2 : r.cipher = 2 := by
    rw [hforce] at hcip
    rw [hcip] at hc ⊢
    exact (acceptSelect_force p).resolve_right fun h0 => by rw [h0] at hc; cases hc
  exact ⟨by rw [henc, h2]; rfl, h2⟩

/-- **force_dial.** With encryption enabled and `forceEncryption` set (the consistent settings of
the outgoing direction), for every behaviour of the remote and of the network: the offer is RC4
only; if `Dial` returns a connection it is the MSE connection with RC4 selected and both
directions under RC4, it is the *first* connection (`retried = false`), nothing was ever written
on a second connection, and the reported `cipher` is RC4. -/
theorem force_dial (c : Crypto) (g : DialCfg) (e : DialEnv) (w1 w2 : Bytes) (r : ConnOk)
    (henable : g.enable = true) (hforce : g.force = true)
    (h : dial c g e = (w1, w2, .ok r)) :
    dialProvide g.force = 2 ∧ r.conn.encrypted = true ∧ r.retried = false ∧ w2 = [] ∧ r.cipher = 2 := by
  refine ⟨by rw [hforce]; rfl, ?_⟩
  rcases dial_ok h with ⟨hp, _⟩ | ⟨_, hc, henc, hret, hw2⟩
  · rw [henable, hforce] at hp; simp at hp
  rw [hforce] at hc
  have h2 : r.cipher = 2 := selectedCheck_two_pow (k := 1) hc
  exact ⟨by rw [henc, h2]; rfl, hret, hw2, h2⟩

/-- Without `force` the plaintext retry *is* reachable (so `force_dial` is about the flag, not
about an unreachable branch): any failed MSE handshake followed by a successful second dial. -/
theorem retry_reachable : ∃ (c : Crypto) (g : DialCfg) (e : DialEnv) (w1 w2 : Bytes) (r : ConnOk),
    g.enable = true ∧ g.force = false ∧ dial c g e = (w1, w2, .ok r) ∧ r.retried = true ∧
    r.conn.encrypted = false := by
  -- the third `rfl` evaluates `dial` on the witness and reads `w1`, `w2` and `r` off the result
  exact ⟨⟨fun _ => [], fun _ _ => [], fun _ => [], fun _ => [], fun _ => [], fun _ _ _ _ => 0⟩,
    ⟨true, false, List.replicate 8 0, List.replicate 20 1, List.replicate 20 2⟩,
    { dial1 := true, stopped := false, dial2 := true, fr := 96, inp1 := [],
      inp2 := btHandshake (List.replicate 8 0) (List.replicate 20 1) (List.replicate 20 3),
      x := [], padA := [], padCLen := 0 }, _, _, _, rfl, rfl, rfl, rfl, rfl⟩

/-- The inconsistent setting the property excludes ("disable" and "force" both set for the
outgoing direction): `Dial` never negotiates and returns the raw socket. Recorded so the exclusion
in the property's quantifier is visibly needed. -/
theorem disable_and_force_is_plaintext (c : Crypto) (g : DialCfg) (e : DialEnv) (w1 w2 : Bytes) (r : ConnOk)
    (hdis : g.enable = false) (h : dial c g e = (w1, w2, .ok r)) : r.conn.encrypted = false := by
  rcases dial_ok h with ⟨_, hp⟩ | ⟨hen, _⟩
  · exact hp
  · rw [hdis] at hen; cases hen

/-- By-catch (not part of C12, which only speaks about the forced settings): after a failed MSE
handshake `Dial` keeps the `selected` value the failed handshake decoded and reports it as the
`cipher` of the plaintext retry connection.  Witness: the remote selects RC4, announces 5 bytes of
PadD and hangs up; the retry succeeds in plaintext and is labelled RC4 (`Stats` then shows
`EncryptedStream` for an unencrypted peer).  The policy suite exhibits the same on the real code
(`c1=trunc`). -/
theorem retry_label_stale :
    let c : Crypto := ⟨fun x => List.replicate 96 (x.headD 0), fun _ _ => [1], fun _ => List.replicate 20 9,
                       fun _ => List.replicate 20 5, fun _ => List.replicate 20 4, fun _ _ _ _ => 0⟩
    let ih := List.replicate 20 1
    let g : DialCfg := ⟨true, false, List.replicate 8 0, ih, List.replicate 20 2⟩
    let e : DialEnv := { dial1 := true, stopped := false, dial2 := true, fr := 96,
                         inp1 := List.replicate 96 7 ++ zeros 8 ++ be32 2 ++ be16 5,
                         inp2 := btHandshake (List.replicate 8 0) ih (List.replicate 20 3),
                         x := [3], padA := [], padCLen := 0 }
    (match (dial c g e).2.2 with
     | .ok r => r.cipher == 2 && r.retried && !r.conn.encrypted
     | _ => false) = true := by
  decide

end Rain.Props.C12
