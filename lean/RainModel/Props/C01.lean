import RainModel.Model.WriteDone
import RainModel.Lemmas.PieceDownloader
import RainModel.Lemmas.PieceWriter
/-!
C01 — download integrity, package-level half: block assembly (`piecedownloader`), the hash gate
and section writes (`piecewriter`, `piece.VerifyHash`, `filesection.Piece.Write`), zeroed pool
buffers (`bufferpool`), the verifier's result logic, and the decision logic of
`handlePieceWriteDone` / `handleWebseedPieceResult` (`Model/WriteDone`).

Every theorem about hashing holds for an arbitrary `H : Bytes → Hash`.
-/
namespace Rain.Props.C01
open Rain.Blocks

/-! ## bufferpool -/

/-- **bufferpool_get_zero.** Whatever a pooled backing array contained when it was put back,
`Get(n)` hands out `n` zero bytes (or panics when `n` exceeds the pool's buffer length). -/
theorem bufferpool_get_zero (backing : Rain.PW.Bytes) (n : Nat) (buf : Rain.PW.Bytes)
    (h : Rain.PW.poolGet backing n = some buf) : buf = List.replicate n 0 := by
  unfold Rain.PW.poolGet at h
  split at h
  · cases h
  · cases h
    rw [List.map_const', List.length_take, Nat.min_eq_left (by omega)]

example : Rain.PW.poolGet [0xEE, 0xEE, 7, 9] 3 = some [0, 0, 0] := by decide

/-! ## piecedownloader -/

section Downloader
open Rain.PD

/-- **pd_accept_iff.** For a downloader over the piece's computed blocks (`calculateBlocks`, any
block size) and a piece-sized buffer, in *any* bookkeeping state: `GotBlock(begin, data)` stores
the bytes **iff** `(begin, |data|)` is one of the piece's blocks and that block has not been
received yet.  When it stores, the buffer becomes `writeAt buf begin data` — the bytes
`[begin, begin+|data|)` are `data` and every other byte is unchanged — and the block is marked
received; when it does not, the state is unchanged.  The block table never changes. -/
theorem pd_accept_iff (bs : Nat) (hbs : 0 < bs) (secs : List Sec) (bl : List Block)
    (hbl : calcBlocks bs secs = some bl) (s : State) (hblocks : s.blocks = makeBlocks bl)
    (hbuf : s.buf.length = total secs) (b : Nat) (d : Bytes) :
    ((gotBlock s b d).2.stored = true ↔ ((⟨b, d.length⟩ : Block) ∈ bl ∧ b ∉ s.done)) ∧
    ((gotBlock s b d).2.stored = true →
        (gotBlock s b d).1.buf = writeAt s.buf b d ∧ b ∈ (gotBlock s b d).1.done ∧
        (∀ j, j < d.length → (gotBlock s b d).1.buf[b + j]? = d[j]?)) ∧
    ((gotBlock s b d).2.stored = false → (gotBlock s b d).1 = s) ∧
    (∀ i, (i < b ∨ b + d.length ≤ i) → (gotBlock s b d).1.buf[i]? = s.buf[i]?) ∧
    (gotBlock s b d).1.buf.length = s.buf.length ∧
    (gotBlock s b d).1.blocks = s.blocks := by
  have hw := calcBlocks_wf hbs hbl
  rcases gotBlock_cases hw s hblocks hbuf b d with
    ⟨hmem, hnd, hst, hb, hdone, hblk⟩ | ⟨hno, hst, hsame⟩
  · have hfit : b + d.length ≤ s.buf.length := by
      have := hw.within _ hmem
      simp only at this
      omega
    refine ⟨⟨fun _ => ⟨hmem, hnd⟩, fun _ => hst⟩, fun _ => ⟨hb, ?_, ?_⟩, ?_, ?_, ?_, hblk⟩
    · rw [hdone]; exact mem_setInsert.mpr (Or.inr rfl)
    · intro j hj; rw [hb]; exact writeAt_in hfit hj
    · intro hf; rw [hst] at hf; cases hf
    · intro i hi; rw [hb]; exact writeAt_out hfit hi
    · rw [hb]; exact writeAt_length hfit
  · refine ⟨⟨fun h => ?_, fun h => absurd h hno⟩, fun h => ?_, fun _ => hsame, ?_, ?_, ?_⟩
    · rw [hst] at h; cases h
    · rw [hst] at h; cases h
    · intro i _; rw [hsame]
    · rw [hsame]
    · rw [hsame]

/-- The model satisfies the executable predicate the check evaluates on the implementation's
`GotBlock` observations. -/
theorem pd_accept_oracle (bs : Nat) (hbs : 0 < bs) (secs : List Sec) (bl : List Block)
    (hbl : calcBlocks bs secs = some bl) (s : State) (hblocks : s.blocks = makeBlocks bl)
    (hbuf : s.buf.length = total secs) (b : Nat) (d : Bytes) :
    acceptOK bl s.done s.buf b d (gotBlock s b d).2.stored (gotBlock s b d).1.buf = true := by
  obtain ⟨h1, h2, h3, -⟩ := pd_accept_iff bs hbs secs bl hbl s hblocks hbuf b d
  refine acceptOK_iff.mpr ⟨h1, ?_⟩
  cases hst : (gotBlock s b d).2.stored
  · rw [h3 hst]
    rfl
  · exact (h2 hst).1

/-- **pd_assembled.** Start a downloader on the piece's computed blocks with a zeroed,
piece-sized buffer (`bufferpool_get_zero`).  After EVERY sequence of calls (blocks that are
corrupt, duplicated, unrequested, out of range, truncated, in any order; chokes with any
iteration order; rejects; requests; cancels) that does not panic:

* the buffer equals `assembled`: on each block the data of the *first* call that named exactly
  that block, zero on blocks not yet received and on every byte outside the blocks (padding);
* `Done()` is true **iff** every block has been received. -/
theorem pd_assembled (bs : Nat) (hbs : 0 < bs) (secs : List Sec) (bl : List Block)
    (hbl : calcBlocks bs secs = some bl) (af : Bool) (ops : List Op) (s : State)
    (hrun : run (init bl af (List.replicate (total secs) 0)) ops = some s) :
    s.buf = assembled (total secs) bl ops ∧
    (isDone s = true ↔ ∀ b ∈ bl, (firstData ops b.b b.l).isSome) := by
  have hw := calcBlocks_wf hbs hbl
  have hi : Inv (total secs) bl ([] ++ ops) s := run_induct (inv_step hw) (inv_init hw af) hrun
  exact ⟨specBuf_unique hi.spec (assembled_spec hw ops), isDone_iff hw hi⟩

/-- **assembled_bytes.** What `assembled` is, byte by byte: piece-sized; on block `(b,l)` the
first data received for it (else zeros); zero on every byte no block covers. -/
theorem assembled_bytes (bs : Nat) (hbs : 0 < bs) (secs : List Sec) (bl : List Block)
    (hbl : calcBlocks bs secs = some bl) (ops : List Op) :
    (assembled (total secs) bl ops).length = total secs ∧
    (∀ b ∈ bl, ∀ j, j < b.l → (assembled (total secs) bl ops)[b.b + j]? =
      match firstData ops b.b b.l with
      | some d => d[j]?
      | none => some 0) ∧
    (∀ i, i < total secs → (∀ b ∈ bl, ¬ (b.b ≤ i ∧ i < b.b + b.l)) →
      (assembled (total secs) bl ops)[i]? = some 0) :=
  assembled_spec (calcBlocks_wf hbs hbl) ops

/-- **assembled_padding_zero.** The bytes no block covers are exactly the piece's padding bytes:
every padding byte of the assembled buffer is 0 (what a padding file contains), and every data
byte lies in exactly one block. -/
theorem assembled_padding_zero (bs : Nat) (hbs : 0 < bs) (secs : List Sec) (bl : List Block)
    (hbl : calcBlocks bs secs = some bl) (ops : List Op) :
    (∀ i : Nat, (secMask secs)[i]? = some false → (assembled (total secs) bl ops)[i]? = some 0) ∧
    (∀ i : Nat, (secMask secs)[i]? = some true →
      ∃ b ∈ bl, (b.b ≤ i ∧ i < b.b + b.l) ∧ ∀ b' ∈ bl, (b'.b ≤ i ∧ i < b'.b + b'.l) → b' = b) := by
  have hw := calcBlocks_wf hbs hbl
  constructor
  · intro i hi
    have hlt : i < total secs := by
      rw [← secMask_length]
      exact (List.getElem?_eq_some_iff.mp hi).1
    apply (assembled_spec hw ops).2.2 i hlt
    intro b hb hc
    have := (calcBlocks_mask_iff hbs hbl i).mpr ⟨b, hb, hc⟩
    rw [hi] at this
    cases this
  · intro i hi
    obtain ⟨b, hb, hc⟩ := (calcBlocks_mask_iff hbs hbl i).mp hi
    exact ⟨b, hb, hc, fun b' hb' hc' => hw.covers_unique hb' hb hc' hc⟩

/-- The data `firstData` returns for block `(b,l)` has length `l`. -/
theorem firstData_len (ops : List Op) (b l : Nat) (d : Bytes) (h : firstData ops b l = some d) :
    d.length = l := firstData_length h

/-- **pd_pending_bound** (for C17). After every sequence of calls, the number of in-flight
requests never exceeds the largest `queueLength` ever passed to `RequestBlocks` (and is 0 if none
was positive). -/
theorem pd_pending_bound (bl : List Block) (af : Bool) (buf : Bytes) (ops : List Op) (s : State)
    (hrun : run (init bl af buf) ops = some s) : (s.pending.length : Int) ≤ maxQ ops :=
  run_pending (pre := []) (s := init bl af buf) (Int.le_refl 0) hrun

/-- **pd_no_panic.** On the piece's computed blocks, no sequence of calls panics
(`"cannot get block"`), whatever order the runtime iterates `pending` in. -/
theorem pd_no_panic (bs : Nat) (hbs : 0 < bs) (secs : List Sec) (bl : List Block)
    (hbl : calcBlocks bs secs = some bl) (af : Bool) (buf : Bytes) (ops : List Op)
    (hadm : admissibleRun (init bl af buf) ops = true) :
    ∃ s, run (init bl af buf) ops = some s :=
  run_some (calcBlocks_wf hbs hbl).nodup_keys ops _ (inv2_init af buf) hadm

/-! Non-vacuity: a padded piece `[data 5][pad 2][data 3]`, block size 4 → blocks (0,4) (4,1) (7,3);
a history with an unrequested block, a wrong-length block, a duplicate, a choke re-queue, a
reject, and completion. -/
def exSecs : List Sec := [⟨5, false⟩, ⟨2, true⟩, ⟨3, false⟩]
def exBlocks : List Block := [⟨0, 4⟩, ⟨4, 1⟩, ⟨7, 3⟩]
def exOps : List Op := [
  .requestBlocks 2, .gotBlock 7 [7, 8, 9], .gotBlock 0 [1, 2, 3], .gotBlock 0 [1, 2, 3, 4],
  .gotBlock 0 [9, 9, 9, 9], .choked false [4], .rejected 4 1, .requestBlocks 5, .gotBlock 5 [6],
  .gotBlock 4 [5], .cancelPending, .done]

example : calcBlocks 4 exSecs = some exBlocks := by decide
example : admissibleRun (init exBlocks false (List.replicate 10 0)) exOps = true := by decide
-- (block 7 arrived unrequested; the repaired `RequestBlocks` drops it from `remaining` without entering it into
-- `pending` — before the fix for C10-F3 it stayed in `pending` for ever, see `Props/C10PD`)
example : (run (init exBlocks false (List.replicate 10 0)) exOps).map (fun s => (s.buf, isDone s, s.pending)) =
    some ([1, 2, 3, 4, 5, 0, 0, 7, 8, 9], true, []) := by decide
example : assembled 10 exBlocks exOps = [1, 2, 3, 4, 5, 0, 0, 7, 8, 9] := by decide
example : maxQ exOps = 5 := by decide

end Downloader

/-! ## piecewriter -/

section Writer
open Rain.PW

/-- **pw_gate.** For every hash function `H`, piece, buffer and storage failure pattern:

* `HashOK` **iff** `|buf| = piece.length ∧ H buf = piece.hash`;
* no `WriteAt` happens unless `HashOK` (and then no error is reported either);
* if `HashOK` and the sections sum to the piece length (C02 geometry): the cursor never leaves
  the buffer, the `WriteAt` calls made are a prefix of `sectionWrites`, and when no call fails
  they are exactly `sectionWrites` (see `pw_writes_cover` for what those are). -/
theorem pw_gate {Hash : Type} [DecidableEq Hash] (H : Bytes → Hash) (p : Piece Hash) (buf : Bytes)
    (failAt : Option Nat) :
    ((run H p buf failAt).hashOK = true ↔ (buf.length = p.length ∧ H buf = p.hash)) ∧
    ((run H p buf failAt).hashOK = false →
        (run H p buf failAt).writes = [] ∧ (run H p buf failAt).status = .ok) ∧
    ((run H p buf failAt).hashOK = true → p.length = totalLen p.secs →
        (run H p buf failAt).status ≠ .badGeometry ∧
        (run H p buf failAt).writes <+: sectionWrites p.secs 0 buf ∧
        ((run H p buf failAt).status = .ok → (run H p buf failAt).writes = sectionWrites p.secs 0 buf) ∧
        (failAt = none → (run H p buf failAt).status = .ok)) := by
  have hv := verifyHash_iff H p buf
  unfold run
  cases hok : verifyHash H p buf <;> simp only [Bool.false_eq_true, ↓reduceIte]
  · refine ⟨⟨nofun, fun h => ?_⟩, fun _ => ⟨trivial, trivial⟩, nofun⟩
    rw [← hv, hok] at h
    cases h
  · refine ⟨⟨fun _ => hv.mp hok, fun _ => trivial⟩, nofun, fun _ hgeo => ?_⟩
    have hfit : 0 + totalLen p.secs ≤ buf.length := by
      have := (hv.mp hok).1
      omega
    obtain ⟨st, ws, h1, h2, h3, h4, h5⟩ := writeSecs_prefix failAt p.secs buf 0 0 [] hfit
    rw [List.drop_zero] at h1
    rw [h1]
    exact ⟨h3, h2, h4, h5⟩

/-- **pw_writes_cover.** What `sectionWrites` hands to storage, for a piece-sized buffer: one
`WriteAt` per non-padding section (none for a padding section), to that section's file and offset
and of that section's length; and the written bytes, concatenated, are exactly the buffer's bytes
at the non-padding positions, each once and in order — no padding byte, nothing outside the piece. -/
theorem pw_writes_cover (secs : List FSec) (buf : Bytes) (h : buf.length = totalLen secs) :
    (sectionWrites secs 0 buf).map (fun w => (w.file, w.off, w.data.length)) =
      (secs.filter (fun s => !s.pad)).map (fun s => (s.file, s.off, s.len)) ∧
    (sectionWrites secs 0 buf).flatMap (·.data) = keepMask (secMask (secs.map FSec.toSec)) buf ∧
    (secMask (secs.map FSec.toSec)).length = buf.length := by
  refine ⟨sectionWrites_targets secs buf 0 (by omega), ?_, ?_⟩
  · have := sectionWrites_data secs buf 0 (by omega)
    simpa using this
  · rw [secMask_length, ← totalLen_eq_total, h]

/-- The model satisfies the executable predicate the check evaluates on observed runs. -/
theorem pw_gate_oracle {Hash : Type} [DecidableEq Hash] (H : Bytes → Hash) (p : Piece Hash) (buf : Bytes)
    (failAt : Option Nat) (hgeo : p.length = totalLen p.secs) :
    gateOK p.secs buf (decide (buf.length = p.length ∧ H buf = p.hash)) (run H p buf failAt).hashOK
      ((run H p buf failAt).status == .error) (run H p buf failAt).writes = true := by
  obtain ⟨h1, h2, h3⟩ := pw_gate H p buf failAt
  unfold gateOK
  by_cases hm : buf.length = p.length ∧ H buf = p.hash
  · have hok := h1.mpr hm
    obtain ⟨hbad, hpre, hokw, _⟩ := h3 hok hgeo
    simp only [hm, and_self, decide_true, hok, beq_self_eq_true, Bool.true_or, Bool.true_and]
    cases hst : (run H p buf failAt).status with
    | ok => simp [hokw hst]
    | error =>
      obtain ⟨t, ht⟩ := hpre
      simp [← ht]
    | badGeometry => exact absurd hst hbad
  · have hno : (run H p buf failAt).hashOK = false := by
      cases hh : (run H p buf failAt).hashOK with
      | false => rfl
      | true => exact absurd (h1.mp hh) hm
    obtain ⟨hw, hs⟩ := h2 hno
    simp [hm, hno, hw, hs]

/-! Non-vacuity: `[file0@10 len 2][pad 3][file1@0 len 1]`, a hash that matches only `[1,2,0,0,0,6]`. -/
def exPiece : Rain.PW.Piece Nat :=
  { length := 6, secs := [⟨0, 10, 2, false⟩, ⟨9, 0, 3, true⟩, ⟨1, 0, 1, false⟩], hash := 42 }
def exH (b : Rain.PW.Bytes) : Nat := if b = [1, 2, 0, 0, 0, 6] then 42 else 0

example : Rain.PW.run exH exPiece [1, 2, 0, 0, 0, 6] none =
    { hashOK := true, status := .ok, writes := [⟨0, 10, [1, 2]⟩, ⟨1, 0, [6]⟩] } := by decide
example : Rain.PW.run exH exPiece [1, 2, 0, 0, 0, 7] none = { hashOK := false, status := .ok, writes := [] } := by decide
example : Rain.PW.run exH exPiece [1, 2, 0, 0, 0, 6] (some 1) =
    { hashOK := true, status := .error, writes := [⟨0, 10, [1, 2]⟩, ⟨1, 0, [6]⟩] } := by decide
example : Rain.PW.run exH exPiece [1, 2, 0, 0, 0, 6] (some 0) =
    { hashOK := true, status := .error, writes := [⟨0, 10, [1, 2]⟩] } := by decide

/-! ## verifier -/

/-- **verifier_bit_iff.** The verifier reports piece `i` as present only if the bytes it read for
`i` have the piece's length and hash; a read error sets `Error` and no bit from there on. -/
theorem verifier_bit_iff {Hash : Type} [DecidableEq Hash] (H : Bytes → Hash)
    (items : List (Piece Hash × Option Bytes)) :
    (verifyAll H items).1.length = items.length ∧
    ∀ i : Nat, (verifyAll H items).1[i]? = some true →
      ∃ (p : Piece Hash) (buf : Bytes), items[i]? = some (p, some buf) ∧ buf.length = p.length ∧ H buf = p.hash := by
  fun_induction verifyAll H items with
  | case1 => exact ⟨rfl, nofun⟩
  | case2 p rest =>
    -- a read error: no bit from here on
    refine ⟨List.length_replicate, fun i hi => ?_⟩
    rw [List.getElem?_replicate] at hi
    split at hi <;> cases hi
  | case3 p buf rest bits e hrec ih =>
    rw [hrec] at ih
    refine ⟨congrArg (· + 1) ih.1, fun i hi => ?_⟩
    cases i with
    | zero => exact ⟨p, buf, rfl, (verifyHash_iff H p buf).mp (Option.some.inj hi)⟩
    | succ i => exact ih.2 i hi

end Writer

/-! ## `handlePieceWriteDone` / `handleWebseedPieceResult` decision logic -/

open Rain.WriteDone

theorem writeDone_fail {i : In} (hh : i.hashOK = false) :
    writeDone i = prologue ++ .addWasted ::
      match i.source with
      | .peer => [.closePeer, .banIP, .startPieceDownloaders]
      | .webseed => [.disableSource, .decWebseedActive, .startPieceDownloaders]
      | .other => [.crash "unhandled piece source"] := by
  unfold writeDone
  rw [hh]
  rfl

theorem writeDone_cases (i : In) :
    i.hashOK = false ∨
    (i.hashOK = true ∧ i.writeError = true ∧ writeDone i = prologue ++ [.stopWithError]) ∨
    (i.hashOK = true ∧ i.writeError = false ∧ i.bitBefore = true ∧
      writeDone i = prologue ++ [.markDone, .crash "already have the piece"]) ∨
    (i.hashOK = true ∧ i.writeError = false ∧ i.bitBefore = false ∧
      (∃ rest, writeDone i = prologue ++ .markDone :: .setBit :: rest) ∧ ∀ w, .crash w ∉ writeDone i) := by
  unfold writeDone
  cases i.hashOK
  · exact .inl rfl
  cases i.writeError
  case true => exact .inr (.inl ⟨rfl, rfl, rfl⟩)
  cases i.bitBefore
  case true => exact .inr (.inr (.inl ⟨rfl, rfl, rfl, rfl⟩))
  refine .inr (.inr (.inr ⟨rfl, rfl, rfl, ⟨_, rfl⟩, fun w => ?_⟩))
  -- no branch of the picker bookkeeping or of `completionTail` holds a `crash`
  simp [completionTail, prologue, apply_ite (Effect.crash w ∈ ·)]

/-- **hash_fail_punished.** On a hash mismatch nothing is recorded or announced, and the source is
dropped: a peer is closed and its IP banned; a web seed is disabled and its slot freed. -/
theorem hash_fail_punished (i : In) (h : i.hashOK = false) :
    Effect.setBit ∉ writeDone i ∧ Effect.markDone ∉ writeDone i ∧ (∀ n, Effect.sendHave n ∉ writeDone i) ∧
    Effect.persistBitfield ∉ writeDone i ∧ Effect.complete ∉ writeDone i ∧
    (i.source = .peer → Effect.closePeer ∈ writeDone i ∧ Effect.banIP ∈ writeDone i) ∧
    (i.source = .webseed → Effect.disableSource ∈ writeDone i ∧ Effect.decWebseedActive ∈ writeDone i) := by
  rw [writeDone_fail h]
  cases i.source <;> simp [prologue]

/-- **bit_only_if_hash_ok.** The bit of the piece is set only when the hash matched, the write
succeeded and the bit was not already set; in that case the piece is also marked `Done`. -/
theorem bit_only_if_hash_ok (i : In) (h : Effect.setBit ∈ writeDone i) :
    i.hashOK = true ∧ i.writeError = false ∧ i.bitBefore = false ∧ Effect.markDone ∈ writeDone i := by
  rcases writeDone_cases i with hh | ⟨-, -, heq⟩ | ⟨-, -, -, heq⟩ | ⟨hh, he, hb, ⟨rest, heq⟩, -⟩
  · exact absurd h (hash_fail_punished i hh).1
  · simp [heq, prologue] at h
  · simp [heq, prologue] at h
  · exact ⟨hh, he, hb, by simp [heq]⟩

/-- **done_only_if_hash_ok.** `Piece.Done` is set only after a matching hash and a successful write. -/
theorem done_only_if_hash_ok (i : In) (h : Effect.markDone ∈ writeDone i) :
    i.hashOK = true ∧ i.writeError = false := by
  rcases writeDone_cases i with hh | ⟨-, -, heq⟩ | ⟨hh, he, -⟩ | ⟨hh, he, -⟩
  · exact absurd h (hash_fail_punished i hh).2.1
  · simp [heq, prologue] at h
  · exact ⟨hh, he⟩
  · exact ⟨hh, he⟩

/-- **report_only_after_bit.** A `Have` is sent, completion is declared, or the bitfield is
persisted only in a run of the handler that set the bit (hence hash matched and write succeeded),
and the bit is set *before* those effects. -/
theorem report_only_after_bit (i : In) (n : Nat) :
    (Effect.sendHave n ∈ writeDone i → before .setBit (.sendHave n) (writeDone i) = true) ∧
    (Effect.complete ∈ writeDone i → before .setBit .complete (writeDone i) = true) ∧
    (Effect.persistBitfield ∈ writeDone i → before .setBit .persistBitfield (writeDone i) = true) := by
  rcases writeDone_cases i with hh | ⟨-, -, heq⟩ | ⟨-, -, -, heq⟩ | ⟨-, -, -, ⟨rest, heq⟩, -⟩
  · obtain ⟨-, -, hhave, hpers, hcomp, -⟩ := hash_fail_punished i hh
    exact ⟨fun h => absurd h (hhave n), fun h => absurd h hcomp, fun h => absurd h hpers⟩
  · simp [heq, prologue]
  · simp [heq, prologue]
  · -- the bit is set before anything but the prologue and `markDone`
    simp [heq, prologue, before]

/-- **write_done_prologue.** Every run of the handler first clears `Writing`, resumes both
suspended channels and releases the buffer — also on hash failure and on write error. -/
theorem write_done_prologue (i : In) : prologue <+: writeDone i := by
  unfold writeDone
  exact List.prefix_append _ _

/-- **write_done_crash_iff.** The handler crashes exactly on an unknown source type with a bad
hash, or when the bit of a successfully written piece is already set. -/
theorem write_done_crash_iff (i : In) :
    (∃ w, Effect.crash w ∈ writeDone i) ↔
      ((i.hashOK = false ∧ i.source = .other) ∨ (i.hashOK = true ∧ i.writeError = false ∧ i.bitBefore = true)) := by
  rcases writeDone_cases i with hh | ⟨hh, he, heq⟩ | ⟨hh, he, hb, heq⟩ | ⟨hh, he, hb, -, hno⟩
  · rw [writeDone_fail hh]
    cases i.source <;> simp [prologue, hh]
  · simp [heq, prologue, hh, he]
  · simp [heq, prologue, hh, he, hb]
  · simp [hno, hh, hb]

/-- **ws_stale_discarded.** A web-seed result for a piece that is already `Done` never reaches
the writer, never sets `Writing`, and never crashes; its buffer is released. -/
theorem ws_stale_discarded (i : WsIn) (he : i.error = false) (hd : i.pieceDone = true) :
    WsEffect.startWriter ∉ webseedResult i ∧ WsEffect.setWriting ∉ webseedResult i ∧
    (∀ w, WsEffect.crash w ∉ webseedResult i) ∧ WsEffect.releaseBuffer ∈ webseedResult i := by
  cases hm : i.msgDone <;> cases hc : i.downloaderCurrent <;> simp [webseedResult, he, hd, hm, hc]

/-- **ws_writer_guarded.** A writer is started for a web-seed result only if the result carries no
error and the piece is neither `Done` nor `Writing`; `Writing` is then set and both result channels
are suspended before the writer starts (one write at a time). -/
theorem ws_writer_guarded (i : WsIn) (h : WsEffect.startWriter ∈ webseedResult i) :
    i.error = false ∧ i.pieceDone = false ∧ i.pieceWriting = false ∧
    [WsEffect.setWriting, .suspendPieceMessages, .suspendWebseedResults, .startWriter] <:+: webseedResult i := by
  unfold webseedResult at h ⊢
  cases he : i.error <;> cases hd : i.pieceDone <;> cases hw : i.pieceWriting <;>
    simp [he, hd, hw] at h
  -- the only branch that starts a writer
  exact ⟨rfl, rfl, rfl, [.countDownloaded], _, rfl⟩

/-! Non-vacuity for the handler logic. -/
def exGood : In :=
  { hashOK := true, writeError := false, source := .peer, bitBefore := false, picker := true,
    webseedRequested := true, webseedStopClosed := true, otherDownloaders := 2, peers := 3, peersLacking := 2,
    completedBefore := false, allAfter := true, persistFails := false, stopAfterDownload := false }
def exBad : In := { exGood with hashOK := false }
def exStale : WsIn :=
  { error := false, pieceDone := true, pieceWriting := false, msgDone := true, downloaderCurrent := true,
    sourceKnown := true }

example : writeDone exGood =
  [.clearWriting, .resumePieceMessages, .resumeWebseedResults, .releaseBuffer, .markDone, .setBit,
   .webseedStopAt, .decWebseedActive, .restartWebseed, .cancelOthers 2, .updateInterest 3, .sendHave 2, .complete,
   .persistBitfield] := by decide
example : writeDone exBad =
  [.clearWriting, .resumePieceMessages, .resumeWebseedResults, .releaseBuffer, .addWasted, .closePeer, .banIP,
   .startPieceDownloaders] := by decide
example : webseedResult exStale =
  [.addWasted, .releaseBuffer, .closeDownloader, .decWebseedActive, .restartSource] := by decide
example : webseedResult { exStale with pieceDone := false } =
  [.countDownloaded, .setWriting, .suspendPieceMessages, .suspendWebseedResults, .startWriter,
   .closeDownloader, .decWebseedActive, .restartSource] := by decide

end Rain.Props.C01
