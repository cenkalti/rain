import RainModel.Lemmas.Codec
import RainModel.Lemmas.Bencode
/-!
C08 (reader half) — untrusted peer bytes never crash the reader nor make it allocate more than the
maximum message size.  `run max bs` is the loop of `PeerReader.Run` on the
byte stream `bs` with `maxMsgSize = max`; its outcome type has explicit `panic` (Go run-time panic:
slice bounds in `blockPool.Get`, `panic("msg unset")`) and `fuel` (model loop bound exhausted) ends.
The handler half of C08 (what the torrent does with the delivered messages) is separate.
-/
namespace Rain.Props.C08Reader
open Rain.Codec
open Rain.Bencode (Bytes)

/-- **reader_total.** For every maximum message size and every byte stream — any lengths, ids,
truncations, garbage — the reader loop ends with messages-then-`eof` or messages-then-an-error that
drops the peer (`oversize`, `blockSize`, `ext`); the `panic` end is unreachable, and the model's
loop bound `|bs| + 1` is never exhausted (every trip consumes at least four bytes). -/
theorem reader_total (max : Nat) (bs : Bytes) :
    (run max bs).err ≠ .panic ∧ (run max bs).err ≠ .fuel := by
  have := runAux_ok max (bs.length + 1) bs (by omega)
  exact ⟨this.1, this.2.1⟩

/-- The same as a closed list of possible ends. -/
theorem reader_ends (max : Nat) (bs : Bytes) :
    (run max bs).err = .eof ∨ (run max bs).err = .oversize ∨ (run max bs).err = .blockSize ∨ (run max bs).err = .ext := by
  have := reader_total max bs
  cases h : (run max bs).err <;> simp_all

/-- **reader_alloc_bound.** Every allocation the reader performs while decoding any byte stream is
within the limits: a `make([]byte, n)` (bitfield body, extension body, every string the bencode
decoder materialises from an extension payload) has `n ≤ maxMsgSize`; a block buffer taken from
the pool has `n ≤ 16384`. -/
theorem reader_alloc_bound (max : Nat) (bs : Bytes) :
    ∀ e ∈ (run max bs).effs, EffOk max e :=
  (runAux_ok max (bs.length + 1) bs (by omega)).2.2.1

/-- Unfolded form: explicit numbers. -/
theorem reader_alloc_bound' (max : Nat) (bs : Bytes) :
    (∀ n, Eff.make n ∈ (run max bs).effs → n ≤ max) ∧
    (∀ n, Eff.poolGet n ∈ (run max bs).effs → n ≤ 16384) :=
  ⟨fun _ h => reader_alloc_bound max bs _ h, fun _ h => reader_alloc_bound max bs _ h⟩

/-- **reader_delivers_bounded.** Whatever is handed on to the torrent respects the size limits:
bitfields ≤ `maxMsgSize`, blocks ≤ 16 KiB, request lengths ≤ 16 KiB. -/
theorem reader_delivers_bounded (max : Nat) (bs : Bytes) :
    ∀ m ∈ (run max bs).msgs, MsgOk max m :=
  (runAux_ok max (bs.length + 1) bs (by omega)).2.2.2

/-- **validate_bounds.** The guard in front of the bencode decoder (`validateBencode`, model
`tokenize`) accepts a payload only if every string in it announces at most as many bytes as the
payload has; what follows the first value is a suffix of the payload. -/
theorem validate_bounds (payload : Bytes) (toks : List Rain.Bencode.Tok) (rest : Bytes)
    (h : Rain.Bencode.tokenize payload = some (toks, rest)) :
    (∀ n ∈ Rain.Bencode.strLens toks, n ≤ payload.length) ∧ rest.length ≤ payload.length :=
  Rain.Bencode.tokenize_bound h

/-- **validate_depth.** A payload accepted by the guard never opens more than 32 nested lists /
dictionaries (`nestMax` = deepest level entered while walking the tokens), so the decoder, which
recurses once per level, recurses at most 32 deep on it. -/
theorem validate_depth (payload : Bytes) (toks : List Rain.Bencode.Tok) (rest : Bytes)
    (h : Rain.Bencode.tokenize payload = some (toks, rest)) :
    Rain.Bencode.nestMax toks 0 ≤ 32 :=
  Rain.Bencode.tokenize_depth h

/-- Non-vacuity / witnesses: a string announcing 2^31-1 bytes and a nesting of 33 lists are
refused by the guard (before the fix they reached the decoder: 2 GiB allocation, unbounded
recursion — findings C08-F3, C08-F4); 32 levels are accepted. -/
example : (run 65536 ([0, 0, 0, 17, 20, 0] ++ [100, 49, 58, 118, 50, 49, 52, 55, 52, 56, 51, 54, 52, 55, 58, 101])).err = .ext := by decide

example : Rain.Bencode.tokenize (List.replicate 33 108 ++ List.replicate 33 101) = none := by decide

example : (Rain.Bencode.tokenize (List.replicate 32 108 ++ List.replicate 32 101)).isSome = true := by decide

/-- The `uint32` wrap of `length -= 8` for a piece frame shorter than its header is caught by the
block-size guard, not by a panic. -/
example : (run 100 [0, 0, 0, 4, 7, 0, 0, 0, 1, 0, 0, 0, 2]).err = .blockSize := by decide

end Rain.Props.C08Reader
