import RainModel.Lemmas.Request
import RainModel.Lemmas.Cache
import RainModel.Lemmas.CachedPiece
import RainModel.Lemmas.WriteQueue
/-! C03 — upload integrity (and the read-cache / upload-queue bounds C17 relies on). -/
set_option linter.unusedSimpArgs false
namespace Rain.Props.C03
open Rain.Request Rain.Cache Rain.CachedPiece

/-! ## Request validation (M-REQ) -/

/-- **validReq_iff.** For *all* 32-bit `begin`, `length`, `pieceLength`: the code's check accepts
exactly when the length is non-zero and the block lies inside the piece, the sum being taken in
the naturals — so no choice of the attacker-controlled fields makes the 64-bit sum wrap. -/
theorem validReq_iff (b l pl : U32) :
    validPieceRequest b l pl = true ↔ l ≠ 0#32 ∧ b.toNat + l.toNat ≤ pl.toNat :=
  validReq_iff' b l pl

/-- Non-vacuity, both directions: the last block of a piece is valid, one byte more is not. -/
example : validPieceRequest 0x3C000#32 0x4000#32 0x40000#32 = true := by decide
example : validPieceRequest 0x3C001#32 0x4000#32 0x40000#32 = false := by decide

/-- Without the `uint64` widening the check is wrong: `begin = 2^32 − 1`, `length = 2` wraps to 1
and would be accepted for any piece although it ends 4 GiB past it. -/
theorem validReq32_counterexample :
    validPieceRequest32 0xFFFFFFFF#32 2#32 0x4000#32 = true ∧
    validPieceRequest 0xFFFFFFFF#32 2#32 0x4000#32 = false := by decide

/-- **serve_sound.** The request branch hands a block to the writer (`SendPiece`) exactly when: the
torrent has its info, the index is a piece index, the block is non-empty and inside that piece
(natural-number sum), the piece is `Done`, and the peer is unchoked or (fast extension and the piece
is in the allowed-fast set sent to it). -/
theorem serve_sound (c : Ctx) (idx b l : U32) :
    handleRequest c idx b l = .serve ↔
      c.haveInfo = true ∧ idx.toNat < c.numPieces.toNat ∧
      ∃ pi, c.pieces[idx.toNat]? = some pi ∧
        l ≠ 0#32 ∧ b.toNat + l.toNat ≤ pi.length.toNat ∧ pi.done = true ∧
        (c.choking = false ∨ (c.fast = true ∧ idx.toNat ∈ c.allowedFast)) := by
  cases hI : c.haveInfo with
  | false => simp [handleRequest_noInfo idx b l hI]
  | true =>
    by_cases hidx : idx.toNat < c.numPieces.toNat
    · rw [handleRequest_inRange b l hI hidx]
      cases c.pieces[idx.toNat]? with
      | none => simp
      | some pi =>
        simp only [hidx, Option.some.injEq, exists_eq_left', true_and]
        by_cases h1 : l = 0#32
        · simp [h1]
        · by_cases h2 : b.toNat + l.toNat ≤ pi.length.toNat
          · cases pi.done
            · simp [h1, h2]
            · cases c.choking
              · simp [h1, h2]
              · cases c.fast <;> simp [h1, h2]
          · simp [h1, h2]
    · simp [handleRequest_badIndex b l hI (Nat.le_of_not_lt hidx), hidx]

/-- **request_outcomes.** Every other outcome, exactly as the code: the connection is closed for a
request before the info is known, for an index out of range and for an empty or out-of-bounds block;
a valid request is *rejected* when the piece is not `Done` or when a choked fast peer asks for a
piece outside its allowed-fast set, and *ignored* when a choked peer has no fast extension. -/
theorem request_outcomes (c : Ctx) (idx b l : U32) (hlen : c.pieces.length = c.numPieces.toNat) :
    (handleRequest c idx b l = .closeNoInfo ↔ c.haveInfo = false) ∧
    (handleRequest c idx b l = .closeBadIndex ↔ c.haveInfo = true ∧ c.numPieces.toNat ≤ idx.toNat) ∧
    (handleRequest c idx b l = .closeBadRange ↔ c.haveInfo = true ∧
        ∃ pi, c.pieces[idx.toNat]? = some pi ∧ ¬ (l ≠ 0#32 ∧ b.toNat + l.toNat ≤ pi.length.toNat)) ∧
    (handleRequest c idx b l = .reject ↔ c.haveInfo = true ∧
        ∃ pi, c.pieces[idx.toNat]? = some pi ∧ (l ≠ 0#32 ∧ b.toNat + l.toNat ≤ pi.length.toNat) ∧
          (pi.done = false ∨ (c.choking = true ∧ c.fast = true ∧ idx.toNat ∉ c.allowedFast))) ∧
    (handleRequest c idx b l = .ignore ↔ c.haveInfo = true ∧
        ∃ pi, c.pieces[idx.toNat]? = some pi ∧ (l ≠ 0#32 ∧ b.toNat + l.toNat ≤ pi.length.toNat) ∧
          pi.done = true ∧ c.choking = true ∧ c.fast = false) ∧
    handleRequest c idx b l ≠ .panicIndex := by
  cases hI : c.haveInfo with
  | false => simp [handleRequest_noInfo idx b l hI]
  | true =>
    by_cases hidx : idx.toNat < c.numPieces.toNat
    · rw [handleRequest_inRange b l hI hidx]
      obtain ⟨pi, hp⟩ : ∃ pi, c.pieces[idx.toNat]? = some pi :=
        ⟨_, List.getElem?_eq_getElem (hlen ▸ hidx)⟩
      have hidx' := Nat.not_le_of_gt hidx
      simp only [hp, hidx', Option.some.injEq, exists_eq_left', true_and, and_false]
      by_cases h1 : l = 0#32
      · simp [h1]
      · by_cases h2 : b.toNat + l.toNat ≤ pi.length.toNat
        · cases pi.done
          · simp [h1, h2]
          · cases c.choking
            · simp [h1, h2]
            · cases c.fast
              · simp [h1, h2]
              · by_cases ha : idx.toNat ∈ c.allowedFast <;> simp [h1, h2, ha]
        · simp [h1, h2]
    · have hnone : c.pieces[idx.toNat]? = none := List.getElem?_eq_none (by omega)
      simp [handleRequest_badIndex b l hI (Nat.le_of_not_lt hidx), hnone]
      omega

/-- Reader and handler together: a block is served only for lengths `1..16384` (the reader closes
the connection for longer ones before the handler sees them). -/
theorem wire_served_le_16k (c : Ctx) (idx b l : U32) (h : wireRequest c idx b l = some .serve) :
    0 < l.toNat ∧ l.toNat ≤ 16384 := by
  obtain ⟨hr, h'⟩ := (wireRequest_eq_some c idx b l _).mp h
  obtain ⟨_, _, pi, _, hl, _⟩ := (serve_sound c idx b l).mp h'
  have : l.toNat ≠ 0 := fun e => hl (BitVec.eq_of_toNat_eq (by simpa using e))
  exact ⟨by omega, hr⟩

/-- Non-vacuity: a choked fast peer is served an allowed-fast piece, rejected for another one. -/
example :
    let c : Ctx := ⟨true, 3#32, [⟨0x8000#32, true⟩, ⟨0x8000#32, true⟩, ⟨0x100#32, false⟩], true, true, [1]⟩
    handleRequest c 1#32 0x4000#32 0x4000#32 = .serve ∧ handleRequest c 0#32 0#32 0x4000#32 = .reject ∧
    handleRequest c 2#32 0#32 0x100#32 = .reject ∧ handleRequest c 3#32 0#32 1#32 = .closeBadIndex ∧
    handleRequest c 1#32 0x4001#32 0x4000#32 = .closeBadRange := by decide

/-! ## Read cache (M-CACHE) -/

/-- **cache_transparent.** After *any* history of `get / fire / advance / clear` on a fresh cache, for
every configured `maxSize` (also zero and negative) and TTL: `size = Σ |value|`, the map and the
access list hold the same keys (each once), every cached value is one a loader returned for that
key; and the next `Get` does not panic and returns the loader's own result — bytes or error — on a
miss, or on a hit a value that an earlier loader call returned for the same key. -/
theorem cache_transparent {κ : Type} [DecidableEq κ] (maxSize : Int) (ttl : Nat) (ops : List (Op κ)) :
    let c := (runLog (new maxSize ttl) [] ops).1
    let log := (runLog (new maxSize ttl) [] ops).2
    c.size = sumLen c.heap ∧ c.keys.Perm (c.heap.map (·.key)) ∧ (c.heap.map (·.key)).Nodup ∧
    (∀ i ∈ c.heap, (i.key, i.value) ∈ log) ∧
    ∀ k r, match (get c k r).2 with
      | .value v true => (k, v) ∈ log
      | .value v false => r = .ok v
      | .error => r = .err
      | .panic => False := by
  intro c log
  obtain ⟨hinv, _, hprov⟩ := runLog_spec ops (new maxSize ttl : Cache κ) [] (new_inv _ _) (fun j hj => by cases hj)
  refine ⟨hinv.size_eq, hinv.keys_perm, hinv.nodup, hprov, ?_⟩
  intro k r
  have hs := get_spec c hinv k r
  generalize hg : (get c k r).2 = g at hs
  cases g with
  | panic => exact hs.no_panic rfl
  | error => exact (hs.error rfl).2
  | value v hit =>
    cases hit with
    | false => exact (hs.miss v rfl).2
    | true =>
      obtain ⟨_, j, hj, e1, e2⟩ := hs.hit v rfl
      exact e1 ▸ e2 ▸ hprov j hj

/-- **cache_bound** (for C17). After any history: `0 ≤ size ≤ max maxSize 0`, `size` is the sum of the
cached value lengths, map and access list have the same number of entries, every cached value fits
`maxSize` by itself, and `maxSize` never changes. -/
theorem cache_bound {κ : Type} [DecidableEq κ] (maxSize : Int) (ttl : Nat) (ops : List (Op κ)) :
    let c := run (new maxSize ttl) ops
    0 ≤ c.size ∧ c.size ≤ max maxSize 0 ∧ c.size = sumLen c.heap ∧ c.keys.length = c.heap.length ∧
    c.maxSize = maxSize := by
  intro c
  obtain ⟨hinv, hmax, _⟩ : Inv c ∧ c.maxSize = maxSize ∧ _ :=
    runLog_spec ops (new maxSize ttl : Cache κ) [] (new_inv _ _) (fun j hj => by cases hj)
  have h0 : 0 ≤ c.size := hinv.size_eq ▸ sumLen_nonneg _
  refine ⟨h0, ?_, hinv.size_eq, by simpa using hinv.keys_perm.length_eq, hmax⟩
  rcases hinv.bound with he | hb
  · have : c.size = 0 := by rw [hinv.size_eq, he]; rfl
    omega
  · omega

/-- Non-vacuity: capacity 5, three loads of 3, 2 and 4 bytes — the least recently used items go. -/
example :
    let c := run (new 5 10 : Cache Nat) [.get 1 (.ok [1, 2, 3]), .get 2 (.ok [4, 5]), .get 1 .err, .get 3 (.ok [6, 7, 8, 9])]
    c.size = 4 ∧ c.keys = [3] := by decide

/-! ## Cached piece reads (M-CP) -/

/-- **cachedpiece_exact.** For every `readSize > 0` (any size: block arithmetic is 64-bit), every
invariant cache state that is coherent with the pieces of the world — whatever it holds or has
evicted —, every disk that returns the piece's bytes or fails, and every `off + n ≤ pieceLength`:
`ReadAt` returns exactly `n` bytes equal to `data[off, off+n)`, or an error that stems from a disk
error; never a short read, never a panic; the cache stays invariant and coherent. -/
theorem cachedpiece_exact (w : World) (rs : Nat) (hrs : 0 < rs) (pid : Bytes) (hpid : pid.length = 20)
    (idx : Nat) (hidx : idx < 4294967296) (hL : (w pid idx).length < 4294967296)
    (rd : Reader) (hrd : ExactReader (w pid idx) rd)
    (c : Cache Bytes) (hinv : Inv c) (hcoh : Coherent w rs c)
    (off n : Nat) (hrange : off + n ≤ (w pid idx).length) :
    let cp : CP := { peerID := pid, index := idx, length := (w pid idx).length, readSize := rs }
    let r := readAt cp rd c n off
    ((r.2 = .ok (slice (w pid idx) off n) ∧ (slice (w pid idx) off n).length = n) ∨
      (∃ bs, r.2 = .err bs ∧ ∃ o l, o + l ≤ (w pid idx).length ∧ rd o l = .err)) ∧
    Inv r.1 ∧ Coherent w rs r.1 ∧ r.1.maxSize = c.maxSize := by
  intro cp r
  obtain ⟨i1, i2, i3, i4⟩ := readAtLoop_spec w rs hrs pid hpid idx hidx hL rd hrd (n + 1) c n off [] hinv hcoh
    hrange (by omega)
  refine ⟨?_, i1, i2, i3⟩
  rcases i4 with h | h
  · left
    refine ⟨by simpa [r, readAt] using h, ?_⟩
    rw [slice_length]; omega
  · right; exact h

/-- With a disk that does not fail the read is exact, outright. -/
theorem cachedpiece_exact_total (w : World) (rs : Nat) (hrs : 0 < rs) (pid : Bytes) (hpid : pid.length = 20)
    (idx : Nat) (hidx : idx < 4294967296) (hL : (w pid idx).length < 4294967296)
    (c : Cache Bytes) (hinv : Inv c) (hcoh : Coherent w rs c)
    (off n : Nat) (hrange : off + n ≤ (w pid idx).length) :
    let cp : CP := { peerID := pid, index := idx, length := (w pid idx).length, readSize := rs }
    (readAt cp (dataReader (w pid idx)) c n off).2 = .ok (slice (w pid idx) off n) := by
  intro cp
  have := cachedpiece_exact w rs hrs pid hpid idx hidx hL _ (dataReader_exact _) c hinv hcoh off n hrange
  rcases this.1 with h | ⟨bs, _, o, l, hol, herr⟩
  · exact h.1
  · exact absurd herr (dataReader_total _ o l hol)

/-- **upload_reads_exact.** Session level: starting from an empty cache of any capacity and TTL, after
any history of valid reads of any pieces of any torrents (sharing the one cache, whose keys never
collide: `mkKey_inj`), timer expiries, clock advances and clears, *every* read returned exactly its
`n` bytes `data[off, off+n)`. -/
theorem upload_reads_exact (w : World) (rs : Nat) (hrs : 0 < rs) (maxSize : Int) (ttl : Nat) (ops : List WOp)
    (hv : ∀ o ∈ ops, o.Valid w) :
    wrun w rs (new maxSize ttl) ops = wexpected w ops :=
  wrun_spec w rs hrs ops _ (new_inv _ _) (coherent_new w rs _ _) hv

/-- Non-vacuity (the witness of DESIGN 10 #2): 20 bytes at offset 25 of a 50-byte piece with 32-byte
cache blocks, cache capacity 40 (the second block evicts the first). -/
example :
    let data : Bytes := (List.range 50).map (· + 100)
    let cp : CP := { peerID := List.replicate 20 1, index := 0, length := 50, readSize := 32 }
    (readAt cp (dataReader data) (new 40 60) 20 25).2 = .ok ((List.range 20).map (· + 125)) := by decide

/-- The defect repaired by rain d79bb15: the old `ReadAt` answers the same request with 7 bytes and
no error. -/
theorem readAtOld_short_counterexample :
    let data : Bytes := (List.range 50).map (· + 100)
    let cp : CP := { peerID := List.replicate 20 1, index := 0, length := 50, readSize := 32 }
    (readAtOld cp (dataReader data) (new 40 60) 20 25).2 = .ok ((List.range 7).map (· + 125)) := by decide

/-- The defect repaired by rain 5e7d231: with `readSize = 2^32` the old block end wraps to 0, the
cached block is empty and `buf[begin:]` panics for a valid request. -/
theorem readAtOld_wide_counterexample :
    let data : Bytes := (List.range 50).map (· + 100)
    let cp : CP := { peerID := List.replicate 20 1, index := 0, length := 50, readSize := 4294967296 }
    (readAtOld cp (dataReader data) (new 40 60) 20 25).2 = .panic := by decide

/-! ## Upload queue and framing (M-WQ) -/

open Rain.WriteQueue in
/-- **wq_bound** (for C17). After any interleaving of enqueues (any message), cancels and hand-offs to
the writer goroutine, for every configured `maxQueuedRequests` (also zero and negative) and both
fast modes: the counter equals the number of piece messages in the queue and that number is at most
`max maxQueuedRequests 0`. -/
theorem wq_bound (maxQ : Int) (fast : Bool) (ops : List Rain.WriteQueue.Op) :
    let s := Rain.WriteQueue.run (Rain.WriteQueue.new maxQ fast) ops
    s.queued = countPieces s.queue ∧ (countPieces s.queue : Int) ≤ max maxQ 0 ∧ s.maxQueued = maxQ := by
  intro s
  obtain ⟨h1, h2⟩ : Rain.WriteQueue.Inv s ∧ s.maxQueued = maxQ :=
    run_inv ops _ (Rain.WriteQueue.new_inv maxQ fast)
  exact ⟨h1.count, h1.count ▸ h2 ▸ h1.bound, h2⟩

open Rain.WriteQueue in
/-- **cancel_not_sent.** From any queue state in which request `r` is queued at most once: after
`CancelRequest(r)` the writer never takes a piece message for `r` again — whatever else happens —
until `r` is requested anew. -/
theorem cancel_not_sent (s : WQ) (r : Req) (ops : List Rain.WriteQueue.Op)
    (hone : List.count (Msg.piece r) s.queue ≤ 1) (hops : ∀ o ∈ ops, o ≠ .enqueue (.piece r)) :
    ∀ x ∈ handed (Rain.WriteQueue.cancel s r) ops, x.1 ≠ .piece r :=
  handed_no_piece r ops _ (cancel_removes s r hone) hops

open Rain.WriteQueue in
/-- **choke_not_sent.** After a `choke` is enqueued no piece message that was queued before it is
ever written (whatever the fast mode), until requested anew. -/
theorem choke_not_sent (s : WQ) (r : Req) (ops : List Rain.WriteQueue.Op)
    (hops : ∀ o ∈ ops, o ≠ .enqueue (.piece r)) :
    ∀ x ∈ handed (enqueue s .choke) ops, x.1 ≠ .piece r :=
  handed_no_piece r ops _ (choke_removes s r) hops

open Rain.WriteQueue in
/-- **piece_frame_exact.** What the writer emits for a piece message, completely: a *reject* frame
if the request was served before (duplicate); otherwise — for a length within the 16 KiB buffer and
`n` bytes returned by the data source — the frame `be32(9+n) ‖ 7 ‖ be32 index ‖ be32 begin ‖ bytes`;
the writer gives up on a read error; a length above 16 KiB would index past the buffer (excluded
upstream by `wire_served_le_16k`). -/
theorem piece_frame_exact (served : List Req) (r : Req) (d : DataRes) :
    (r ∈ served ∧ writeMsg served (.piece r) d = (served, .frame (frame 16 (reqBytes r)))) ∨
    (r ∉ served ∧ (writeMsg served (.piece r) d).1 = r :: served ∧
      ((maxBlock < r.l ∧ (writeMsg served (.piece r) d).2 = .panic) ∨
       (r.l ≤ maxBlock ∧ ((∃ bytes, (d = .ok bytes ∨ d = .eof bytes) ∧
            (writeMsg served (.piece r) d).2 =
              .frame (Rain.WriteQueue.be32 (9 + bytes.length) ++ [7] ++ Rain.WriteQueue.be32 r.idx ++
                        Rain.WriteQueue.be32 r.b ++ bytes)) ∨
          (d = .err ∧ (writeMsg served (.piece r) d).2 = .died))))) :=
  writeMsg_piece served r d

open Rain.WriteQueue in
/-- **served_once.** In every history, from any state, the requests answered with a data-carrying
piece frame are pairwise distinct and none of them had been served before: a duplicate of a served
request is rejected, never answered with data twice. -/
theorem served_once (s : WQ) (ops : List Rain.WriteQueue.Op) :
    (dataSent (handed s ops)).Nodup ∧ ∀ r ∈ dataSent (handed s ops), r ∉ s.served :=
  dataSent_nodup ops s

open Rain.WriteQueue in
/-- Non-vacuity: limit 1, no fast extension — the second request is dropped, the first is cancelled,
the third is queued and sent as `be32(9+2) 7 idx begin data`. -/
example :
    let ops : List Rain.WriteQueue.Op := [.enqueue (.piece ⟨0, 0, 2⟩), .enqueue (.piece ⟨0, 2, 2⟩), .cancel ⟨0, 0, 2⟩,
      .enqueue (.piece ⟨1, 4, 2⟩), .handoff (.ok [0xAA, 0xBB]), .handoff .err]
    handed (Rain.WriteQueue.new 1 false) ops =
      [(.piece ⟨1, 4, 2⟩, .frame [0, 0, 0, 11, 7, 0, 0, 0, 1, 0, 0, 0, 4, 0xAA, 0xBB])] := by decide

/-! ## The read path composed -/

open Rain.WriteQueue in
/-- **upload_frame_exact.** Handler, cached read and framing composed: if the request branch decides
to serve `(index, begin, length)` (32-bit values from the wire that passed the reader), then — for
every read-cache block size `> 0`, every invariant cache state coherent with the world's pieces, the
piece's bytes `data` having the piece's length — the bytes the writer puts on the wire for that
request (not served before) are exactly
`be32(9+length) ‖ 7 ‖ be32 index ‖ be32 begin ‖ data[begin, begin+length)`, `13 + length` bytes. -/
theorem upload_frame_exact (ctx : Ctx) (idx b l : U32) (hserve : wireRequest ctx idx b l = some .serve)
    (w : World) (rs : Nat) (hrs : 0 < rs) (pid : Bytes) (hpid : pid.length = 20)
    (hdata : ∀ pi, ctx.pieces[idx.toNat]? = some pi → (w pid idx.toNat).length = pi.length.toNat)
    (c : Cache Bytes) (hinv : Inv c) (hcoh : Coherent w rs c)
    (served : List Req) (hnew : (⟨idx.toNat, b.toNat, l.toNat⟩ : Req) ∉ served) :
    let data := w pid idx.toNat
    let cp : CP := { peerID := pid, index := idx.toNat, length := data.length, readSize := rs }
    let r : Req := ⟨idx.toNat, b.toNat, l.toNat⟩
    ∃ bytes, (readAt cp (dataReader data) c l.toNat b.toNat).2 = .ok bytes ∧
      bytes = slice data b.toNat l.toNat ∧ bytes.length = l.toNat ∧
      (writeMsg served (.piece r) (.ok bytes)).2 =
        .frame (Rain.WriteQueue.be32 (9 + l.toNat) ++ [7] ++ Rain.WriteQueue.be32 idx.toNat ++
                  Rain.WriteQueue.be32 b.toNat ++ slice data b.toNat l.toNat) := by
  intro data cp r
  have hl := wire_served_le_16k ctx idx b l hserve
  have hs := ((wireRequest_eq_some ctx idx b l _).mp hserve).2
  obtain ⟨_, _, pi, hpi, _, hrange, _, _⟩ := (serve_sound ctx idx b l).mp hs
  have hlen := hdata pi hpi
  have hL : data.length < 4294967296 := by
    have := pi.length.isLt
    show (w pid idx.toNat).length < 4294967296
    omega
  have hrange' : b.toNat + l.toNat ≤ data.length := by
    show b.toNat + l.toNat ≤ (w pid idx.toNat).length
    omega
  have hread := cachedpiece_exact_total w rs hrs pid hpid idx.toNat idx.isLt hL c hinv hcoh b.toNat l.toNat hrange'
  have hblen : (slice data b.toNat l.toNat).length = l.toNat := by
    rw [slice_length]; omega
  refine ⟨slice data b.toNat l.toNat, hread, rfl, hblen, ?_⟩
  rw [writeMsg_piece_ok _ hnew (show l.toNat ≤ 16384 from hl.2), pieceFrame, hblen]

end Rain.Props.C03
