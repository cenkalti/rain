import RainModel.Lemmas.WsAcct
/-!
C17 (and C10) — the web seed download slots of a torrent: `webseedActiveDownloads` against
`Config.WebseedMaxDownloads` and against the sources that really have a downloader (model M-WSACCT,
`Model/WsAcct.lean`; tied to the real event loop by suite `wsloop`).

`stepFixed` / `runFixed` is the code as it is, with the repair of finding C17-F3 (rain commit b821f33: the verdict
handler gives the slot back only for a downloader it closed); the driver of suite `wsloop` replays with `runFixed`.
`step` / `run` is the behaviour before the repair, kept for the counterexample theorems.

* `active_eq_downloading_full` / `active_le_cap_full`: the statements for every history of the code before the repair.
  They are FALSE (finding C17-F3): `active_drift_counterexample`,
  `cap_exceeded_counterexample`, `active_eq_downloading_full_false`, `active_le_cap_full_false`.
* `active_eq_downloading_partial` / `active_le_cap_partial`: they hold for the code before the repair along every
  history in which no corrupt-piece verdict arrives for a source that has no downloader any more (`SafeRun`).
* `active_eq_downloading_repaired` / `active_le_cap_repaired`: they hold for EVERY history of the repaired code.
* `slot_leak_blocks_all`: why a drift matters for C10 — with every slot leaked no source is ever started again.
-/
namespace Rain.Props.C17Ws
open Rain.WsAcct

/-- The counter equals the number of sources that have a downloader, after every history of handler events, for
every number of sources and every configured maximum (no assumption on it). -/
def active_eq_downloading_full : Prop :=
  ∀ (n : Nat) (cap : Int) (es : List Ev),
    (run (init n cap) es).active = (countDl (run (init n cap) es).srcs : Int)

/-- The number of sources that download at the same time never exceeds the configured maximum. -/
def active_le_cap_full : Prop :=
  ∀ (n : Nat) (cap : Int), 0 ≤ cap → ∀ es : List Ev, (countDl (run (init n cap) es).srcs : Int) ≤ cap

/-- **active_eq_downloading (repaired handler), every history.** -/
theorem active_eq_downloading_repaired (n : Nat) (cap : Int) (es : List Ev) :
    (runFixed (init n cap) es).active = (countDl (runFixed (init n cap) es).srcs : Int) :=
  (runFixed_inv es _ (init_inv n cap)).count

/-- **active_le_cap (repaired handler), every history, every maximum `≥ 0`.** -/
theorem active_le_cap_repaired (n : Nat) (cap : Int) (hc : 0 ≤ cap) (es : List Ev) :
    (countDl (runFixed (init n cap) es).srcs : Int) ≤ (runFixed (init n cap) es).cap ∧
    (runFixed (init n cap) es).cap = cap := by
  have h := runFixed_inv es _ (init_inv n cap)
  exact ⟨by rw [h.cap, ← h.count]; exact h.le hc, h.cap⟩

/-- **active_eq_downloading (the code before the repair), every safe history.** -/
theorem active_eq_downloading_partial (n : Nat) (cap : Int) (es : List Ev) (hs : SafeRun (init n cap) es) :
    (run (init n cap) es).active = (countDl (run (init n cap) es).srcs : Int) := by
  rw [run_eq_runFixed es _ hs]; exact active_eq_downloading_repaired n cap es

/-- **active_le_cap (the code before the repair), every safe history.** -/
theorem active_le_cap_partial (n : Nat) (cap : Int) (hc : 0 ≤ cap) (es : List Ev) (hs : SafeRun (init n cap) es) :
    (countDl (run (init n cap) es).srcs : Int) ≤ cap := by
  rw [run_eq_runFixed es _ hs]
  have := active_le_cap_repaired n cap hc es
  omega

/-- Non-vacuity of the safe histories: 3 sources, maximum 2; start (two sources download), the first fails, the
third takes its slot, the first is retried while both slots are taken (nothing starts), a range ends and is
restarted, a peer closes a range, a corrupt piece disables a downloading source, stop.  The history is safe and the
maximum is reached on the way. -/
def sampleHistory : List Ev :=
  [.run true, .startAll 5, .wsError 0 5, .retry 0 true, .rangeEnd 1 true, .stopAtClosed 2 false,
   .startAll 1, .wsCorrupt 1 3, .stopAll]

example : SafeRun (init 3 2) sampleHistory := by decide
example : countDl (run (init 3 2) (sampleHistory.take 3)).srcs = 2 ∧
    (run (init 3 2) (sampleHistory.take 3)).active = 2 := by decide
example : (run (init 3 2) (sampleHistory.take 4)).srcs.map (·.dl) = [false, true, true] := by decide

/-- **Finding C17-F3 in the model (the minimal history of the code before the repair).**  One source, maximum 1, a
torrent whose last missing piece is the whole range: the source delivers that piece (`Done`), `handleWebseedPieceResult`
closes the downloader, gives the slot back (1 → 0) and finds no new range (the piece is being written); the hash
check fails and `handlePieceWriteDone` decrements again: the counter is −1 with no downloader. -/
theorem active_drift_counterexample :
    let s := run (init 1 1) [.run true, .startAll 1, .rangeEnd 0 false, .wsCorrupt 0 0]
    s.active = -1 ∧ countDl s.srcs = 0 := by decide

/-- … and what it means for the limit, as far as the bookkeeping goes: three sources, maximum 1.  After the drift
the counter admits a second download.  (In this model the picker's answers are unconstrained.  In the real torrent
the drift needs a moment in which no range can be started, so only the few missing pieces are left to be picked
right then — the limit is kept by that coincidence, not by the counter any more.) -/
theorem cap_exceeded_counterexample :
    let s := run (init 3 1) [.run true, .startAll 1, .rangeEnd 0 false, .wsCorrupt 0 2]
    countDl s.srcs = 2 ∧ s.cap = 1 ∧ s.active = 1 := by decide

theorem active_eq_downloading_full_false : ¬ active_eq_downloading_full := by
  intro h
  have ⟨h1, h2⟩ := active_drift_counterexample
  rw [h, h2] at h1
  exact absurd h1 (by decide)

theorem active_le_cap_full_false : ¬ active_le_cap_full := by
  intro h
  have h2 := h 3 1 (by decide) [.run true, .startAll 1, .rangeEnd 0 false, .wsCorrupt 0 2]
  rw [cap_exceeded_counterexample.1] at h2
  exact absurd h2 (by decide)

/-- The repaired handler on the same two histories. -/
example : (runFixed (init 1 1) [.run true, .startAll 1, .rangeEnd 0 false, .wsCorrupt 0 0]).active = 0 := by decide
example : countDl (runFixed (init 3 1) [.run true, .startAll 1, .rangeEnd 0 false, .wsCorrupt 0 2]).srcs = 1 := by
  decide

/-- **slot_leak_blocks_all** (why the balance matters for C10).  In a state whose counter has reached the maximum,
`startPieceDownloaderForWebseed` starts nothing, whatever the picker offers — so if slots leak (counter above the
number of downloaders) until the counter equals the maximum, no web seed is asked again by any handler that only
starts downloads. -/
theorem slot_leak_blocks_all (s : St) (h : s.cap ≤ s.active) (i : Nat) (pick : Bool) (k : Nat) :
    startFor s i pick = (s, false) ∧ startAll s k = s := by
  have hsf : ∀ j p, startFor s j p = (s, false) := by
    intro j p; unfold startFor; simp [h]
  exact ⟨hsf i pick, startAll_induct (P := (· = s)) (fun _ j _ p e _ _ _ => by rw [e, hsf]) s k rfl⟩

end Rain.Props.C17Ws
