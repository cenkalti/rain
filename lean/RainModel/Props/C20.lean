import RainModel.Model.Discipline
import RainModel.Generated.Access
import RainModel.Lemmas.LockGraph
/-!
C20 — no data races or lock-ups under concurrent API use (weakest level: `other`).

What is logic here is the *ownership discipline* of package `torrent`: every field of the `torrent`
struct is a channel, a sync primitive, immutable after construction, internally synchronised, or owned
by the event loop — and then touched from other goroutines only under a mutex the loop also takes.
`Generated/Access.lean` is regenerated from the source by /verif/extract on every run; the theorems
below are re-checked by the kernel against that table.  Actual races are searched for by the `race`
suite (API stress under the Go race detector); that search is not a proof.
-/
namespace Rain.Props.C20
open Rain.Discipline Rain.Generated.Access

/-- The (function, field) pairs of the current source that break the discipline and are recorded as
finding C20-F2 (getters, the announcer callback and session background writers reading loop-owned
fields).  A pair not listed here fails `discipline_holds_except_known`. -/
def knownPairs : List (String × String) := [
  ("Session.CompactDatabase", "bitfield"),
  ("Session.CompactDatabase", "completeCmdRun"),
  ("Session.CompactDatabase", "info"),
  ("Session.CompactDatabase", "port"),
  ("Session.stopAndRemoveData", "info"),
  ("Session.stopAndRemoveData", "port"),
  ("Session.updateStats", "bitfield"),
  ("Torrent.AddTracker", "info"),
  ("Torrent.Port", "port"),
  ("torrent.FileStats", "pieces"),
  ("torrent.Files", "info"),
  ("torrent.Magnet", "info"),
  ("torrent.Torrent", "info"),
  ("torrent.announcerFields", "bitfield"),
  ("torrent.announcerFields", "info"),
  ("torrent.announcerFields", "port"),
  ("torrent.bytesComplete", "bitfield"),
  ("torrent.bytesComplete", "info"),
  ("torrent.bytesComplete", "pieces"),
  ("torrent.getTieredTrackers", "trackers")
]

def named (p : Nat × Nat) : String × String := (fnNames.getD p.1 "?", fieldNames.getD p.2 "?")

/-- **discipline_holds_except_known.** Recomputed by the kernel from the extracted table: every access
that can run outside the event loop to a loop-owned field written by the loop without a common mutex is
one of the recorded pairs. -/
theorem discipline_holds_except_known :
    ((violatingFast fieldClass table fieldNames.length).map named).all (fun p => knownPairs.contains p) = true := by
  decide +kernel

/-- The fast per-field computation finds every violating access, for every table whose field numbers are
below the bound. -/
theorem violatingFast_complete_all (cls : List Nat) (tbl : List Acc) (n : Nat) (hn : ∀ r ∈ tbl, r.field < n)
    (r : Acc) (hr : r ∈ violating cls tbl) : (r.fn, r.field) ∈ violatingFast cls tbl n := by
  unfold violating at hr
  obtain ⟨hmem, hp⟩ := List.mem_filter.1 hr
  simp only [Bool.and_eq_true] at hp
  obtain ⟨⟨hctx, hown⟩, hany⟩ := hp
  obtain ⟨w, hw, hcl⟩ := List.any_eq_true.1 hany
  unfold violatingFast
  refine List.mem_flatMap.2 ⟨r.field, List.mem_filter.2 ⟨List.mem_range.2 (hn r hmem), hown⟩, ?_⟩
  refine List.mem_eraseDups.2 (List.mem_map.2 ⟨r, List.mem_filter.2 ⟨hmem, ?_⟩, rfl⟩)
  have hcl' := hcl
  unfold clash at hcl'
  simp only [Bool.and_eq_true] at hcl'
  obtain ⟨⟨⟨⟨hf, hc1⟩, _⟩, _⟩, _⟩ := hcl'
  show (r.field == r.field && r.ctx != 0 && (loopSide tbl r.field).any (clash r)) = true
  rw [Bool.and_eq_true, Bool.and_eq_true]
  refine ⟨⟨beq_self_eq_true _, hctx⟩, List.any_eq_true.2 ⟨w, List.mem_filter.2 ⟨hw, ?_⟩, hcl⟩⟩
  rw [Bool.and_eq_true]
  exact ⟨by rw [beq_iff_eq] at hf ⊢; exact hf.symm, hc1⟩

/-- The fast per-field computation agrees with the direct definition on the extracted table. -/
theorem violatingFast_complete :
    ((violating fieldClass table).map fun r => (r.fn, r.field)).all
      (fun p => (violatingFast fieldClass table fieldNames.length).contains p) = true := by
  have hb : table.all (fun r => decide (r.field < fieldNames.length)) = true := by decide +kernel
  rw [List.all_eq_true]
  intro p hp
  obtain ⟨r, hr, rfl⟩ := List.mem_map.1 hp
  have := violatingFast_complete_all fieldClass table fieldNames.length
    (fun r hr => by simpa using List.all_eq_true.1 hb r hr) r hr
  simpa using this

/-- **lock_order_acyclic.** The only lock held while waiting for an event loop is the session's torrent
registry lock (in `Session.Close`), and no function reachable from the event loop takes that lock: the
"holds L while waiting for the loop" / "the loop takes L" graph has no cycle. -/
theorem lock_order_acyclic :
    heldWhileWaiting.all (fun h => !(loopLocks.contains h.2.1)) = true := by
  decide +kernel

/-! ### Lock nesting (potential deadlocks among the locks themselves)

`lockEdges` (regenerated from the source on every run) has one entry per acquisition of a lock made while
another lock is held — lexically, or inside a function called from the critical section; a bbolt transaction
counts as holding `bbolt.rw` (Update/Batch and every `resumer` call) or `bbolt.ro` (View).  A deadlock among
locks needs a cycle `l₀ → l₁ → … → l₀` of "holds lᵢ, acquires lᵢ₊₁" in that table.  The kernel evaluates the
check on the table (`lock_nesting_acyclic`); `lock_nesting_no_cycle` is what the check means, for every table. -/

/-- **lock_nesting_no_cycle** (soundness of the check, all edge lists): if `lockGraphAcyclic es = true` there is
no lock `l` with a non-empty walk `l → … → l` along "holds → acquires" edges of `es`; in particular no self-edge
`l → l` (re-acquisition of a non-reentrant mutex, `RLock` inside `RLock`) and no inversion `a → b`, `b → a`. -/
theorem lock_nesting_no_cycle (es : List LockEdge) (h : lockGraphAcyclic es = true) (l : Nat) :
    ¬ Path (lockGraph es) l l :=
  no_cycle_of_graphAcyclic h l

/-- The same with the cycle written out as a list of locks `l₀ → l₁ → … → lₖ → l₀`. -/
theorem lock_nesting_no_cycle_list (es : List LockEdge) (h : lockGraphAcyclic es = true) (l₀ : Nat) (ls : List Nat) :
    ¬ Walk (lockGraph es) l₀ ls l₀ :=
  fun hw => no_cycle_of_graphAcyclic h l₀ (Walk.toPath ls l₀ l₀ hw)

/-- **lock_nesting_acyclic.** Kernel evaluation on the table extracted from the current source. -/
theorem lock_nesting_acyclic : lockGraphAcyclic lockEdges = true := by
  decide +kernel

theorem extracted_lock_graph_has_no_cycle (l : Nat) : ¬ Path (lockGraph lockEdges) l l :=
  lock_nesting_no_cycle lockEdges lock_nesting_acyclic l

/-- **loop_carried_locks_gated.** Where a loop over a collection takes the lock of the next element while it
still holds the previous one (same lock name, distinct instances: `Session.updateStats` read-locks the bitfield
of every torrent), the whole sequence runs under an exclusive lock (the bbolt write transaction), so two such
sequences cannot interleave and wait for each other's elements. -/
theorem loop_carried_locks_gated : loopCarriedGated loopCarried = true := by
  decide +kernel

/-- Non-vacuity: an inversion `A → B`, `B → A` is rejected … -/
example : lockGraphAcyclic [⟨0, 0, 1, 0⟩, ⟨1, 1, 0, 0⟩] = false := by decide
/-- … also when it is hidden among other edges and closed through a third lock, … -/
example : lockGraphAcyclic [⟨0, 0, 1, 0⟩, ⟨0, 5, 6, 0⟩, ⟨1, 1, 2, 3⟩, ⟨2, 2, 0, 0⟩, ⟨2, 2, 7, 0⟩] = false := by decide
/-- … a self-edge (re-acquisition, `RLock` inside `RLock`) is rejected, … -/
example : lockGraphAcyclic [⟨0, 3, 3, 1⟩] = false := by decide
/-- … a consistent order is accepted, and the extracted table is not empty. -/
example : lockGraphAcyclic [⟨0, 0, 1, 0⟩, ⟨1, 1, 2, 0⟩, ⟨2, 0, 2, 0⟩] = true := by decide
example : lockEdges.length > 0 := by decide +kernel
/-- The hypothesis of `lock_nesting_no_cycle` is not what makes it true: the rejected inversion has a cycle. -/
example : Path (lockGraph [⟨0, 0, 1, 0⟩, ⟨1, 1, 0, 0⟩]) 0 0 :=
  Path.cons (b := 1) (by decide) (Path.single (by decide))

/-! ### Lock-guarded fields of `Session` -/

/-- The (function, field) pairs of the current source that touch a guarded field of `Session` without its mutex
outside construction (finding C20-F5).  A pair not listed here fails `session_fields_guarded_except_known`. -/
def knownSessionSites : List (String × String) := []

def sessNamed (a : SessAcc) : String × String := (sessFnNames.getD a.fn "?", sessFieldNames.getD a.field "?")

/-- **session_fields_guarded_except_known.** Recomputed by the kernel from the extracted table: every access to a
mutex-guarded field of `Session` that can run after construction holds the guard — exclusively for a write, at
least shared for a read; lexically or in every caller — except the recorded sites. -/
theorem session_fields_guarded_except_known :
    ((sessUnguarded sessAccesses).map sessNamed).all (fun p => knownSessionSites.contains p) = true := by
  decide +kernel

/-- What the rule buys: two accesses that both satisfy it, to the same field written after construction, at least
one of them a write, neither during construction, hold the same `RWMutex` — the writer exclusively, the other at
least shared — so the mutex orders them. -/
theorem session_guard_excludes (tbl : List SessAcc) (a b : SessAcc)
    (ha : sessGuardOk tbl a = true) (hb : sessGuardOk tbl b = true)
    (hca : a.ctor = false) (hcb : b.ctor = false) (hf : a.field = b.field)
    (hw : sessFieldWritten tbl a.field = true) (haw : a.write = true) :
    a.mode = 2 ∧ b.mode ≠ 0 := by
  have hwb : sessFieldWritten tbl b.field = true := hf ▸ hw
  unfold sessGuardOk at ha hb
  simp only [hca, hcb, hw, hwb, haw, Bool.false_or, Bool.not_true, if_true] at ha hb
  refine ⟨by simpa using ha, ?_⟩
  cases hbw : b.write <;> simp [hbw] at hb <;> omega

/-- Non-vacuity: the table has guarded accesses outside construction, the rule rejects an unguarded write … -/
example : (sessAccesses.filter fun a => !a.ctor && a.mode != 0).length > 0 := by decide +kernel
example : sessUnguarded [⟨0, 0, true, 1, false⟩] = [⟨0, 0, true, 1, false⟩] := by decide
/-- … and a read under a read lock next to a write under the write lock is accepted. -/
example : sessUnguarded [⟨0, 0, true, 2, false⟩, ⟨1, 0, false, 1, false⟩] = [] := by decide

theorem no_race_of_no_clash (cls : List Nat) (hb : Event → Event → Prop)
    (hlock : ∀ a b : Event, a.acc.lock ≠ 0 → a.acc.lock = b.acc.lock → hb a b ∨ hb b a)
    (a b : Event) (hctx : b.acc.ctx ≠ 1)
    (hsame : a.acc.fn = b.acc.fn → a.acc.ctx = 2 → False)
    (hnc : clash a.acc b.acc = false) : ¬ Race cls hb a b := by
  intro ⟨_, hf, _, hw, hn1, hn2⟩
  unfold clash at hnc
  have hfe : (a.acc.field == b.acc.field) = true := by simp [hf]
  have hc1 : (b.acc.ctx != 1) = true := by simp [hctx]
  have hwr : (b.acc.write || a.acc.write) = true := by
    rcases hw with h | h <;> simp [h]
  simp only [hfe, hc1, hwr, Bool.true_and, Bool.and_eq_false_iff, Bool.not_eq_false', Bool.and_eq_true,
    bne_iff_ne, ne_eq, beq_iff_eq] at hnc
  rcases hnc with ⟨hl0, hl⟩ | ⟨hfn, hc2⟩
  · rcases hlock a b hl0 hl with h | h
    · exact hn1 h
    · exact hn2 h
  · exact hsame hfn hc2

/-- **discipline_sound.** In any execution whose happens-before relation orders all events of the loop
goroutine and all pairs of critical sections of one mutex, an event outside the loop goroutine and one on it whose
accesses do not `clash` (and are placed on goroutines as their contexts say) never race — unless both come from one
function that runs on either side, which `clash` lets pass and `hsame` excludes. -/
theorem discipline_sound (cls : List Nat) (hb : Event → Event → Prop)
    (hloop : ∀ a b : Event, a.g = 0 → b.g = 0 → hb a b ∨ hb b a)
    (hlock : ∀ a b : Event, a.acc.lock ≠ 0 → a.acc.lock = b.acc.lock → hb a b ∨ hb b a)
    (a b : Event) (ha : a.wellPlaced) (hbp : b.wellPlaced)
    (hrun : a.g ≠ 0 → a.acc.ctx ≠ 0) (hrun' : b.g = 0 → b.acc.ctx ≠ 1)
    (hsame : a.acc.fn = b.acc.fn → a.acc.ctx = 2 → False)
    (hnc : clash a.acc b.acc = false) (hag : a.g ≠ 0) (hbg : b.g = 0) :
    ¬ Race cls hb a b :=
  no_race_of_no_clash cls hb hlock a b (hrun' hbg) hsame hnc

/-- Non-vacuity: the table is not empty and contains accesses from outside the loop to owned fields. -/
example : (table.filter fun r => r.ctx != 0 && owned fieldClass r.field).length > 0 := by decide +kernel

end Rain.Props.C20
