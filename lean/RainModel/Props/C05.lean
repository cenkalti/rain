import RainModel.Lemmas.LoopWeak
import RainModel.Lemmas.LoopPersist
import RainModel.Lemmas.LoopWInvDec
/-!
C05 — crash-consistent resume, loop level (M-LOOP).  `persisted` is the bitfield last written to the
resume database (on stop, on completion, after verification, by the periodic writer `Op.persist`).

* `persisted_behind`: every bit of the resume bitfield names a piece whose verified bytes are on disk — an
  invariant of every event except an external change of the files;
* `crash_safe`: hence at every crash instant (every prefix of every history) a restart that loads
  `persisted` as its bitfield and trusts it (which it does only when no file is missing) never treats an
  unwritten piece as downloaded;
* `missing_not_trusted`: when the allocator reports missing files, nothing of the old bitfield survives:
  every bit set afterwards is justified by the disk (model of the code after the fix of finding C05-F1).

Across external deletions/restorations of files (`Op.mutate`): for histories **without a verify command**
the record is bitwise below the in-memory bitfield (`persisted_below_bitfield`), hence stale only inside
missing files (`persisted_weakly_sound`), hence never trusted by a restart for a piece that is not on disk
(`crash_safe_with_mutations`).  With a verify command this is **false** in the model over arbitrary states
(`stale_record_after_verify_while_stopping`, a `decide` witness): `forgetBitfield` does nothing when the
in-memory bitfield is nil, and a pending verify makes it nil before the allocator finds a file missing; the
record is stale while the verification of the other files runs (it is repaired when that verification is done;
with the fix of finding C04-F4 also when no file existed: `no_stale_record_when_all_files_deleted`).

Not covered (said plainly): the residual window named in finding C05-F1 (a crash after the allocator
re-created a file but before its result is handled — the model's allocator is atomic), and histories with
verify commands and file mutations (see notes/loop-proofs.md: the witness needs a tracker that hangs on a
torrent whose allocation failed, which the driver never produces, so whether a *driver-reachable* history
violates the property is open; the Go-level sequence is described there).
-/
namespace Rain.Props.C05
open Rain.Loop

/-- **persisted_behind.** One event (any but an external change of the files) preserves: the resume
bitfield ⊆ pieces verified on disk (together with the in-memory bitfield ⊆ the same). -/
theorem persisted_behind (s : St) (p : Parked) (kn : Nat → Bool) (op : Op) (hop : op.isMutate = false)
    (h : Sound s) (hw : WrOK s) : PersistedSound (step s p kn op).1.st :=
  (step_sound s p kn op hop h hw).pers

/-- What a restart would take as its bitfield: the resume bitfield if every data file is present
(`handleAllocationDone` trusts it only when `!HasMissing`), nothing otherwise. -/
def restartTrusts (s : St) : Option (List Bool) :=
  if (List.range s.cfg.flens.length).all (fun f => s.cfg.fpads.getD f false || s.fileExists.getD f false)
  then s.persisted else none

/-- `restartTrusts` looks at the record only when every data file is present. -/
theorem restartTrusts_files (s : St) (i : Nat) (hi : bitOf (restartTrusts s) i = true) :
    FilesExist s ∧ bitOf s.persisted i = true := by
  unfold restartTrusts at hi
  split at hi
  · next hall =>
    refine ⟨fun f hf hpad => ?_, hi⟩
    have := List.all_eq_true.1 hall f (List.mem_range.2 hf)
    have hpad' : s.cfg.fpads[f]?.getD false = false := by simpa using hpad
    simpa [hpad'] using this
  · cases hi

/-- A record that names only verified pieces can be trusted by a restart. -/
theorem restartTrusts_sound (s : St) (h : PersistedSound s) (i : Nat) (hi : bitOf (restartTrusts s) i = true) :
    s.diskOKi i = true := h i (restartTrusts_files s i hi).2

/-- **crash_safe.** For every history from a freshly added torrent (any events but external file changes,
any choices of the implementation) and every crash instant `n`: a piece the restart would treat as
downloaded has its verified bytes on disk at that instant. -/
theorem crash_safe (s0 : St) (h0 : InitLike s0) (hw : NoWritten s0) (evs : List Ev)
    (hop : ∀ e ∈ evs, e.op.isMutate = false)
    (n i : Nat) (hi : bitOf (restartTrusts (drun (s0, none) (evs.take n)).1) i = true) :
    (drun (s0, none) (evs.take n)).1.diskOKi i = true :=
  restartTrusts_sound _
    (drun_sound (evs.take n) (s0, none) (fun e he => hop e (List.mem_of_mem_take he)) h0.sound (h0.wrOK hw)).pers i hi

/-- **missing_not_trusted.** The allocator found files missing (`hasMissing = true`): whatever bitfield and
resume bitfield there were, every bit set after `handleAllocationDone` is justified by the disk; nothing
is taken over. -/
theorem missing_not_trusted (m : M) (hasExisting : Bool) (h : Sound0 m.1) :
    ∀ i, bitOf (handleAllocationDone m hasExisting true).1.bf i = true →
      (handleAllocationDone m hasExisting true).1.diskOKi i = true :=
  handleAllocationDone_missing m hasExisting h

/-- The in-memory bitfield and its resume copy are dropped at once when files are missing. -/
theorem missing_forgets (m : M) (b : List Bool) (hb : m.1.bf = some b) :
    (hadForget m true).1.bf = none ∧ (hadForget m true).1.persisted = none := by
  unfold hadForget
  simp [hb]

/-- **failed_allocation_forgets** (fix for finding C05-F2).  An allocation whose `Open` fails part-way
(`allocFailing`: `failOpen` with `failAt` inside the data files) after it has re-created a file that was missing
(`allocFailMissing`): the in-memory bitfield is gone afterwards, and with it the resume record — it is `none` if
there was a bitfield to forget, and in any case (the record being bitwise below the bitfield, `PBehind`, as it is
along every history without a verify command) it claims no piece.  So no bit — in memory or on record — survives
the re-creation of a file, although the torrent stops with the allocation error before any result is handled. -/
theorem failed_allocation_forgets (m : M) (hf : allocFailing m.1 = true) (hm : allocFailMissing m.1 = true) :
    (allocatorRun m).1.bf = none ∧
    (m.1.bf.isSome = true → (allocatorRun m).1.persisted = none) ∧
    (PBehind m.1 → ∀ i, bitOf (allocatorRun m).1.persisted i = false) := by
  -- the failing allocation: `hadForget` (a file was re-created), then `stop`
  have hrun : (allocatorRun m).1 = (hadForget (allocFailOpen m) true).1.stop true := by
    rw [allocatorRun_eq, if_pos hf]
    unfold allocFail
    simp only [onSt_fst, hm]
  have hx := hadForget_true (allocFailOpen m)
  have hbf : (allocatorRun m).1.bf = none := hrun ▸ (stop_bf' _ true hx.1).elim id id
  refine ⟨hbf, fun hs => hrun ▸ (stop_persisted' _ true (hx.2 hs) hx.1).elim id (·.elim id id), fun hpb i => ?_⟩
  · have := (hpb.adv (allocatorRun_pb m)).sub i
    rw [hbf] at this
    cases hb : bitOf (allocatorRun m).1.persisted i
    · rfl
    · exact absurd (this hb) (by simp)

/-- The same seen from the storage: what the failing allocation did before it failed — the data files before
number `failAt` exist afterwards (they were opened, created if missing, and closed again). -/
theorem failed_allocation_creates (m : M) (hf : allocFailing m.1 = true) (f : Nat)
    (hfm : f ∈ (allocData m.1).take m.1.failAt) : (allocatorRun m).1.fileExists.getD f false = true := by
  rw [allocatorRun_eq, if_pos hf]
  unfold allocFail
  simp only [onSt_fst]
  have hlt : f < m.1.cfg.flens.length := by
    have := List.mem_of_mem_take hfm
    unfold allocData at this
    simpa using (List.mem_filter.1 this).1
  have h1 : (hadForget (allocFailOpen m) (allocFailMissing m.1)).1.fileExists.getD f false = true := by
    simp only [hadForget_fileExists, allocFailOpen, onSt_fst]
    rw [getD_map_range]
    simp [hlt, hfm]
  -- `stop` never removes a file: the allocator it might drop is already gone
  refine stop_cases (P := fun t => t.fileExists.getD f false = true) _ true h1 fun _ => ?_
  have hW := (stopA_writes (hadForget (allocFailOpen m) (allocFailMissing m.1)).1 true).trans ((stopPeers_writes _).trans
    ((stopClear_writes _).trans ((stopWB_writes _).trans (closeData_writes _))))
  have ha : (hadForget (allocFailOpen m) (allocFailMissing m.1)).1.allocator = false := hadForget_allocator ..
  rw [show (stopRun _ true).fileExists = _ from ((stopVer_writes _).trans (stopFin_writes _)).fileExists]
  unfold stopAlloc
  rw [if_neg (by rw [hW.allocator, ha]; exact Bool.false_ne_true), hW.fileExists]
  exact h1

/-- **persisted_below_bitfield.** Every event except the verify command in either of its two forms
(`Op.isVerify`: `Op.verify`, and `Op.verifyHeld`, the same command given while the harness leaves the storage
gates alone) — external file changes and both stop commands included —, in every state without a pending verify: the resume bitfield stays bitwise below the in-memory bitfield —
it is written from it (stop, completion, verification, periodic writer) and dropped with it
(`forgetBitfield`, the dropped allocation of `stop`). -/
theorem persisted_below_bitfield (s : St) (p : Parked) (kn : Nat → Bool) (op : Op) (hop : op.isVerify = false)
    (h : PBehind s) : PBehind (step s p kn op).1.st := h.adv (step_pb s p kn op hop)

/-- **persisted_weakly_sound.** From a freshly added torrent (no verify pending), after any history with
files deleted or restored behind the client's back (no corruption of bytes, no verify command), any choices
of the implementation adopted: a bit of the resume bitfield whose piece is not fine on disk is bad only
inside files that are currently missing. -/
theorem persisted_weakly_sound (s0 : St) (h0 : InitLike s0) (hw : NoWritten s0) (hdv : s0.doVerify = false) (evs : List Ev)
    (hop : ∀ e ∈ evs, e.op.isCorrupt = false) (hv : ∀ e ∈ evs, e.op.isVerify = false) :
    WSP (drun (s0, none) evs).1 :=
  WSP.of_pb (drun_wsound evs (s0, none) hop h0.wsound (h0.wrOK hw)).ws
    (drun_pb evs (s0, none) hv ⟨hdv, fun i hi => by rw [h0.persisted] at hi; cases hi⟩)

/-- With the weak invariant, `PadInv` and the record below the bitfield, what a restart trusts is on disk: it looks at
the record only when no file is missing, and then the weak invariant is the strong one. -/
theorem restartTrusts_wsound (s : St) (hws : WSound s) (hpi : PadInv s) (hpb : PBehind s) (i : Nat)
    (hi : bitOf (restartTrusts s) i = true) : s.diskOKi i = true := by
  obtain ⟨hfe, hp⟩ := restartTrusts_files s i hi
  exact (WSP.of_pb hws.ws hpb).sound_of_files hws.bad hfe (fun j hj => hpi.pad j (hpb.sub j hj)) i hp

/-- **crash_safe_with_mutations.** `crash_safe` for histories in which files are also deleted and restored
behind the stopped client's back (no verify command): at every crash instant, a piece the restart would
treat as downloaded — it trusts the record only when no file is missing — has its verified bytes on disk. -/
theorem crash_safe_with_mutations (s0 : St) (h0 : InitLike s0) (hwr : NoWritten s0) (hdv : s0.doVerify = false)
    (evs : List Ev)
    (hop : ∀ e ∈ evs, e.op.isCorrupt = false) (hv : ∀ e ∈ evs, e.op.isVerify = false)
    (n i : Nat) (hi : bitOf (restartTrusts (drun (s0, none) (evs.take n)).1) i = true) :
    (drun (s0, none) (evs.take n)).1.diskOKi i = true :=
  restartTrusts_wsound _
    (drun_wsound (evs.take n) (s0, none) (fun e he => hop e (List.mem_of_mem_take he)) h0.wsound (h0.wrOK hwr))
    (drun_padInv _ (s0, none) h0.padInv (h0.wrOK hwr))
    (drun_pb (evs.take n) (s0, none) (fun e he => hv e (List.mem_of_mem_take he))
      ⟨hdv, fun i hi => by rw [h0.persisted] at hi; cases hi⟩) i hi

/-- The model of `forgetBitfield`'s early return: with no in-memory bitfield the record is left alone. -/
theorem forget_skipped_when_nil (m : M) (hb : m.1.bf = none) :
    (hadForget m true).1.persisted = m.1.persisted := by
  unfold hadForget
  simp [hb]

/-! Non-vacuity of `crash_safe`: after a completed download the resume bitfield is set and trusted. -/
section Example
private def c1 : Cfg :=
  { pl := 16384, plens := [16384], blocks := [[(0, 16384)]], flens := [16384], fpads := [false], fnames := ["t"] }
private def s1 : St := { cfg := c1, fileExists := [false], known := [false], bad := c1.dataSects }
private def kn (l : List Nat) : Nat → Bool := fun k => l.contains k
private def evs1 : List Ev := [
  ⟨.start, kn [], [], []⟩,
  ⟨.peer 1 "10.0.0.2" true true false, kn [], [], []⟩,
  ⟨.msg 1 .haveAll, kn [1], [], []⟩,
  ⟨.msg 1 .unchoke, kn [1], [⟨1, 0, false, false, false⟩], []⟩,
  ⟨.msg 1 (.piece 0 0 16384 true), kn [1], [], []⟩]

example : restartTrusts (drun (s1, none) evs1).1 = some [true] := by decide

/-! Non-vacuity of `crash_safe_with_mutations`: stop, the file is deleted — the record still says `[true]`
but a restart would not trust it (`restartTrusts = none`); after the next start has handled the missing
file the record is gone (`forgetBitfield`). -/
private def evsDel : List Ev := evs1 ++ [⟨.stop, kn [1], [], []⟩, ⟨.mutate none .delete, kn [1], [], []⟩]
example : (drun (s1, none) evsDel).1.persisted = some [true] ∧ (drun (s1, none) evsDel).1.diskOK = [false] ∧
    restartTrusts (drun (s1, none) evsDel).1 = none := by decide
example : (drun (s1, none) (evsDel ++ [⟨.start, kn [1], [], []⟩])).1.persisted = none ∧
    (drun (s1, none) (evsDel ++ [⟨.start, kn [1], [], []⟩])).1.bf = some [false] ∧
    (drun (s1, none) (evsDel ++ [⟨.start, kn [1], [], []⟩])).1.status = .downloading := by decide

/-! **Why the verify command is excluded** (`stale_record_after_verify_while_stopping`).  Two files, one piece
each.  The download completes, the torrent is stopped, file 0 is deleted, the storage is made to fail
(`failOpen`).  From here the state is continued with `stopHang := true` (set by hand: the driver sets `stopHang`
only while the acceptor runs, which is not the case at the next stop — this state is *not* driver-reachable).
`start`: the allocation fails, `stop(err)` — the torrent is `Stopping`, still with its bitfield `[true, true]`,
file 0 missing.  `verify` arrives while stopping: `Torrent.Verify()` deletes the record, `doVerify := true`,
`stop` is a no-op.  The periodic writer stores the bitfield again (`persist`: it is not nil).  The storage
recovers, the verifier is held (`gate read`), the stop completes (`waitstop`): `handleStopped` sees `doVerify`,
drops the bitfield and restarts; the allocator finds file 0 missing and re-creates it; `forgetBitfield` returns
early because the bitfield is nil; file 1 existed, so the verifier is started.  **While it runs** the record
still says `[true, true]`, every file exists, a restart (crash now) trusts it: piece 0 would be treated as
downloaded although its bytes are not on disk.  Once the verification is done the record is the truth again
(`stale_record_repaired_by_verification`).

With the fix of finding C04-F4 the variant in which *every* file was deleted (one file, no verification, fresh
bitfield; before the fix: `Downloading` with the stale record `[true]`) leaves no stale record: the fresh
allocation ends the pending verification with `stop`, which writes the fresh bitfield
(`no_stale_record_when_all_files_deleted`). -/
private def c2 : Cfg :=
  { pl := 16384, plens := [16384, 16384], blocks := [[(0, 16384)], [(0, 16384)]], flens := [16384, 16384],
    fpads := [false, false], fnames := ["a", "b"] }
private def s2 : St := { cfg := c2, fileExists := [false, false], known := [false, false], bad := c2.dataSects }
private def evsA : List Ev := [
  ⟨.start, kn [], [], []⟩,
  ⟨.peer 1 "10.0.0.2" true true false, kn [], [], []⟩,
  ⟨.msg 1 .haveAll, kn [1], [], []⟩,
  ⟨.msg 1 .unchoke, kn [1], [⟨1, 0, false, false, false⟩], []⟩,
  ⟨.msg 1 (.piece 0 0 16384 true), kn [1], [⟨1, 1, false, false, false⟩], []⟩,
  ⟨.msg 1 (.piece 1 0 16384 true), kn [1], [], []⟩,
  ⟨.stop, kn [1], [], []⟩,
  ⟨.mutate (some 0) .delete, kn [1], [], []⟩,
  ⟨.gate .failOpen true, kn [1], [], []⟩]
private def midHang : St × Parked := ({ (drun (s2, none) evsA).1 with stopHang := true }, (drun (s2, none) evsA).2)
private def evsB : List Ev := [
  ⟨.start, kn [1], [], []⟩,
  ⟨.verify, kn [1], [], []⟩,
  ⟨.persist, kn [1], [], []⟩,
  ⟨.gate .failOpen false, kn [1], [], []⟩,
  ⟨.gate .read true, kn [1], [], []⟩,
  ⟨.waitstop, kn [1], [], []⟩]

/-! Non-vacuity of `failed_allocation_forgets`, and `crash_safe_with_mutations` on a history with `gate failOpenAt`
(finding C05-F2): both pieces downloaded, stopped, file 0 deleted; the storage fails to open file 1; `start`: the
allocator re-creates file 0, fails on file 1, the torrent stops with the error.  Before the fix the bitfield and
the record `[true, true]` survived, every file existed again, and the next start trusted them; now both are gone. -/
private def evsF : List Ev := evsA.take 8 ++ [⟨.gate (.failOpenAt 1) true, kn [1], [], []⟩, ⟨.start, kn [1], [], []⟩]
example : (drun (s2, none) (evsF.take 9)).1.persisted = some [true, true] ∧
    (drun (s2, none) (evsF.take 9)).1.fileExists = [false, true] ∧
    (drun (s2, none) evsF).1.status = .stopped ∧ (drun (s2, none) evsF).1.lastErr = true ∧
    (drun (s2, none) evsF).1.fileExists = [true, true] ∧ (drun (s2, none) evsF).1.diskOK = [false, true] ∧
    (drun (s2, none) evsF).1.bf = none ∧ (drun (s2, none) evsF).1.persisted = none ∧
    restartTrusts (drun (s2, none) evsF).1 = none ∧
    (drun (s2, none) evsF).1.sto = ["open:a:16384:new", "openfail:b", "close:a"] ∧
    (∀ e ∈ evsF, e.op.isCorrupt = false) ∧ (∀ e ∈ evsF, e.op.isVerify = false) := by decide
/-- … and the start after the storage has recovered verifies file 1 and downloads piece 0 again. -/
example : (drun (s2, none) (evsF ++ [⟨.gate .failOpen false, kn [1], [], []⟩, ⟨.start, kn [1], [], []⟩])).1.status = .downloading ∧
    (drun (s2, none) (evsF ++ [⟨.gate .failOpen false, kn [1], [], []⟩, ⟨.start, kn [1], [], []⟩])).1.bf = some [false, true] := by
  decide

/-- `crash_safe` applies to histories with `gate failOpenAt` (it quantifies over every op but `mutate`): a
completed download, a stop, `Open` failing at file 1, a start that fails, a start that succeeds. -/
private def evsG : List Ev := evsA.take 7 ++ [⟨.gate (.failOpenAt 1) true, kn [1], [], []⟩,
  ⟨.start, kn [1], [], []⟩, ⟨.gate .failOpen false, kn [1], [], []⟩, ⟨.start, kn [1], [], []⟩]
example (n i : Nat) (h : bitOf (restartTrusts (drun (s2, none) (evsG.take n)).1) i = true) :
    (drun (s2, none) (evsG.take n)).1.diskOKi i = true :=
  crash_safe s2 ⟨cfgWF_of_check _ (by decide), badWF_dataSects _ rfl, rfl, rfl, rfl, rfl, rfl, rfl, rfl, rfl, rfl, rfl, rfl,
    rfl, rfl, rfl, rfl⟩ (noWritten_of_none rfl) evsG (by decide) n i h
example : (drun (s2, none) (evsG.take 9)).1.persisted = some [true, true] ∧
    (drun (s2, none) (evsG.take 9)).1.lastErr = true ∧ (drun (s2, none) (evsG.take 9)).1.status = .stopped ∧
    (drun (s2, none) evsG).1.status = .seeding := by decide

/-- `Op.verifyHeld` has to be excluded like `Op.verify` (it is the same handler): from the freshly added
torrent, which satisfies `PBehind`, with the open gate held it leaves the verification pending. -/
example : PBehind { s1 with gateOpen := true } ∧ Op.verifyHeld.isVerify = true ∧ Op.stopHeld.isVerify = false ∧
    (step { s1 with gateOpen := true } none (fun _ => false) .verifyHeld).1.st.doVerify = true :=
  ⟨⟨by decide, fun i hi => by cases hi⟩, by decide, by decide, by decide⟩

theorem stale_record_after_verify_while_stopping :
    (drun (s2, none) evsA).1.status = .stopped ∧ (drun (s2, none) evsA).1.persisted = some [true, true] ∧
    (drun midHang (evsB.take 1)).1.status = .stopping ∧ (drun midHang (evsB.take 1)).1.bf = some [true, true] ∧
    (drun midHang evsB).1.status = .verifying ∧ (drun midHang evsB).1.bf = none ∧
    (drun midHang evsB).1.fileExists = [true, true] ∧ (drun midHang evsB).1.diskOK = [false, true] ∧
    (drun midHang evsB).1.panicked = none ∧
    restartTrusts (drun midHang evsB).1 = some [true, true] := by decide

/-- … and the verification, once it is allowed to finish, writes the truth: stopped, record = bitfield =
`[false, true]`. -/
theorem stale_record_repaired_by_verification :
    (drun midHang (evsB ++ [⟨.gate .read false, kn [1], [], []⟩])).1.status = .stopped ∧
    (drun midHang (evsB ++ [⟨.gate .read false, kn [1], [], []⟩])).1.doVerify = false ∧
    (drun midHang (evsB ++ [⟨.gate .read false, kn [1], [], []⟩])).1.bf = some [false, true] ∧
    restartTrusts (drun midHang (evsB ++ [⟨.gate .read false, kn [1], [], []⟩])).1 = some [false, true] := by decide

/-! The variant with one file, deleted (same events): before the fix of finding C04-F4 it ended `Downloading`
with the stale record `[true]`; the fresh allocation ends the verification with `stop`, which writes the fresh
bitfield. -/
private def evsA1 : List Ev := evsDel ++ [⟨.gate .failOpen true, kn [1], [], []⟩]
private def midHang1 : St × Parked :=
  ({ (drun (s1, none) evsA1).1 with stopHang := true }, (drun (s1, none) evsA1).2)
private def evsB1 : List Ev := [
  ⟨.start, kn [1], [], []⟩,
  ⟨.verify, kn [1], [], []⟩,
  ⟨.persist, kn [1], [], []⟩,
  ⟨.gate .failOpen false, kn [1], [], []⟩,
  ⟨.waitstop, kn [1], [], []⟩]

theorem no_stale_record_when_all_files_deleted :
    (drun midHang1 (evsB1.take 3)).1.status = .stopping ∧ (drun midHang1 (evsB1.take 3)).1.doVerify = true ∧
    (drun midHang1 (evsB1.take 3)).1.persisted = some [true] ∧ (drun midHang1 (evsB1.take 3)).1.fileExists = [false] ∧
    (drun midHang1 evsB1).1.status = .stopped ∧ (drun midHang1 evsB1).1.doVerify = false ∧
    (drun midHang1 evsB1).1.bf = some [false] ∧ (drun midHang1 evsB1).1.fileExists = [true] ∧
    (drun midHang1 evsB1).1.diskOK = [false] ∧ (drun midHang1 evsB1).1.panicked = none ∧
    restartTrusts (drun midHang1 evsB1).1 = some [false] := by decide
end Example

end Rain.Props.C05
