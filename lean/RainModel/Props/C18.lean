import RainModel.Lemmas.STree
import RainModel.Lemmas.Blocklist
import RainModel.Lemmas.AddrList
import RainModel.Lemmas.Admission
/-! C18 — blocklist semantics are exact and filtered addresses are never contacted. -/
namespace Rain.Props.C18
open Rain.STree Rain.Blocklist

/-! ## Blocklist -/

/-- **cidr_range.** For every address `ip`, every prefix length `/0 … /32` and every query
address `v` (32-bit values): `v` lies in the closed range `[first,last]` that `parseCIDR`
computes (`first = ip & mask`, `last = first | ^mask`) exactly when `v & mask = first`, i.e.
exactly when `v` is in the CIDR network. -/
theorem cidr_range (ip p v : Nat) (hip : ip < 2 ^ 32) (hp : p ≤ 32) (hv : v < 2 ^ 32) :
    ((rangeOf ip p).first ≤ v ∧ v ≤ (rangeOf ip p).last) ↔ v &&& cidrMask p = (rangeOf ip p).first := by
  obtain ⟨hf, hl⟩ := rangeOf_eq ip p hip hp
  rw [hf, hl, and_cidrMask v p hv hp]
  have hM : 0 < 2 ^ (32 - p) := Nat.pow_pos (by decide)
  generalize 2 ^ (32 - p) = M at hM ⊢
  generalize ip / M = q
  constructor
  · rintro ⟨h1, h2⟩
    have : v / M = q := Nat.div_eq_of_lt_le (by omega) (by rw [Nat.add_mul]; omega)
    rw [this]
  · intro h
    have hq : v / M = q := Nat.eq_of_mul_eq_mul_right hM h
    have h1 := Nat.div_add_mod v M
    have h2 := Nat.mod_lt v hM
    rw [hq, Nat.mul_comm] at h1
    omega

/-- Non-vacuity of `cidr_range`: `10.1.2.3/20` is `[10.1.0.0, 10.1.15.255]`, and `/0`, `/32`. -/
example : rangeOf 0x0A010203 20 = ⟨0x0A010000, 0x0A010FFF⟩ := by decide
example : rangeOf 0x0A010203 0 = ⟨0, 0xFFFFFFFF⟩ := by decide
example : rangeOf 0x0A010203 32 = ⟨0x0A010203, 0x0A010203⟩ := by decide

/-- **stree_contains_iff** (the key theorem).  For EVERY list of closed ranges — overlapping,
nested, adjacent, duplicated, inverted, in any order — building the segment tree never
panics, and the stabbing query `Contains v` is true exactly when `v` lies in at least one of
the ranges. -/
theorem stree_contains_iff (ranges : List (Nat × Nat)) :
    ∃ t, ofRanges ranges = some t ∧
      ∀ v, t.contains v = true ↔ ∃ r ∈ ranges, r.1 ≤ v ∧ v ≤ r.2 :=
  ofRanges_contains ranges

/-- The same with the executable linear scan the check uses as its oracle. -/
theorem stree_contains_eq_linear (ranges : List (Nat × Nat)) :
    ∃ t, ofRanges ranges = some t ∧ ∀ v, t.contains v = linearContains ranges v := by
  obtain ⟨t, ht, h⟩ := stree_contains_iff ranges
  refine ⟨t, ht, fun v => ?_⟩
  have hl : linearContains ranges v = true ↔ ∃ r ∈ ranges, r.1 ≤ v ∧ v ≤ r.2 := by
    simp [linearContains]
  rw [Bool.eq_iff_iff, h v, hl]

/-- Non-vacuity: overlapping, nested, adjacent and duplicate ranges; endpoints and neighbours. -/
example : (ofRanges [(10, 20), (15, 30), (12, 13), (31, 40), (10, 20), (50, 50)]).map
    (fun t => [9, 10, 20, 21, 30, 31, 40, 41, 49, 50, 51].map t.contains) =
    some [false, true, true, true, true, true, true, false, false, true, false] := by decide

/-- **load_semantics.** For every previous state and every blocklist text:
* a line that does not fit the scanner buffer makes `Reload` fail and leaves the list unchanged;
* so does a text without a single valid rule but with at least one malformed rule line
  ("no valid rules");
* otherwise `Reload` succeeds, returns the number of well-formed rule lines (blank lines and
  `#` comments are ignored, malformed lines are skipped), **replaces** the previous rules, and
  afterwards `Blocked` answers exactly like a linear scan over the ranges of the new text —
  the previous state has no influence;
* an address without IPv4 form is never blocked. -/
theorem load_semantics (b : Blocklist) (text : Bytes) :
    (tooLong text = true → b.reload text = (b, .err .tooLong)) ∧
    (tooLong text = false → rulesOf text = [] → hasMalformed text = true →
      b.reload text = (b, .err .noValidRules)) ∧
    (tooLong text = false → (rulesOf text ≠ [] ∨ hasMalformed text = false) →
      ∃ b', b.reload text = (b', .ok (rulesOf text).length) ∧ b'.count = (rulesOf text).length ∧
        ∀ v, b'.blocked (some v) = inRules (rulesOf text) v) ∧
    (∀ b' : Blocklist, b'.blocked none = false) := by
  have hfold := loadLine_fold (scan (rawLines text)).1 {}
  obtain ⟨hn, he, ht⟩ := hfold
  have hn' : ((scan (rawLines text)).1.foldl loadLine {}).n = (rulesOf text).length := by
    rw [hn]; simp [rulesOf, ruleLines]
  have he' : ((scan (rawLines text)).1.foldl loadLine {}).hasError = hasMalformed text := by
    rw [he]; simp [hasMalformed, ruleLines]
  refine ⟨?_, ?_, ?_, fun _ => rfl⟩
  · intro h
    unfold Blocklist.reload load
    unfold tooLong at h
    simp [h]
  · intro h hr hm
    unfold Blocklist.reload load
    unfold tooLong at h
    simp only [h]
    rw [hn', he', hr, hm]
    simp
  · intro h hor
    unfold tooLong at h
    obtain ⟨t, hb, hc⟩ := stree_contains_eq_linear ((rulesOf text).map fun r => (r.first, r.last))
    have htree : ((scan (rawLines text)).1.foldl loadLine {}).tree.build = some t := by
      rw [ht, ← hb]
      unfold ofRanges
      rw [List.foldl_map]
      rfl
    have hcond : ¬ (((scan (rawLines text)).1.foldl loadLine {}).n = 0 ∧
        ((scan (rawLines text)).1.foldl loadLine {}).hasError = true) := by
      rw [hn', he']
      rintro ⟨h0, hm⟩
      rcases hor with hor | hor
      · exact hor (List.length_eq_zero_iff.1 h0)
      · rw [hor] at hm; cases hm
    refine ⟨{ tree := t, count := (rulesOf text).length }, ?_, rfl, ?_⟩
    · unfold Blocklist.reload load
      simp only [h]
      rw [if_neg (by simp), if_neg hcond, htree, hn']
    · intro v
      simp only [Blocklist.blocked]
      rw [hc v]
      simp [linearContains, inRules, List.any_map]
      rfl

/-- Non-vacuity of `load_semantics`: comments, blanks, CRLF, a malformed line, nested rules. -/
example :
    -- "# list\n\n 10.0.0.0/8 \r\n10.1.0.0/16\nfoo\n1.2.3.4/32"
    let text : Bytes := [35, 32, 108, 105, 115, 116, 10, 10, 32, 49, 48, 46, 48, 46, 48, 46, 48, 47, 56, 32, 13, 10, 49, 48, 46, 49, 46, 48, 46, 48, 47, 49, 54, 10, 102, 111, 111, 10, 49, 46, 50, 46, 51, 46, 52, 47, 51, 50]
    rulesOf text = [⟨0x0A000000, 0x0AFFFFFF⟩, ⟨0x0A010000, 0x0A01FFFF⟩, ⟨0x01020304, 0x01020304⟩]
      ∧ hasMalformed text = true ∧ tooLong text = false := by decide

/-- "No valid rules": only malformed lines. -/
example :
    -- "foo\n1.2.3.4\n"
    (({} : Blocklist).reload [102, 111, 111, 10, 49, 46, 50, 46, 51, 46, 52, 10]).2 = .err .noValidRules := by
  decide

/-! ## The candidate queue (`addrlist`) -/

section AddrList
open Rain.AddrList

/-- States of an `AddrList` created with `maxItems = max`, after any finite history of
`Push` (any addresses, any source, any clock value, any resolution `choose` of the unstable
sort that is a sort, any client IP / listen port / blocklist at that moment), `Pop` and `Reset`.
`ok` is any predicate implied by the filters of every push of the history. -/
inductive Reach (max : Nat) (ok : Nat → Nat → Prop) : St → Prop
  | init : Reach max ok {}
  | push {s s' : St} {env : Env} {choose : List PA → List PA} {addrs : List Cand} {src now : Nat} :
      Reach max ok s → env.maxItems = max → (∀ l, Admissible l (choose l)) →
      (∀ a, filtered env a = false → ok a.ip a.port) →
      push env choose s addrs src now = .ok s' → Reach max ok s'
  | pop {s s' : St} {r : Option PA} : Reach max ok s → pop s = .ok (r, s') → Reach max ok s'
  | reset {s : St} : Reach max ok s → Reach max ok (reset s)

/-- What holds between operations. -/
structure Good (max : Nat) (s : St) : Prop where
  inv : Inv s
  counts : Counts s (fun _ => 0)
  bound : s.tree.length ≤ max
  slots : s.byTime.length ≤ max

theorem Good.toQ {max : Nat} {s : St} (hg : Good max s) : Admission.QGood max s := ⟨hg.inv, hg.counts, hg.bound⟩

/-- One `Push` from a good state: it does not panic (in particular the assertion
"addr list data structures not in sync", the nil dereference and the index expressions of
`removeExcessItems` are unreachable), the result is good again, and every entry it holds is an
old entry or an address of this call that passed the filters, up to `index`: what holds of those,
and does not look at `index`, holds of every entry. -/
theorem push_good {max : Nat} {s : St} (hg : Good max s) (env : Env) (hmax : env.maxItems = max)
    (choose : List PA → List PA) (hch : ∀ l, Admissible l (choose l)) (addrs : List Cand) (src now : Nat) :
    ∃ s', push env choose s addrs src now = .ok s' ∧ Good max s' ∧ s'.byTime.length = s'.tree.length ∧
      ∀ P : PA → Prop, (∀ q i, P q → P { q with index := i }) → (∀ q ∈ s.entries, P q) →
        (∀ a ∈ addrs, filtered env a = false → ∀ i, P ⟨a.ip, a.port, src, a.prio, now, i⟩) →
        ∀ q ∈ s'.entries, P q := by
  have hC0 : Counts s (off src 0) := by
    intro x; have := hg.counts x; simp only [off] at this ⊢; split <;> simpa using this
  obtain ⟨s1, added, h1, hI1, hC1, ho1⟩ := pushLoop_inv env src now addrs s 0 hg.inv hC0
  obtain ⟨s3, h3, hI3, hC3, hb3, hl3, ho3⟩ :=
    pushFinish_spec env src s1 added (choose (filterNils s1.byTime)) hI1 hC1 (hch _)
  exact ⟨s3, by simp only [push, h1, h3], ⟨hI3, hC3, by omega, by omega⟩, hl3,
    fun P hb hP hnew => ho3 P hb (ho1 P hP hnew)⟩

theorem pop_good {max : Nat} {s : St} (hg : Good max s) :
    ∃ r s', pop s = .ok (r, s') ∧ Good max s' ∧
      (r = none → s.tree = [] ∧ s' = s) ∧
      (∀ p, r = some p → p ∈ s.entries ∧ (∀ q ∈ s.entries, q.prio ≤ p.prio) ∧
        (∀ q, q ∈ s'.entries ↔ q ∈ s.entries ∧ q ≠ p) ∧ s'.len + 1 = s.len) := by
  obtain ⟨r, s', h, hI, hC, hsl, hle, hn, hs⟩ := pop_spec s hg.inv hg.counts
  exact ⟨r, s', h, ⟨hI, hC, Nat.le_trans hle hg.bound, hsl ▸ hg.slots⟩, hn, hs⟩

theorem reach_good {max : Nat} {ok : Nat → Nat → Prop} {s : St} (h : Reach max ok s) :
    Good max s ∧ ∀ q ∈ s.entries, ok q.ip q.port := by
  induction h with
  | init =>
    exact ⟨⟨inv_empty, counts_empty, Nat.zero_le _, Nat.zero_le _⟩, fun q hq => by simp [St.entries] at hq⟩
  | @push s s' env choose addrs src now _ hmax hch hok hp ih =>
    obtain ⟨s'', h1, hg, _, ho⟩ := push_good ih.1 env hmax choose hch addrs src now
    rw [hp] at h1
    cases h1
    exact ⟨hg, ho (fun q => ok q.ip q.port) (fun _ _ h => h) ih.2 fun a _ hf _ => hok a hf⟩
  | @pop s s' r _ hp ih =>
    obtain ⟨r', s'', h1, hg, hn, hs⟩ := pop_good ih.1
    rw [hp] at h1
    cases h1
    refine ⟨hg, ?_⟩
    intro q hq
    cases r with
    | none => rw [(hn rfl).2] at hq; exact ih.2 q hq
    | some p => exact ih.2 q (((hs p rfl).2.2.1 q).1 hq).1
  | reset _ _ =>
    exact ⟨⟨inv_empty, counts_empty, Nat.zero_le _, Nat.zero_le _⟩, fun q hq => by simp [AddrList.reset, St.entries] at hq⟩

/-- **addr_priority_set.** After every history of pushes, pops and resets the queue is a
bounded priority set, and the next operation behaves like one:
* never more than `max` entries, no two entries of equal priority, `Len()` is the number of
  entries, `LenSource` counts exactly, the btree and `peerByTime` hold the same objects with
  correct `index` fields (`Inv`);
* the next `Push` — whatever addresses, clock, and admissible sort result — does not panic:
  the Go assertion "addr list data structures not in sync" is unreachable;
* the next `Pop` returns nil exactly when the queue is empty, and otherwise removes and returns
  an entry of maximal priority, leaving all others. -/
theorem addr_priority_set {max : Nat} {ok : Nat → Nat → Prop} {s : St} (h : Reach max ok s) :
    (s.len ≤ max ∧ (s.entries.map (·.prio)).Nodup ∧ s.len = s.entries.length ∧ Inv s ∧
      ∀ x, s.counts x = cnt s.entries x) ∧
    (∀ (env : Env) (choose : List PA → List PA) (addrs : List Cand) (src now : Nat),
      env.maxItems = max → (∀ l, Admissible l (choose l)) →
      ∃ s', push env choose s addrs src now = .ok s' ∧ s'.byTime.length = s'.tree.length) ∧
    (∃ r s', pop s = .ok (r, s') ∧ (r = none ↔ s.len = 0) ∧
      ∀ p, r = some p → p ∈ s.entries ∧ (∀ q ∈ s.entries, q.prio ≤ p.prio) ∧
        (∀ q, q ∈ s'.entries ↔ q ∈ s.entries ∧ q ≠ p) ∧ s'.len + 1 = s.len) := by
  obtain ⟨hg, _⟩ := reach_good h
  refine ⟨⟨hg.bound, hg.inv.nodup, len_eq_of hg.inv.perm, hg.inv, ?_⟩, ?_, ?_⟩
  · intro x; have := hg.counts x; simpa using this
  · intro env choose addrs src now hmax hch
    obtain ⟨s', h1, _, h3, _⟩ := push_good hg env hmax choose hch addrs src now
    exact ⟨s', h1, h3⟩
  · obtain ⟨r, s', h1, _, _, _, _, hn, hs⟩ := pop_spec s hg.inv hg.counts
    refine ⟨r, s', h1, ?_, hs⟩
    constructor
    · intro e; have := (hn e).1; simp [St.len, this]
    · intro e
      cases r with
      | none => rfl
      | some p =>
        have : s'.len + 1 = s.len := (hs p rfl).2.2.2
        omega

/-- **addr_bound** (used by C17): the number of queued candidate addresses, and the length of
`peerByTime` including nil slots, never exceed `MaxPeerAddresses`, whatever is pushed. -/
theorem addr_bound {max : Nat} {ok : Nat → Nat → Prop} {s : St} (h : Reach max ok s) :
    s.len ≤ max ∧ s.byTime.length ≤ max :=
  ⟨(reach_good h).1.bound, (reach_good h).1.slots⟩

/-- What `filtered` tests, spelled out. -/
theorem filtered_false_iff (env : Env) (a : Cand) :
    filtered env a = false ↔
      a.port ≠ 0 ∧ ¬ (isLoopback a.ip = true ∧ a.port = env.listenPort) ∧ env.clientIP ≠ some a.ip ∧
      a.ip ∉ env.external ∧ env.blocked a.ip = false := by
  unfold filtered
  by_cases h1 : a.port = 0
  · simp [h1]
  · by_cases h2 : isLoopback a.ip = true ∧ a.port = env.listenPort
    · simp [h2]
    · by_cases h3 : env.clientIP = some a.ip
      · simp [h1, h2, h3]
      · by_cases h4 : env.external.contains a.ip = true
        · have : a.ip ∈ env.external := by simpa using h4
          simp [h1, h2, h3, this]
        · have : a.ip ∉ env.external := by simpa using h4
          cases h5 : env.blocked a.ip <;> simp [h1, h2, h3, this]

/-- **push_filters.** Whatever the history, an address held by the queue (hence any address
`Pop` can ever return) has port ≠ 0 and, at the time it was pushed, was not the client's own
listening address, not the client's external IP, not an interface address, and not blocked by
the blocklist given to the list; nothing else enters the queue. `ok` is instantiated with any
property all those push-time filters imply — e.g. "port ≠ 0", or "not in blocklist B" when the
blocklist does not change during the history. -/
theorem push_filters {max : Nat} {ok : Nat → Nat → Prop} {s : St} (h : Reach max ok s) :
    (∀ q ∈ s.entries, ok q.ip q.port) ∧
    (∀ r s', pop s = .ok (some r, s') → ok r.ip r.port) := by
  obtain ⟨hg, hok⟩ := reach_good h
  refine ⟨hok, ?_⟩
  intro r s' hp
  obtain ⟨r', s'', h1, _, _, _, _, _, hs⟩ := pop_spec s hg.inv hg.counts
  rw [hp] at h1
  cases h1
  exact hok r (hs r rfl).1

/-- The hypothesis "`choose` is a sort" of `Reach.push` is satisfiable: the stable insertion sort
by time stamp is admissible. -/
theorem choose_nonvacuous : ∀ l, Admissible l (stableSort l) := stableSort_admissible

/-- Instance: no queued address ever has port 0, in any history. -/
theorem queue_port_ne_zero {max : Nat} {s : St} (h : Reach max (fun _ port => port ≠ 0) s) :
    ∀ q ∈ s.entries, q.port ≠ 0 := (push_filters h).1

/-- Non-vacuity: max 2; three pushes (one filtered: port 0; one replacing an equal priority),
eviction of the oldest, then `Pop` returns the maximal priority. -/
example :
    let env : Env := ⟨2, 6881, some 1, [], fun ip => ip = 66⟩
    let s1 := push env stableSort {} [⟨10, 80, 5⟩, ⟨11, 0, 9⟩, ⟨66, 80, 7⟩] 0 1
    let s2 := s1.bind fun s => push env stableSort s [⟨12, 80, 3⟩, ⟨13, 81, 5⟩] 1 2
    let s3 := s2.bind fun s => push env stableSort s [⟨14, 80, 4⟩] 2 3
    (s3.toOption.map fun s => s.entries.map fun p => (p.ip, p.prio, p.stamp, p.index)) =
        some [(12, 3, 2, 0), (14, 4, 3, 1)] ∧
    ((s3.bind pop).toOption.map fun r => r.1.map (·.ip)) = some (some 14) := by decide

end AddrList

/-! ## Dial and accept decisions of package `torrent` -/

section Admission
open Rain.AddrList Rain.Admission

/-- The repaired decision code: `dialAddresses` consults `bannedPeerIPs` and re-checks the blocklist. -/
def fixedCfg (maxDial maxAccept : Nat) (blIn blOut : Bool) : Cfg := ⟨maxDial, maxAccept, blIn, blOut, true, true⟩

/-- **dial_admission.** For every state whose candidate queue is a reachable `AddrList` state,
`dialAddresses()` terminates without panic and every address it hands to an outgoing handshaker
* was taken from the queue (so, by `push_filters`, has port ≠ 0, is not the client's own address and
  was not blocked when it was pushed),
* has an IP that was not in `connectedPeerIPs` (connected or connecting), and no IP is dialled twice,
* (repaired code, `checkBan`) has an IP that is not in `bannedPeerIPs`,
* (repaired code, `recheckBlocklist`) is not blocked by the list loaded *now*, when the blocklist is
  enabled for outgoing connections;
every dialled IP is recorded in `connectedPeerIPs`, and the number of outgoing connections does not
exceed `MaxPeerDial` if it did not before.  Nothing is dialled for a completed torrent. -/
theorem dial_admission (cfg : Cfg) (blocked : Nat → Bool) {max : Nat} {ok : Nat → Nat → Prop}
    (s : State) (hq : Reach max ok s.queue) :
    ∃ s' dialled, dialAddresses cfg blocked s = .ok (s', dialled) ∧
      (s.completed = true → dialled = []) ∧
      (∀ a ∈ dialled, (∃ q ∈ s.queue.entries, q.ip = a.1 ∧ q.port = a.2) ∧ ok a.1 a.2 ∧
        a.1 ∉ s.connected ∧ a.1 ∈ s'.connected ∧
        (cfg.checkBan = true → a.1 ∉ s.banned) ∧
        (cfg.recheckBlocklist = true → cfg.blOutgoing = true → blocked a.1 = false)) ∧
      (dialled.map (·.1)).Nodup ∧
      (s.outgoing.length ≤ cfg.maxPeerDial → s'.outgoing.length ≤ cfg.maxPeerDial) ∧
      s'.banned = s.banned := by
  obtain ⟨hg, hok⟩ := reach_good hq
  obtain ⟨s', new, h1, _, h, hc⟩ := dialAddresses_spec cfg blocked s hg.toQ
  refine ⟨s', new, h1, hc, ?_, h.nodup, h.cap, h.banned⟩
  intro a ha
  obtain ⟨⟨q, hq', e1, e2⟩, r2, r3, r4⟩ := h.admitted a ha
  refine ⟨⟨q, hq', e1, e2⟩, ?_, r2, ?_, r3, r4⟩
  · rw [← e1, ← e2]; exact hok q hq'
  · exact (h.connected a.1).2 (Or.inr (List.mem_map.2 ⟨a, ha, rfl⟩))

/-- **accept_admission.** `handleNewConnection` starts an incoming handshake exactly when the accept
limit is not reached, the remote IP is not blocked (when the blocklist is enabled for incoming
connections), not already connected or connecting, and not banned; then the IP is recorded in
`connectedPeerIPs` and the incoming count stays ≤ `MaxPeerAccept`; otherwise nothing changes. -/
theorem accept_admission (cfg : Cfg) (blocked : Nat → Bool) (s : State) (ip : Nat) :
    ((handleNewConnection cfg blocked s ip).2 = .accept ↔
      s.incoming.length < cfg.maxPeerAccept ∧ ¬ (cfg.blIncoming = true ∧ blocked ip = true) ∧
      ip ∉ s.connected ∧ ip ∉ s.banned) ∧
    ((handleNewConnection cfg blocked s ip).2 = .accept →
      ip ∈ (handleNewConnection cfg blocked s ip).1.connected ∧
      (handleNewConnection cfg blocked s ip).1.incoming.length ≤ cfg.maxPeerAccept) ∧
    ((handleNewConnection cfg blocked s ip).2 ≠ .accept → (handleNewConnection cfg blocked s ip).1 = s) := by
  rcases handleNewConnection_cases cfg blocked s ip with ⟨v, e, hv, hr⟩ | ⟨h1, h2, h3, h4, e⟩
  · rw [e]
    refine ⟨⟨fun h => absurd h hv, fun ⟨g1, g2, g3, g4⟩ => ?_⟩, fun h => absurd h hv, fun _ => rfl⟩
    rcases hr with h | h | h | h
    · omega
    · exact absurd h g2
    · exact absurd h g3
    · exact absurd h g4
  · rw [e]
    exact ⟨⟨fun _ => ⟨h1, h2, h3, h4⟩, fun _ => rfl⟩,
      fun _ => ⟨List.mem_cons_self, by simp only [List.length_append, List.length_singleton]; omega⟩,
      fun h => absurd rfl h⟩

/-- **peers_admission.** `handleNewPeers` never queues an address whose IP is banned at that moment
(`filterBannedIPs`), and what it dials obeys `dial_admission`. -/
theorem peers_admission (cfg : Cfg) (blocked : Nat → Bool) {max : Nat} {ok : Nat → Nat → Prop}
    (env : Env) (hmax : env.maxItems = max) (choose : List PA → List PA) (hch : ∀ l, Admissible l (choose l))
    (hok : ∀ a, filtered env a = false → ok a.ip a.port)
    (s : State) (hq : Reach max ok s.queue) (addrs : List Cand) (src now : Nat) (hc : s.completed = false) :
    ∃ q s' dialled,
      push env choose s.queue (addrs.filter fun a => !s.banned.contains a.ip) src now = .ok q ∧
      Reach max ok q ∧
      handleNewPeers cfg blocked env choose s addrs src now = .ok (s', dialled) ∧
      (∀ a ∈ dialled, ok a.1 a.2 ∧ a.1 ∉ s.connected ∧ (cfg.checkBan = true → a.1 ∉ s.banned) ∧
        (cfg.recheckBlocklist = true → cfg.blOutgoing = true → blocked a.1 = false)) := by
  obtain ⟨hg, _⟩ := reach_good hq
  obtain ⟨q, hp, _, _, _⟩ := push_good hg env hmax choose hch
    (addrs.filter fun a => !s.banned.contains a.ip) src now
  have hq' : Reach max ok q := Reach.push hq hmax hch hok hp
  obtain ⟨s', dialled, hd, _, h3, _, _, _⟩ :=
    dial_admission cfg blocked { s with needMore := false, queue := q } hq'
  refine ⟨q, s', dialled, hp, hq', ?_, ?_⟩
  · have hc' : ¬ ({ s with needMore := false } : State).completed = true := by simp [hc]
    simp only [handleNewPeers, if_neg hc', hp]
    exact hd
  · intro a ha
    obtain ⟨_, r1, r2, _, r4, r5⟩ := h3 a ha
    exact ⟨r1, r2, r4, r5⟩

/-- A queue holding one address of IP 9 (priority 5), no connection, IP 9 banned. -/
def bannedQueued : State :=
  { queue := { byTime := [some ⟨9, 2, 0, 5, 1, 0⟩], tree := [5] }, banned := [9] }

/-- The historical defect (finding F01, fixed in rain by d1afeec): without the ban check the queued
address of a banned IP is dialled; with it, it is not.  Same witness as `corpus/admission/dial-banned-ip`. -/
theorem dial_banned_counterexample :
    ((dialAddresses ⟨1, 1, false, false, false, false⟩ (fun _ => false) bannedQueued).toOption.map (·.2)) =
      some [(9, 2)] ∧
    ((dialAddresses (fixedCfg 1 1 false false) (fun _ => false) bannedQueued).toOption.map (·.2)) = some [] := by
  decide

/-- The historical defect F02 (fixed in rain by 33a5bc8): an address queued before a blocklist reload
that blocks it was dialled; the repaired loop re-checks. -/
theorem dial_blocked_counterexample :
    ((dialAddresses ⟨1, 1, false, true, true, false⟩ (fun ip => ip = 9)
        { bannedQueued with banned := [] }).toOption.map (·.2)) = some [(9, 2)] ∧
    ((dialAddresses (fixedCfg 1 1 false true) (fun ip => ip = 9)
        { bannedQueued with banned := [] }).toOption.map (·.2)) = some [] := by
  decide

/-- Non-vacuity of `accept_admission`: one accepted, then the same IP refused as duplicate. -/
example :
    let r1 := handleNewConnection (fixedCfg 1 2 true true) (fun ip => ip = 7) {} 5
    r1.2 = .accept ∧ (handleNewConnection (fixedCfg 1 2 true true) (fun ip => ip = 7) r1.1 5).2 = .duplicate ∧
    (handleNewConnection (fixedCfg 1 2 true true) (fun ip => ip = 7) r1.1 7).2 = .blocked := by decide

end Admission

end Rain.Props.C18
