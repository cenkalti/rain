import RainModel.Lemmas.LoopNoPanicRun
import RainModel.Lemmas.LoopWInvDec
import RainModel.Lemmas.LoopQuiesceStep
import RainModel.Props.C01LoopCfg
/-!
C08 / C04, loop level (M-LOOP): **no event history makes the event loop panic, or hang.**

Where the Go event loop would panic (`t.crash("allocator exists")`, `"verifier exists"`, close of the closed
`completeC`, nil bitfield in `checkCompletion` / `writeBitfield` / `handlePieceWriteDone`, `"piece is already
writing"`, `"already have the piece"`) the model sets `St.panicked`.  The invariant `NP s = s.panicked = none ∧
Full s`, `Full = Life ∧ CompInv ∧ WInv` (`Lemmas/LoopLife.lean`, `LoopComp.lean`, `LoopWInv*.lean`), is preserved by
**every** event (any op of `Op`: commands, gates incl. `failOpen` / `failOpenAt` / `failWrite` / `writeDone`, file
mutations, peers, every `Msg` with any field values, extension handshakes, metadata blocks/rejects/requests, PEX,
DHT, disconnects, snubs), any parked block, any set of known peers; by the driver's step (`step`, then the
implementation's choice of downloads is adopted by `reconcile` / `reconcileIdl`) when that choice is *sane*
(`Ev.sane`); hence along whole histories from a freshly added torrent, and along histories of bare steps (the
picker starts nothing) without any hypothesis on the history.

The statement with `drunAdmissible` as the only hypothesis on the history,

    theorem never_panics_run (s0 : St) (h0 : InitLike s0) (hp0 : s0.panicked = none)
        (hw : ∀ w, s0.writing = some w → w.gen ≤ s0.gen)
        (evs : List Ev) (ha : drunAdmissible (s0, none) evs) : (drun (s0, none) evs).1.panicked = none

is **false** (`never_panics_run_counterexample`, `never_panics_run_false`): `drunAdmissible` speaks about the
piece downloads only, and a metadata download the "implementation" starts after the metadata is known finds
the allocator running when it completes (`allocator exists`).  rain does not do that
(`startInfoDownloaders` returns when `t.info != nil`; the driver reports it as C13), so the theorem is proved
under the narrowest hypothesis that excludes it — `drunIdlsSane`: *no metadata download is adopted while the
metadata is known* — as `never_panics_run_partial`.  The other hypotheses are needed too, each with a
concrete panicking history (section `Counterexamples`); none of them is a run of rain.

With rain's fix of finding C04-F9 (the result of a write that was started in an earlier run of the torrent is
ignored) the theorems need neither `Cfg.blocksHaveData` (a piece with blocks has a non-padding section) nor "no
write in flight in the initial state" (only: no write *of a future generation*,
`never_panics_needs_no_future_write_counterexample`).  The histories that panicked before the fix are
`never_panics_stale_write_…` below.

**…or hang it** (second half of the file).  An event is followed by a chain of worker completions (allocator →
verifier → stop announcer → restart for a pending verify → piece writer → …), `runWorkers 12` in the model; each
link is a goroutine of the real client reporting back to the loop.  `workersQuiet s`: no link is pending that no
gate holds.  From a state of the invariants **every** event — any op, any gates, any parameters — ends with the
workers quiescent: the chain has at most 11 links, the fuel never cuts it short (`never_hangs_fuel`).

Before rain's fix of finding C04-F8 (a stop caused by an error withdraws a pending verification request) there
was one exception — a verification pending while the storage's `Open` fails: the torrent was restarted, failed to
open its files and stopped, for ever (confirmed on the real loop).  `verify_failOpen_stops` is that history on the
repaired code.
-/
namespace Rain.Props.C08Loop
open Rain.Loop

/-- **never_panics_step.**  The invariant is preserved — in particular `panicked` stays `none` — by every event:
handler, the worker completions no gate holds (`runWorkers`), delivery of the parked block. -/
theorem never_panics_step (s : St) (p : Parked) (kn : Nat → Bool) (op : Op) (h : NP s) :
    NP (step s p kn op).1.st := step_np s p kn op h

/-- The step-level statement spelled out. -/
theorem never_panics_step_panicked (s : St) (p : Parked) (kn : Nat → Bool) (op : Op) (hp : s.panicked = none)
    (hl : Life s) (hc : CompInv s) (hw : WInv s) : (step s p kn op).1.st.panicked = none :=
  (step_np s p kn op ⟨hp, hl, hc, hw⟩).np

/-- **never_panics_dstep.**  One event of the driver: `step`, then the implementation's sane choices. -/
theorem never_panics_dstep (sp : St × Parked) (e : Ev) (h : NP sp.1) (hs : e.sane sp) : NP (dstep sp e).1 :=
  dstep_np sp e h hs

/-- **never_panics_run_sane** (the strongest form).  From a freshly added torrent — `InitLike`, not
panicked, no write of a future generation in flight — no history whose picker choices are sane (`drunSane`) ever
panics, and the invariant holds at its end. -/
theorem never_panics_run_sane (s0 : St) (h0 : InitLike s0) (hp0 : s0.panicked = none)
    (hw : ∀ w, s0.writing = some w → w.gen ≤ s0.gen) (evs : List Ev) (hs : drunSane (s0, none) evs) :
    (drun (s0, none) evs).1.panicked = none ∧ NP (drun (s0, none) evs).1 :=
  ⟨(drun_np evs (s0, none) (h0.np hp0 hw) hs).np, drun_np evs (s0, none) (h0.np hp0 hw) hs⟩

/-- No metadata download is adopted while the metadata is known, along the run. -/
def drunIdlsSane : St × Parked → List Ev → Prop
  | _, [] => True
  | sp, e :: evs =>
    IdlsSane (reconcile (step sp.1 sp.2 e.known e.op).1.st e.impl).1 e.implI ∧ drunIdlsSane (dstep sp e) evs

theorem drunSane_of_admissible_idlsSane (evs : List Ev) (sp : St × Parked) (ha : drunAdmissible sp evs)
    (hi : drunIdlsSane sp evs) : drunSane sp evs := by
  induction evs generalizing sp with
  | nil => trivial
  | cons e evs ih => exact ⟨⟨reconcile_dls _ e.impl ha.1, hi.1⟩, ih _ ha.2 hi.2⟩

/-- **never_panics_run_partial.**  The statement of the header plus `drunIdlsSane`. -/
theorem never_panics_run_partial (s0 : St) (h0 : InitLike s0) (hp0 : s0.panicked = none)
    (hw : ∀ w, s0.writing = some w → w.gen ≤ s0.gen) (evs : List Ev) (ha : drunAdmissible (s0, none) evs)
    (hi : drunIdlsSane (s0, none) evs) : (drun (s0, none) evs).1.panicked = none :=
  (never_panics_run_sane s0 h0 hp0 hw evs (drunSane_of_admissible_idlsSane evs _ ha hi)).1

/-- **never_panics_run_admissible.**  On the runs the driver accepts (neither a C09 error from `reconcile` nor
a C13 error from `reconcileIdl`): no panic. -/
theorem never_panics_run_admissible (s0 : St) (h0 : InitLike s0) (hp0 : s0.panicked = none)
    (hw : ∀ w, s0.writing = some w → w.gen ≤ s0.gen) (evs : List Ev) (ha : drunAdmissible (s0, none) evs)
    (hi : drunAdmissibleI (s0, none) evs) : (drun (s0, none) evs).1.panicked = none :=
  (never_panics_run_sane s0 h0 hp0 hw evs (drunSane_of_admissible evs _ (h0.full hw) ha hi)).1

/-- The state `stepDriver` installs for a `new …` line (Driver/Suites/Loop.lean), whatever the line says. -/
def driverInit (toks : List String) (magnet seeded iaa : Bool) (nu no isz mm pm : Nat) : St :=
  let c := Driver.Suites.Loop.parseNew toks
  let s := Driver.Suites.Loop.initSt c magnet
  let s := if seeded then { s with known := c.flens.map (fun _ => true), fileExists := c.flens.map (fun _ => true), bad := [] } else s
  let s := { s with nUnchoke := nu, nOptimistic := no }
  { s with infoAtAdd := iaa, isize := isz, maxMeta := mm, parMeta := pm }

/-- **never_panics_driver.**  For the states the driver really starts from the hypotheses about the initial
state are theorems (`driver_new_initLike`): every history with sane choices, from every `new` line. -/
theorem never_panics_driver (toks : List String) (magnet seeded iaa : Bool) (nu no isz mm pm : Nat) (evs : List Ev)
    (hs : drunSane (driverInit toks magnet seeded iaa nu no isz mm pm, none) evs) :
    (drun (driverInit toks magnet seeded iaa nu no isz mm pm, none) evs).1.panicked = none := by
  obtain ⟨h0, _, _, hp, _, hw⟩ := Rain.Props.C01LoopCfg.driver_new_initLike toks magnet seeded iaa nu no isz mm pm
  exact (never_panics_run_sane _ h0 hp (noFuture_of_none hw) evs hs).1

/-- **never_panics_steps.**  Histories of bare steps — every event handled, the implementation starts no
download — need no hypothesis on the history: any ops, any parameters, any `known` sets. -/
theorem never_panics_steps (s : St) (p : Parked) (h : NP s) (ops : List (Op × (Nat → Bool))) :
    (srun (s, p) ops).1.panicked = none := (srun_np ops (s, p) h).np

/-- **never_panics_peer_messages** (the C08 reading).  From any state of the invariant — any peers connected,
any downloads running, any write in flight, any block parked — no sequence of peer messages, of any kinds, in
any order, with any field values, from any peer ids (connected or not), panics the loop. -/
theorem never_panics_peer_messages (s : St) (p : Parked) (h : NP s) (kn : Nat → Bool) (msgs : List (Nat × Msg)) :
    (srun (s, p) (msgs.map fun km => (Op.msg km.1 km.2, kn))).1.panicked = none :=
  never_panics_steps s p h _

/-! ### Counterexamples: every hypothesis is needed -/
section Counterexamples

private def kn (l : List Nat) : Nat → Bool := fun k => l.contains k

private def c1 : Cfg :=
  { pl := 16384, plens := [16384], blocks := [[(0, 16384)]], flens := [16384], fpads := [false], fnames := ["t"] }
private def s1 : St := { cfg := c1, fileExists := [false], known := [false], bad := c1.dataSects }


private theorem initLike_of (s : St) (h1 : s.cfg.wfCheck = true) (h2 : s.bad = s.cfg.dataSects) (h3 : s.bf = none)
    (h4 : s.persisted = none) (h5 : s.errC = false) (h6 : s.stopAnn = false) (h7 : s.allocator = false)
    (h8 : s.verifier = false) (h9 : s.loaded = false) (h10 : s.acceptor = false) (h11 : s.openFiles = [])
    (h12 : s.peers = []) (h13 : s.dls = []) (h14 : s.idls = []) (h15 : s.leaked = 0) (h16 : s.completed = false)
    (h17 : s.completeCClosed = false) : InitLike s :=
  ⟨cfgWF_of_check _ h1, badWF_dataSects s h2, h3, h4, h5, h6, h7, h8, h9, h10, h11, h12, h13, h14, h15, h16, h17⟩

/-- A magnet link (one piece, one file, metadata of 100 bytes). -/
private def sM : St := { s1 with info := false, infoAtAdd := false, isize := 100 }

/-- The history of `never_panics_run_counterexample`: hold the allocation gate, start, a peer that offers the
metadata, the implementation downloads it (admissibly), the block arrives: metadata adopted, `Allocating`.
Then the "implementation" runs a metadata download again (`implI = [1]` in the fifth event — `reconcileIdl`
objects, `reconcile` and so `drunAdmissible` do not); the same block again completes it: `allocator exists`. -/
private def evsM : List Ev := [
  ⟨.gate .open true, kn [], [], []⟩,
  ⟨.start, kn [], [], []⟩,
  ⟨.peer 1 "10.0.0.2" true true false, kn [], [], []⟩,
  ⟨.exths 1 true 100 false, kn [1], [], [1]⟩,
  ⟨.metadata 1 0 100 true, kn [1], [], [1]⟩,
  ⟨.metadata 1 0 100 true, kn [1], [], []⟩]

/-- **never_panics_run_counterexample.**  All hypotheses of the header statement hold, and the model panics. -/
theorem never_panics_run_counterexample :
    InitLike sM ∧ sM.panicked = none ∧ sM.writing = none ∧
    drunAdmissible (sM, none) evsM ∧
    (drun (sM, none) evsM).1.panicked = some "allocator exists" ∧
    -- what is wrong with it: a metadata download adopted while the metadata is known
    ¬ drunIdlsSane (sM, none) evsM ∧ ¬ drunAdmissibleI (sM, none) evsM ∧
    -- and only that choice is (fifth event): the first four events satisfy everything
    drunSane (sM, none) (evsM.take 4) :=
  ⟨by apply initLike_of <;> decide, by decide, by decide, by decide, by decide,
   by unfold evsM; simp only [drunIdlsSane]; decide, by decide, by decide⟩

/-- The header statement as a proposition … -/
def never_panics_run_stmt : Prop :=
  ∀ (s0 : St), InitLike s0 → s0.panicked = none → (∀ w, s0.writing = some w → w.gen ≤ s0.gen) →
    ∀ evs : List Ev, drunAdmissible (s0, none) evs → (drun (s0, none) evs).1.panicked = none

/-- … is false. -/
theorem never_panics_run_false : ¬ never_panics_run_stmt := by
  intro h
  obtain ⟨a, b, c, e, f, _⟩ := never_panics_run_counterexample
  have := h sM a b (noFuture_of_none c) evsM e
  rw [f] at this
  cases this

/-- Two pieces in one file. -/
private def c2 : Cfg :=
  { pl := 16384, plens := [16384, 16384], blocks := [[(0, 16384)], [(0, 16384)]], flens := [32768],
    fpads := [false], fnames := ["t"] }
private def s2 : St := { cfg := c2, fileExists := [false], known := [false], bad := c2.dataSects }

/-- Piece 0 is downloaded from peer 1 and written; then the "implementation" lets peer 1 download piece 0
again (fifth event: a piece that is done — `reconcile` objects); its block completes a second write of a piece
the bitfield already has. -/
private def evsP : List Ev := [
  ⟨.start, kn [], [], []⟩,
  ⟨.peer 1 "10.0.0.2" true true false, kn [], [], []⟩,
  ⟨.msg 1 .haveAll, kn [1], [], []⟩,
  ⟨.msg 1 .unchoke, kn [1], [⟨1, 0, false, false, false⟩], []⟩,
  ⟨.msg 1 (.piece 0 0 16384 true), kn [1], [⟨1, 0, false, false, false⟩], []⟩,
  ⟨.msg 1 (.piece 0 0 16384 true), kn [1], [], []⟩]

/-- **Sanity of the piece downloads is needed** (and with it some hypothesis on the picker: without
`drunAdmissible` / `drunSane` the statement is false).  Everything else holds, `drunIdlsSane` included. -/
theorem never_panics_needs_sane_picker_counterexample :
    InitLike s2 ∧ s2.panicked = none ∧ s2.writing = none ∧
    drunAdmissibleI (s2, none) evsP ∧
    (drun (s2, none) evsP).1.panicked = some "already have the piece" ∧
    ¬ drunSane (s2, none) evsP ∧ ¬ drunAdmissible (s2, none) evsP ∧ drunSane (s2, none) (evsP.take 4) :=
  ⟨by apply initLike_of <;> decide, by decide, by decide, by decide, by decide, by decide, by decide, by decide⟩

/-- `InitLike` does not exclude a write in flight that claims to belong to the *next* generation of pieces. -/
private def sW : St :=
  { s1 with fileExists := [true], known := [true], bad := [], gateWrite := true,
            writing := some { piece := 0, src := 0, good := true, gen := 1 } }
private def evsW : List Ev := [⟨.start, kn [], [], []⟩, ⟨.gate .write false, kn [], [], []⟩]
private theorem initLike_sW : InitLike sW :=
  ⟨cfgWF_of_check _ (by decide), fun x hx => (by cases hx), rfl, rfl, rfl, rfl, rfl, rfl, rfl, rfl, rfl, rfl, rfl, rfl,
    rfl, rfl, rfl⟩

/-- **"No write of a future generation in the initial state" is needed**: the file is on disk and good, the job
is held by the write gate; `start` allocates and verifies — bit set, `Seeding`, and the pieces now loaded are of the
job's generation; the gate is released, the job is "current", the piece is written again and the success path
finds the bit set.  (No torrent object is created with a write in flight; with `gen ≤` the job is stale for ever
and ignored.) -/
theorem never_panics_needs_no_future_write_counterexample :
    InitLike sW ∧ sW.panicked = none ∧ ¬ (∀ w, sW.writing = some w → w.gen ≤ sW.gen) ∧
    drunAdmissible (sW, none) evsW ∧ drunAdmissibleI (sW, none) evsW ∧ drunSane (sW, none) evsW ∧
    (drun (sW, none) (evsW.take 1)).1.status = .seeding ∧
    (drun (sW, none) evsW).1.panicked = some "already have the piece" :=
  ⟨initLike_sW, by decide, fun h => absurd (h _ rfl) (by decide), by decide, by decide, by decide, by decide, by decide⟩

/-! #### histories that panicked before the fix of finding C04-F9 (stale write results are ignored) -/

/-- Piece 1 consists of a padding file only but has a block (`Cfg.blocksHaveData` is false). -/
private def cB : Cfg :=
  { pl := 16384, plens := [16384, 16384], blocks := [[(0, 16384)], [(0, 16384)]], flens := [16384, 16384],
    fpads := [false, true], fnames := ["t", "pad"] }
private def sB : St := { cfg := cB, fileExists := [false, false], known := [false, false], bad := cB.dataSects }
private def evsB : List Ev := [
  ⟨.start, kn [], [], []⟩,
  ⟨.peer 1 "10.0.0.2" true true false, kn [], [], []⟩,
  ⟨.msg 1 .haveAll, kn [1], [], []⟩,
  ⟨.msg 1 .unchoke, kn [1], [⟨1, 1, false, false, false⟩], []⟩,
  ⟨.gate .write true, kn [1], [⟨1, 1, false, false, false⟩], []⟩,
  ⟨.msg 1 (.piece 1 0 16384 true), kn [1], [], []⟩,
  ⟨.verify, kn [1], [], []⟩,
  ⟨.gate .write false, kn [1], [], []⟩]

/-- The write of the padding-only piece is held by the gate, a verify runs meanwhile (the verifier finds the
padding piece fine: bit set), then the stale write completes without touching the storage.  Before the fix it took
the success path (`already have the piece`); it is ignored, and the theorem applies to this configuration, in which
`blocksHaveData` is false. -/
theorem never_panics_stale_write_padding_piece :
    InitLike sB ∧ sB.cfg.blocksHaveData = false ∧ drunSane (sB, none) evsB ∧
    (drun (sB, none) (evsB.take 7)).1.writing.isSome = true ∧ (drun (sB, none) (evsB.take 7)).1.bf = some [false, true] ∧
    (drun (sB, none) evsB).1.writing = none ∧ (drun (sB, none) evsB).1.bf = some [false, true] ∧
    (drun (sB, none) evsB).1.panicked = none :=
  ⟨by apply initLike_of <;> decide, by decide, by decide, by decide, by decide, by decide, by decide,
   (never_panics_run_sane sB (by apply initLike_of <;> decide) (by decide) (noFuture_of_none (by decide)) evsB (by decide)).1⟩

/-- **The crash seed of finding C04-F9** on the repaired code: the piece is written, the writer is held after its
storage calls (`gate writeDone`), the torrent is stopped and started again (the new run's bitfield comes from the
resume record or a fresh allocation), then the old result is delivered: stale, ignored — before the fix it was
applied to the new run (`handlePieceWriteDone: nil bitfield` when delivered while the restart was still
allocating).  The histories contain `gate writeDone` ops and satisfy the hypotheses of `never_panics_run_sane`. -/
private def evsS : List Ev := [
  ⟨.start, kn [], [], []⟩,
  ⟨.peer 1 "10.0.0.2" true true false, kn [], [], []⟩,
  ⟨.msg 1 .haveAll, kn [1], [], []⟩,
  ⟨.msg 1 .unchoke, kn [1], [⟨1, 0, false, false, false⟩], []⟩,
  ⟨.gate .writeDone true, kn [1], [⟨1, 0, false, false, false⟩], []⟩,
  ⟨.msg 1 (.piece 0 0 16384 true), kn [1], [], []⟩,
  ⟨.stop, kn [1], [], []⟩,
  ⟨.gate .open true, kn [1], [], []⟩,
  ⟨.start, kn [1], [], []⟩,
  ⟨.gate .writeDone false, kn [1], [], []⟩]

theorem never_panics_stale_write_after_restart :
    drunSane (s2, none) evsS ∧
    -- the bytes are on disk, the result is held
    (drun (s2, none) (evsS.take 6)).1.writing.map (fun w => (w.piece, w.src, w.good, w.gen, w.written)) =
      some (0, 1, true, 1, true) ∧
    (drun (s2, none) (evsS.take 6)).1.diskOK = [true, false] ∧ (drun (s2, none) (evsS.take 6)).1.bf = some [false, false] ∧
    -- stopped and started again: allocating (gate held), no pieces loaded, the old result still held
    (drun (s2, none) (evsS.take 9)).1.status = .allocating ∧ (drun (s2, none) (evsS.take 9)).1.loaded = false ∧
    (drun (s2, none) (evsS.take 9)).1.writing.isSome = true ∧
    -- delivered: ignored
    (drun (s2, none) evsS).1.writing = none ∧ (drun (s2, none) evsS).1.status = .allocating ∧
    (drun (s2, none) evsS).1.bf = some [false, false] ∧ (drun (s2, none) evsS).1.panicked = none :=
  ⟨by decide, by decide, by decide, by decide, by decide, by decide, by decide, by decide, by decide, by decide,
   (never_panics_run_sane s2 (by apply initLike_of <;> decide) (by decide) (noFuture_of_none (by decide)) evsS (by decide)).1⟩

/-- … and a held result that is still current when it is delivered is applied: bit set, `have` sent, the invariant
`WInv.wd` in between (flag set, piece not done). -/
theorem held_write_result_delivered :
    (drun (s2, none) (evsS.take 6 ++ [⟨.gate .writeDone false, kn [1], [], []⟩])).1.bf = some [true, false] ∧
    (drun (s2, none) (evsS.take 6 ++ [⟨.gate .writeDone false, kn [1], [], []⟩])).1.writing = none ∧
    (drun (s2, none) (evsS.take 6)).1.wflag = [true, false] ∧ (drun (s2, none) (evsS.take 6)).1.done = [false, false] ∧
    drunSane (s2, none) (evsS.take 6 ++ [⟨.gate .writeDone false, kn [1], [], []⟩]) := by decide

end Counterexamples

section NonVacuity

private def kn' (l : List Nat) : Nat → Bool := fun k => l.contains k

/-- Two pieces, two peers; peer 1 downloads piece 0, whose write is held by the write gate, and goes on with
piece 1; peer 2 gets interested and is unchoked. -/
private def evsN : List Ev := [
  ⟨.start, kn' [], [], []⟩,
  ⟨.peer 1 "10.0.0.2" true true false, kn' [], [], []⟩,
  ⟨.peer 2 "10.0.0.3" false false false, kn' [1], [], []⟩,
  ⟨.msg 1 .haveAll, kn' [1, 2], [], []⟩,
  ⟨.msg 2 (.bitfield [true, true] 1), kn' [1, 2], [], []⟩,
  ⟨.msg 1 .unchoke, kn' [1, 2], [⟨1, 0, false, false, false⟩], []⟩,
  ⟨.gate .write true, kn' [1, 2], [⟨1, 0, false, false, false⟩], []⟩,
  ⟨.msg 1 (.piece 0 0 16384 true), kn' [1, 2], [⟨1, 1, false, false, false⟩], []⟩,
  ⟨.msg 2 .interested, kn' [1, 2], [⟨1, 1, false, false, false⟩], []⟩]

private theorem np_evsN : NP (drun (s2, none) evsN).1 :=
  (never_panics_run_sane s2 (by apply initLike_of <;> decide) (by decide) (noFuture_of_none (by decide)) evsN (by decide)).2

/-- A concrete state of the invariant that is not the initial one: `Downloading`, two peers, a verified write
of piece 0 in flight behind the write gate, peer 2 unchoked — reached by a history that satisfies every
hypothesis of `never_panics_run_sane` (so `NP` holds there by the theorem, not by assumption). -/
example : NP (drun (s2, none) evsN).1 ∧
    (drun (s2, none) evsN).1.status = .downloading ∧ (drun (s2, none) evsN).1.peers.length = 2 ∧
    (drun (s2, none) evsN).1.writing.isSome = true ∧ (drun (s2, none) evsN).1.unchoked = [2] ∧
    (drun (s2, none) evsN).1.wflag = [true, false] ∧ (drun (s2, none) evsN).1.dls.length = 1 :=
  ⟨np_evsN, by decide, by decide, by decide, by decide, by decide, by decide⟩

/-- From there every further event keeps the invariant (`never_panics_step` is not vacuous) — e.g. the hostile
ones: a block for a piece that is being written, a block nobody asked for from an unknown peer, a bitfield of
the wrong length, an out-of-range `have`, a metadata block. -/
example (op : Op) (p : Parked) (kn : Nat → Bool) :
    (step (drun (s2, none) evsN).1 p kn op).1.st.panicked = none :=
  (never_panics_step _ p kn op np_evsN).np

/-- … and the same history continued: the gate opens, the write completes, piece 1 follows, `Seeding`; the
hypotheses of `never_panics_run_partial` and `never_panics_run_admissible` hold as well. -/
private def evsN2 : List Ev := evsN ++ [
  ⟨.gate .write false, kn' [1, 2], [⟨1, 1, false, false, false⟩], []⟩,
  ⟨.msg 1 (.piece 1 0 16384 true), kn' [1, 2], [], []⟩]

example : drunAdmissible (s2, none) evsN2 ∧ drunAdmissibleI (s2, none) evsN2 ∧ drunSane (s2, none) evsN2 ∧
    (drun (s2, none) evsN2).1.status = .seeding ∧ (drun (s2, none) evsN2).1.bf = some [true, true] ∧
    (drun (s2, none) evsN2).1.panicked = none :=
  ⟨by decide, by decide, by decide, by decide, by decide, by decide⟩

end NonVacuity

/-! ## The loop does not hang: the worker chain after an event ends -/

/-- **never_hangs_step.**  From a state of the invariants (`Full`, and `DV`: a set `doVerify` is being acted
upon) **every** event — any op, any gates (`failOpen`, `failOpenAt`, `failWrite`, `writeDone`, …), any parameters,
any parked block — ends with no un-gated worker completion pending, without panic, in a state of the invariants. -/
theorem never_hangs_step (s : St) (p : Parked) (kn : Nat → Bool) (op : Op) (h : NP s) (hdv : DV s) :
    workersQuiet (step s p kn op).1.st = true ∧ (step s p kn op).1.st.panicked = none ∧
    NP (step s p kn op).1.st ∧ DV (step s p kn op).1.st :=
  ⟨step_quiet s p kn op ⟨h.full, hdv⟩, (step_np s p kn op h).np, step_np s p kn op h, step_dv s p kn op hdv⟩

/-- The chain has at most 11 links: more fuel changes nothing (the quiet states are fixed points). -/
theorem never_hangs_fuel (n : Nat) (m : M) (h : QInv m.1) : runWorkers (11 + n) m = runWorkers 11 m := by
  rw [runWorkers_add]
  exact runWorkers_of_quiet n _ (runWorkers_quiet 11 m h (wrank_le _)).1

/-- **never_hangs_run.**  From a freshly added torrent, along every history with sane picker choices — any ops,
the verify command and failing storage included —: after every event the workers are quiescent, and nothing has
panicked. -/
theorem never_hangs_run (s0 : St) (h0 : InitLike s0) (hp0 : s0.panicked = none) (hw : s0.writing = none)
    (hd : s0.doVerify = false) (evs : List Ev) (hs : drunSane (s0, none) evs) :
    workersQuiet (drun (s0, none) evs).1 = true ∧ (drun (s0, none) evs).1.panicked = none :=
  have h := drun_qrun evs (s0, none) (h0.qrun hp0 hw hd) hs
  ⟨h.quiet, h.np.np⟩

/-- **never_hangs_peer_messages** (the C08 reading).  From any quiescent state of the invariants — whatever the
gates, failing storage and a pending verification included — no sequence of peer messages (any kinds, any order,
any field values, any peer ids) panics the loop or leaves its workers busy. -/
theorem never_hangs_peer_messages (s : St) (p : Parked) (h : QRun s) (kn : Nat → Bool) (msgs : List (Nat × Msg)) :
    workersQuiet (srun (s, p) (msgs.map fun km => (Op.msg km.1 km.2, kn))).1 = true ∧
    (srun (s, p) (msgs.map fun km => (Op.msg km.1 km.2, kn))).1.panicked = none :=
  have := srun_qrun (msgs.map fun km => (Op.msg km.1 km.2, kn)) (s, p) h
  ⟨this.quiet, this.np.np⟩

/-! ### The former livelock, and non-vacuity -/
section Livelock

private def knL (l : List Nat) : Nat → Bool := fun k => l.contains k

/-- One piece, one file, nothing on disk; the storage's `Open` is made to fail, then `Verify()`. -/
private def evsL : List Ev := [⟨.gate .failOpen true, knL [], [], []⟩, ⟨.verify, knL [], [], []⟩]

/-- **verify_failOpen_stops** (finding C04-F8 on the repaired code).  `gate failOpen on`, `verify` from the freshly
added torrent: the restart for the verification fails to open the file once, `stop(err)` withdraws the request,
the torrent ends `Stopped` with the error recorded, the workers quiescent.  (On the unrepaired code this step
never ended: twelve links of the chain failed to open the file six times and left the torrent `Allocating` with
the request still pending.) -/
theorem verify_failOpen_stops :
    InitLike s1 ∧ drunSane (s1, none) evsL ∧
    (drun (s1, none) evsL).1.status = .stopped ∧ (drun (s1, none) evsL).1.doVerify = false ∧
    (drun (s1, none) evsL).1.lastErr = true ∧ workersQuiet (drun (s1, none) evsL).1 = true ∧
    (drun (s1, none) evsL).1.panicked = none ∧ (drun (s1, none) evsL).1.sto = ["openfail:t"] :=
  ⟨by apply initLike_of <;> decide, by decide, by decide, by decide, by decide, by decide, by decide, by decide⟩

/-- Non-vacuity of `never_hangs_run`: the download of section `NonVacuity` (two peers, a gated write, `Seeding` at
the end) followed by `Verify()` (stop, restart, allocation, verification of the existing file, stop: a chain of
five links inside one step), and then, with `Open` failing at the one file (`failOpenAt 0`), a second `Verify()`,
whose restart fails: the hypotheses hold, and so does the conclusion. -/
example : drunSane (s2, none) (evsN2 ++ [⟨.verify, kn' [1, 2], [], []⟩, ⟨.gate (.failOpenAt 0) true, kn' [1, 2], [], []⟩,
      ⟨.verify, kn' [1, 2], [], []⟩]) ∧
    (drun (s2, none) (evsN2 ++ [⟨.verify, kn' [1, 2], [], []⟩])).1.status = .stopped ∧
    (drun (s2, none) (evsN2 ++ [⟨.verify, kn' [1, 2], [], []⟩])).1.bf = some [true, true] ∧
    (drun (s2, none) (evsN2 ++ [⟨.verify, kn' [1, 2], [], []⟩, ⟨.gate (.failOpenAt 0) true, kn' [1, 2], [], []⟩,
      ⟨.verify, kn' [1, 2], [], []⟩])).1.status = .stopped ∧
    (drun (s2, none) (evsN2 ++ [⟨.verify, kn' [1, 2], [], []⟩, ⟨.gate (.failOpenAt 0) true, kn' [1, 2], [], []⟩,
      ⟨.verify, kn' [1, 2], [], []⟩])).1.doVerify = false ∧
    workersQuiet (drun (s2, none) (evsN2 ++ [⟨.verify, kn' [1, 2], [], []⟩, ⟨.gate (.failOpenAt 0) true, kn' [1, 2], [], []⟩,
      ⟨.verify, kn' [1, 2], [], []⟩])).1 = true :=
  ⟨by decide, by decide, by decide, by decide, by decide, by decide⟩

end Livelock

end Rain.Props.C08Loop
