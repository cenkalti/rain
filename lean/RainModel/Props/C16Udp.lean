import RainModel.Lemmas.UdpShared
/-!
C16 / C15 — several torrents share one UDP tracker transport (`udptracker.Transport`).
Property theorems over M-UDPSHARED (`Model/UdpShared.lean`), for ALL message sequences of the run
loop (requests of any number of calls on any destinations, cancellations at any moment, datagrams
with any transaction id and any of the modelled shapes, back-off ticks, close).
-/
namespace Rain.Props.C16Udp
open Rain.UdpShared

/-- **udp_no_orphan.** For every message sequence from the initial state: a call that has not
returned is either retransmitting its own announce, or queued on a connection whose connect
request is retransmitting. -/
theorem udp_no_orphan (is : List In) (r : Nat) (q : Req)
    (hq : (run State.init is).1.reqs r = some q) (hres : q.result = none) :
    q.cancelled = false ∧
    ((∃ tx, (run State.init is).1.txs tx = some ⟨.announce r, true⟩) ∨
     (∃ tx o ws, (run State.init is).1.conns q.dest = some (.connecting tx o ws) ∧ r ∈ ws ∧
        (run State.init is).1.txs tx = some ⟨.connect q.dest, true⟩)) := by
  have h := run_inv State.init inv_init is
  refine ⟨h.canc r q hq hres, ?_⟩
  rcases h.no_orphan r q hq hres with hx | ⟨tx, o, ws, hc, hm⟩
  · exact Or.inl hx
  · exact Or.inr ⟨tx, o, ws, hc, hm, h.conn_tx _ _ _ _ hc⟩

/-- **udp_connect_abort_answers_all.** Destination `d` is connecting under the context of call `o`
with the calls `ws` waiting.  When `o`'s caller cancels: the connection and its transaction are
gone, every call of `ws` has returned, and each one other than `o` that was still blocking is told
`context.Canceled` in this step. -/
theorem udp_connect_abort_answers_all (s : State) (d tx o : Nat) (ws : List Nat) (q : Req)
    (hc : s.conns d = some (.connecting tx o ws)) (ho : s.reqs o = some q) (hd : q.dest = d)
    (hres : q.result = none) :
    (step s (.cancel o)).1.conns d = none ∧ (step s (.cancel o)).1.txs tx = none ∧
    (∀ w ∈ ws, ∀ q', (step s (.cancel o)).1.reqs w = some q' → q'.result ≠ none) ∧
    (∀ w ∈ ws, ∀ qw, w ≠ o → s.reqs w = some qw → qw.result = none →
        Out.deliver w .canceled ∈ (step s (.cancel o)).2) := by
  subst hd
  simp only [step, ho, hres, hc]
  simp only [ne_eq, not_true_eq_false, if_false, if_true]
  refine ⟨by simp, by simp, fun w hw q' hq' hn => (failAll_blocked hq' hn).2 hw, ?_⟩
  intro w hw qw hne hqw hr
  exact List.mem_cons_of_mem _ (failAll_emits _ ws _ w hw qw ((upd_other hne).trans hqw) hr)

/-- **udp_connect_failure_answers_all.** The same when the tracker answers the connect
transaction with anything but a connection id (wrong action, bare header, error action). -/
theorem udp_connect_failure_answers_all (s : State) (h : Inv s) (d tx o : Nat) (ws : List Nat) (c : Content)
    (hc : s.conns d = some (.connecting tx o ws)) (hbad : c ≠ .good) :
    (step s (.dgram (some tx) c)).1.conns d = none ∧ (step s (.dgram (some tx) c)).1.txs tx = none ∧
    (∀ w ∈ ws, ∀ q', (step s (.dgram (some tx) c)).1.reqs w = some q' → q'.result ≠ none) ∧
    (∀ w ∈ ws, ∀ qw, s.reqs w = some qw → qw.result = none →
        Out.deliver w (.connectFailed c) ∈ (step s (.dgram (some tx) c)).2) := by
  have ht := h.conn_tx _ _ _ _ hc
  simp only [step, ht, hc, hbad, if_false]
  exact ⟨by simp, by simp, fun w hw q' hq' hn => (failAll_blocked hq' hn).2 hw, failAll_emits _ ws s.reqs⟩

/-- **udp_reconnect_after_abort.** A destination without connection (never connected, connect
aborted or failed, see the two theorems above) is connected afresh by the next request: a new
connect transaction is begun and its datagram written. -/
theorem udp_reconnect_after_abort (s : State) (d r : Nat) (hc : s.conns d = none) (hr : s.reqs r = none)
    (hopen : s.closed = false) :
    (step s (.request r d)).2 = [.send s.nextTx (.connect d)] ∧
    (step s (.request r d)).1.conns d = some (.connecting s.nextTx r [r]) := by
  simp [step, hr, hopen, hc]

/-- A transaction that has left the table and whose id is below the counter. -/
def Gone (s : State) (tx : Nat) : Prop := s.txs tx = none ∧ tx < s.nextTx

/-- A transaction that is gone stays gone: no step puts an entry below the counter. -/
theorem gone_step (s : State) (tx : Nat) (g : Gone s tx) (i : In) : Gone (step s i).1 tx :=
  ⟨(step_spec s i).2.2.2 tx g.2 g.1, Nat.lt_of_lt_of_le g.2 (step_spec s i).2.2.1⟩

theorem gone_run (s : State) (tx : Nat) (g : Gone s tx) (is : List In) :
    ∀ o ∈ (run s is).2, ∀ k, o ≠ Out.send tx k := by
  induction is generalizing s with
  | nil => simp [run]
  | cons i is ih =>
    simp only [run]
    intro o ho k e
    rcases List.mem_append.mp ho with h | h
    · -- a datagram of `tx` would be of a new transaction or of one in the table
      have hok := (step_spec s i).2.1 o h
      rw [e] at hok
      rcases hok with hge | hin
      · exact absurd g.2 (Nat.not_lt.2 hge)
      · rw [g.1] at hin; cases hin
    · exact ih _ (gone_step s tx g i) o h k e

/-- **udp_reply_removes_transaction.** A datagram (≥ 8 bytes, any content) whose id is in the table
removes that transaction — whether it is a connect or an announce, whatever the answer says. -/
theorem udp_reply_removes_transaction (s : State) (h : Inv s) (tx : Nat) (t : Trx) (c : Content)
    (ht : s.txs tx = some t) : Gone (step s (.dgram (some tx) c)).1 tx := by
  have hlt := h.tx_lt _ _ ht
  obtain ⟨k, a⟩ := t
  cases k with
  | announce r =>
    cases hr : s.reqs r with
    | none => simp only [step, ht, hr]; exact ⟨by simp, hlt⟩
    | some q =>
      by_cases hq : q.result = none
      · simp only [step, ht, hr, hq, if_true]; exact ⟨by simp, hlt⟩
      · simp only [step, ht, hr, hq, if_false]; exact ⟨by simp, hlt⟩
  | connect d =>
    obtain ⟨o, ws, hd⟩ := h.tx_conn _ _ _ ht
    by_cases hc : c = .good
    · subst hc
      simp only [step, ht, hd, if_true]
      refine ⟨?_, ?_⟩ <;> (try dsimp only [])
      · rw [beginAll_below _ _ _ _ _ hlt]; simp
      · rw [beginAll_next]; omega
    · simp only [step, ht, hd, hc, if_false]; exact ⟨by simp, hlt⟩

/-- **udp_answered_never_retransmitted.** From any reachable state: once a datagram has been
delivered to transaction `tx`, no later step — ticks of any back-off timer included — writes a
datagram of `tx` again. -/
theorem udp_answered_never_retransmitted (pre : List In) (tx : Nat) (t : Trx) (c : Content)
    (ht : (run State.init pre).1.txs tx = some t) (post : List In) :
    ∀ o ∈ (run (step (run State.init pre).1 (.dgram (some tx) c)).1 post).2, ∀ k, o ≠ Out.send tx k :=
  gone_run _ tx (udp_reply_removes_transaction _ (run_inv _ inv_init pre) tx t c ht) post

/-- **udp_reply_only_own_transaction.** A call returns reply bytes only in the step that handles a
datagram with the id of its own announce transaction (and gets exactly that datagram). -/
theorem udp_reply_only_own_transaction (s : State) (i : In) (r tx : Nat) (c : Content)
    (ho : Out.deliver r (.reply tx c) ∈ (step s i).2) :
    i = .dgram (some tx) c ∧ ∃ a, s.txs tx = some ⟨.announce r, a⟩ :=
  (step_spec s i).2.1 _ ho

/-- Three torrents queue on one connect; the torrent whose announce opened it is stopped: the two
others are told at once, nothing stays scheduled, and the next announce connects afresh. -/
example :
    (run State.init [.request 0 0, .request 1 0, .request 2 0, .cancel 0, .request 3 0]).2 =
      [.send 0 (.connect 0), .deliver 0 .canceled, .deliver 1 .canceled, .deliver 2 .canceled,
       .send 1 (.connect 0)] := by decide

/-- The hypotheses of `udp_connect_abort_answers_all` are met by a reachable state. -/
example :
    let s := (run State.init [.request 0 0, .request 1 0, .request 2 0]).1
    Inv s ∧ s.conns 0 = some (.connecting 0 0 [0, 1, 2]) ∧ s.reqs 0 = some ⟨0, false, none⟩ :=
  ⟨run_inv _ inv_init _, by decide, by decide⟩

/-- A failed connect (error action) tells every waiting call. -/
example :
    (run State.init [.request 0 0, .request 1 0, .dgram (some 0) .errAction]).2 =
      [.send 0 (.connect 0), .deliver 0 (.connectFailed .errAction), .deliver 1 (.connectFailed .errAction)] := by
  decide

/-- Unanswered transactions are retransmitted by their ticker; after the answer the tick is silent
(`udp_answered_never_retransmitted` is not vacuous: transaction 1 is in the table when answered). -/
example :
    (run State.init [.request 0 0, .tick 0, .dgram (some 0) .good, .tick 0, .tick 1,
                     .dgram (some 1) .good, .tick 1, .dgram (some 1) .good]).2 =
      [.send 0 (.connect 0), .send 0 (.connect 0), .send 1 (.announce 0), .send 1 (.announce 0),
       .deliver 0 (.reply 1 .good)] := by decide

/-- A datagram with a foreign id or fewer than 8 bytes answers nobody. -/
example :
    (run State.init [.request 0 0, .dgram (some 0) .good, .dgram (some 7) .good, .dgram none .good]).2 =
      [.send 0 (.connect 0), .send 1 (.announce 0)] := by decide

def runSilent (s : State) : List In → State
  | [] => s
  | i :: is => runSilent (stepSilentAbort s i).1 is

/-- **silent_abort_counterexample.** If the cancellation of the opener is not reported to the run
loop (`stepSilentAbort`), call 1 blocks for ever: it has no result, no transaction of its own, and
the connection it waits on has a connect transaction that no longer retransmits — `udp_no_orphan`
fails; and destination 0 stays "connecting", so call 2, started later, only joins the dead queue. -/
theorem silent_abort_counterexample :
    let s := runSilent State.init [.request 0 0, .request 1 0, .cancel 0, .request 2 0]
    s.reqs 1 = some ⟨0, false, none⟩ ∧ s.reqs 2 = some ⟨0, false, none⟩ ∧
    s.conns 0 = some (.connecting 0 0 [0, 1, 2]) ∧ s.txs 0 = some ⟨.connect 0, false⟩ ∧
    s.txs 1 = none ∧ s.nextTx = 1 := by decide

end Rain.Props.C16Udp
