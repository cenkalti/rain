import RainModel.Lemmas.Path
import RainModel.Lemmas.Utf8
import RainModel.Lemmas.Validate
/-! C07 — path confinement. -/
namespace Rain.Props.C07
open Rain.Path Rain.Validate

/-- **clean_no_sep.** The output of `cleanName` never contains a path separator. -/
theorem clean_no_sep (s : Bytes) (max : Nat) : SLASH ∉ cleanNameN s max := by
  unfold cleanNameN replaceSeparator
  simp only [List.mem_map, not_exists, not_and]
  intro b _ h
  split at h
  · simp [SLASH, UNDERSCORE] at h
  · rename_i hb; exact hb h

/-- The statement `clean_dotdot_iff` quantifies over: no cleaning step manufactures an empty name,
a `.` or a `..`. -/
def clean_dotdot_iff_full : Prop :=
  ∀ s : Bytes, (cleanName s = [] → s = []) ∧ (cleanName s = dot → s = dot) ∧
    (cleanName s = dotdot → s = dotdot)

/-- **clean_dotdot_iff.** For *every* byte string `s` (invalid UTF-8, over-long, anything):
`cleanName s = ".." ↔ s = ".."`, and likewise for `"."` and the empty string.  The UTF-8 repair
(`ToValidUTF8` with U+FFFD), the 255-byte cut that keeps the extension, the second repair that
drops a rune broken by the cut, and the separator replacement never manufacture one of the three
special names.  (Proof: the repaired string is a fixed point of the second repair; an all-ASCII
repaired string equals its input; a cut string keeps at least three bytes.) -/
theorem clean_dotdot_iff (s : Bytes) :
    (cleanName s = dotdot ↔ s = dotdot) ∧ (cleanName s = dot ↔ s = dot) ∧ (cleanName s = [] ↔ s = []) := by
  obtain ⟨h1, h2, h3⟩ := cleanName_special s
  exact ⟨⟨h3, fun e => by rw [e]; decide⟩, ⟨h2, fun e => by rw [e]; decide⟩, ⟨h1, fun e => by rw [e]; decide⟩⟩

theorem clean_dotdot_iff_holds : clean_dotdot_iff_full := cleanName_special

theorem clean_special_conv : cleanName [] = [] ∧ cleanName dot = dot ∧ cleanName dotdot = dotdot := by
  decide

/-- For names that are ASCII and at most 255 bytes long `cleanName` only replaces separators. -/
theorem clean_special_ascii (s : Bytes) (h : ∀ b ∈ s, b < 0x80) (hl : s.length ≤ 255) :
    cleanName s = replaceSeparator s ∧
    (cleanName s = [] → s = []) ∧ (cleanName s = dot → s = dot) ∧ (cleanName s = dotdot → s = dotdot) := by
  have e : toValidUTF8 s replacementChar = s := V_of_ascii _ _ s h
  exact ⟨by rw [cleanName_short s (by rw [e]; exact hl), e], cleanName_special s⟩

theorem accepted_parts (hc : clean_dotdot_iff_full) (p : Params) (ib : InfoIn) (o : InfoOut)
    (hh : p.hashHex ≠ [] ∧ p.hashHex ≠ dot ∧ p.hashHex ≠ dotdot)
    (h : newInfo p ib = .ok o) :
    GoodComp (cleanName (outName p ib)) ∧
    ∀ f ∈ effFiles p.utf8 ib, ∀ c ∈ f.2.1.map cleanName, SLASH ∉ c ∧ c ≠ dotdot := by
  obtain ⟨_, _, _, hname, hfiles, _⟩ := newInfo_ok_elim p ib o h
  constructor
  · have hn : outName p ib ≠ [] ∧ outName p ib ≠ dot ∧ outName p ib ≠ dotdot := by
      unfold outName
      split
      · rename_i hne
        refine ⟨hne, ?_, ?_⟩
        · intro e; rw [e] at hname; revert hname; decide
        · intro e; rw [e] at hname; revert hname; decide
      · exact hh
    obtain ⟨c1, c2, c3⟩ := hc (outName p ib)
    exact ⟨fun e => hn.1 (c1 e), fun e => hn.2.1 (c2 e), fun e => hn.2.2 (c3 e), clean_no_sep _ 255⟩
  · intro f hf c hcm
    obtain ⟨c0, hc0, rfl⟩ := List.mem_map.mp hcm
    refine ⟨clean_no_sep _ 255, ?_⟩
    intro e
    have := (hc c0).2.2 e
    rw [this] at hc0
    have hany : (effFiles p.utf8 ib).any (fun f => f.2.1.any isDotDotName) = true := by
      apply List.any_eq_true.mpr
      exact ⟨f, hf, List.any_eq_true.mpr ⟨dotdot, hc0, by decide⟩⟩
    rw [hany] at hfiles
    cases hfiles

/-- **join_confined (as a function of `clean_dotdot_iff_full`).** For every input accepted by
`NewInfo`, every file path is *confined*: relative, every component a real name (not empty, not
`.`, not `..`).  Hence, for a clean absolute data directory `root` (what `filepath.Abs` gives),
the path `filestorage.Open` hands to the OS is exactly `root/path`, component-wise below `root` —
and the same holds with the torrent-id level (`root = Join(DataDir, id)`, `id` a plain name).
`hashHex` is the hex SHA-1 used when the name is empty (40 hex digits; only "not `.`/`..`/empty" is
used). -/
theorem join_confined_partial (hc : clean_dotdot_iff_full) (p : Params) (ib : InfoIn) (o : InfoOut)
    (hh : p.hashHex ≠ [] ∧ p.hashHex ≠ dot ∧ p.hashHex ≠ dotdot)
    (h : newInfo p ib = .ok o) :
    (∀ f ∈ o.files, Confined f.path = true) ∧
    (∀ dataDir id incl, CleanAbs dataDir → GoodComp id →
      ∀ f ∈ o.files,
        storagePath (dataDirOf dataDir id incl) f.path = dataDirOf dataDir id incl ++ SLASH :: f.path ∧
        Under (dataDirOf dataDir id incl) (storagePath (dataDirOf dataDir id incl) f.path) = true) := by
  obtain ⟨hgood, hparts⟩ := accepted_parts hc p ib o hh h
  obtain ⟨_, _, _, _, _, _, length, padding, _, _, ho⟩ := newInfo_ok_elim p ib o h
  have hconf : ∀ f ∈ o.files, Confined f.path = true := by
    rw [ho]
    dsimp only
    -- the projections `.path` are reduced by `simp`: left to unification they are slow
    split
    · simp only [List.forall_mem_singleton]
      exact confined_of_good hgood
    · simp only [List.forall_mem_map, mkFile]
      exact fun g hg => fpJoin_parts _ _ hgood (hparts g hg)
  exact ⟨hconf, fun dataDir id incl hd hid f hf =>
    storagePath_under _ _ (dataDirOf_cleanAbs dataDir id incl hd hid) (hconf f hf)⟩

/-- **join_confined.** `join_confined_partial` with its hypothesis discharged by
`clean_dotdot_iff`: unconditional for every accepted input. -/
theorem join_confined (p : Params) (ib : InfoIn) (o : InfoOut)
    (hh : p.hashHex ≠ [] ∧ p.hashHex ≠ dot ∧ p.hashHex ≠ dotdot)
    (h : newInfo p ib = .ok o) :
    (∀ f ∈ o.files, Confined f.path = true) ∧
    (∀ dataDir id incl, CleanAbs dataDir → GoodComp id →
      ∀ f ∈ o.files,
        storagePath (dataDirOf dataDir id incl) f.path = dataDirOf dataDir id incl ++ SLASH :: f.path ∧
        Under (dataDirOf dataDir id incl) (storagePath (dataDirOf dataDir id incl) f.path) = true) :=
  join_confined_partial clean_dotdot_iff_holds p ib o hh h

/-- **remove_confined.** The directory (or file) `Session.RemoveTorrent` deletes when the
torrent-id level is off, `Join(DataDir, cleanName(Name))`, is the single real component
`cleanName(Name)` directly below the data directory — the same first element every file of the
torrent was created under (`join_confined`). -/
theorem remove_confined (p : Params) (ib : InfoIn) (o : InfoOut)
    (hh : p.hashHex ≠ [] ∧ p.hashHex ≠ dot ∧ p.hashHex ≠ dotdot)
    (h : newInfo p ib = .ok o) (dataDir : Bytes) (hd : CleanAbs dataDir) :
    fpJoin [dataDir, cleanName o.name] = dataDir ++ SLASH :: cleanName o.name ∧
    Under dataDir (fpJoin [dataDir, cleanName o.name]) = true := by
  obtain ⟨hgood, _⟩ := accepted_parts clean_dotdot_iff_holds p ib o hh h
  obtain ⟨_, _, _, _, _, _, length, padding, _, _, ho⟩ := newInfo_ok_elim p ib o h
  have hname : o.name = outName p ib := by rw [ho]
  rw [hname]
  have h1 := (fpJoin_under dataDir _ hd (confined_of_good hgood)).1
  exact ⟨h1, by rw [h1, under_append, confined_of_good hgood]⟩

/-- **paths_unique.** In an accepted description, the non-padding files have pairwise different
paths (no two files of one torrent resolve to the same file on disk). -/
theorem paths_unique (p : Params) (ib : InfoIn) (o : InfoOut) (h : newInfo p ib = .ok o) :
    ((o.files.filter (fun f => !f.padding)).map (·.path)).Pairwise (· ≠ ·) := by
  obtain ⟨_, _, _, _, _, hpw, length, padding, _, _, rfl⟩ := newInfo_ok_elim p ib o h
  dsimp only
  split
  · simp
  · exact hpw

/-- **tar_confined.** `readData` extracts an entry only to a path that is component-wise strictly
below the (cleaned) destination directory, for every absolute destination and every entry name:
on cleaned absolute paths the string-prefix test `HasPrefix(name, dir + "/")` is a
component-prefix test. -/
theorem tar_confined (dir name target : Bytes) (habs : ∃ r, dir = SLASH :: r)
    (h : tarTarget dir name = some target) : Under (fpClean dir) target = true :=
  tarTarget_under dir name target habs h

/-- Non-vacuity of `tar_confined`: an entry that is accepted, one that is refused, and one whose
name has the destination as a *string* prefix only (`/x/yy` vs `/x/y`). -/
example : tarTarget [0x2F, 0x78, 0x2F, 0x79] [0x61, 0x2F, 0x2E, 0x2E, 0x2F, 0x62] =
    some [0x2F, 0x78, 0x2F, 0x79, 0x2F, 0x62] := by decide
example : tarTarget [0x2F, 0x78, 0x2F, 0x79] [0x2E, 0x2E, 0x2F, 0x62] = none := by decide
example : tarTarget [0x2F, 0x78, 0x2F, 0x79] [0x2E, 0x2E, 0x2F, 0x79, 0x79, 0x2F, 0x7A] = none := by decide

/-- The absolute-destination hypothesis is needed: for the *relative* destination `..` the prefix
test accepts `../x`, which resolves to `../../x`, outside `..`.  (The destination comes from the
configuration, not from the archive; `filestorage` makes it absolute, `readData` does not.) -/
theorem tar_relative_dotdot_counterexample :
    ∃ t, tarTarget dotdot [0x2E, 0x2E, 0x2F, 0x78] = some t ∧ Under (fpClean dotdot) t = false := by
  exact ⟨[0x2E, 0x2E, 0x2F, 0x2E, 0x2E, 0x2F, 0x78], by decide, by decide⟩

/-- Non-vacuity of `join_confined` / `paths_unique`: an accepted multi-file torrent with nasty
components (`a/b` becomes `a_b`, `.` and the empty element vanish). -/
example : (newInfo ⟨true, true, []⟩
      { pieceLength := 16, piecesLen := 20, name := [0x74], nameUtf8 := [], priv := [], length := 0,
        files := [⟨5, [[0x61, 0x2F, 0x62]], [], []⟩, ⟨5, [[0x2E], [], [0x63]], [], []⟩] }).toOption.map
      (fun o => o.files.map (·.path)) =
    some [[0x74, 0x2F, 0x61, 0x5F, 0x62], [0x74, 0x2F, 0x63]] := by decide

/-- The historical defect (fixed in the rain checkout): the name `..` was not checked and put every
file above the data directory. -/
theorem newInfoPre_dotdot_name_counterexample :
    (newInfoPre ⟨true, true, []⟩
      { pieceLength := 16, piecesLen := 20, name := dotdot, nameUtf8 := [], priv := [], length := 0,
        files := [⟨5, [[0x61]], [], []⟩] }).toOption.map (fun o => o.files.map (fun f => Confined f.path)) =
    some [false] := by decide

end Rain.Props.C07
