import RainModel.Lemmas.TrackerWire
import RainModel.Lemmas.Announcer
/-! C15 — announces carry the torrent's true identity and follow the event discipline. -/
namespace Rain.Props.C15
open Rain Rain.TrackerWire

/-- **udp_packet_fields.** For every torrent (any 20 peer-id / info-hash bytes, any valid port, any
64-bit counters), every connection id, transaction id, event and `numwant`, and any URL data, the
datagram built by the UDP tracker decodes — with an independent BEP 15 decoder — to action
`announce`, the torrent's info-hash, **the same 20-byte peer id**, its port and counters, the
event, IP 0, and key = the last four peer-id bytes (the key the HTTP transport sends); the bytes
after the fixed 98 are exactly the URL-data option. -/
theorem udp_packet_fields (conn tx : Nat) (hc : conn < 256 ^ 8) (htx : tx < 256 ^ 4)
    (t : Torrent) (hwf : t.wf) (event : Nat) (hev : event < 4)
    (numWant : Int) (hn1 : -(2 ^ 31 : Int) ≤ numWant) (hn2 : numWant < 2 ^ 31) (url : Bytes) :
    decodeAnnounce (encodeAnnounce conn tx t event numWant url) =
      some ({ conn := conn, action := 1, tx := tx, infoHash := t.infoHash, peerID := t.peerID,
              down := t.down, left := t.left, up := t.up, event := event, ip := 0,
              key := unbe (keyBytes t), numWant := numWant, port := t.port.toNat, ext := 0 },
            urlOpt (url.length + 1) url) := by
  obtain ⟨hih, hpid, _, hpb, hp0, hp1, hu1, hu2, hd1, hd2, hl1, hl2⟩ := hwf
  have hkeylt : unbe (keyBytes t) < 256 ^ 4 := by
    have := unbe_lt (keyBytes t) (isBytes_of_mem hpb fun _ => List.mem_of_mem_drop)
    have hl : (keyBytes t).length = 4 := by simp [keyBytes, hpid]
    rwa [hl] at this
  have hport : toU 16 t.port = t.port.toNat := toU_of_nonneg hp0 hp1
  have hportlt : t.port.toNat < 256 ^ 2 := by omega
  have hevlt : event < 256 ^ 4 := by
    have : (256 : Nat) ^ 4 = 4294967296 := by decide
    omega
  simp only [decodeAnnounce, encodeAnnounce, encodeFixed, List.append_assoc]
  -- field by field, in the order of the packet (`simp` is slow under the nested binds)
  iterate 3 (rw [takeN_bind _ _ (length_be _ _)]; dsimp only)
  rw [takeN_bind _ _ hih]; dsimp only
  rw [takeN_bind _ _ hpid]; dsimp only
  iterate 9 (rw [takeN_bind _ _ (length_be _ _)]; dsimp only)
  simp only [pure, unbe_be_of_lt hc, unbe_be_of_lt htx, unbe_be_of_lt (k := 8) (toU_lt 64 _), unbe_be_of_lt (k := 4) (toU_lt 32 _),
    unbe_be_of_lt hkeylt, ofU_toU (n := 64) (by decide) hu1 hu2, ofU_toU (n := 64) (by decide) hd1 hd2, ofU_toU (n := 64) (by decide) hl1 hl2, ofU_toU (n := 32) (by decide) hn1 hn2,
    hport, unbe_be_of_lt hportlt,
    unbe_be_of_lt (show (1 : Nat) < 256 ^ 4 by decide), unbe_be_of_lt (show (0 : Nat) < 256 ^ 4 by decide),
    unbe_be_of_lt (show (0 : Nat) < 256 ^ 2 by decide), unbe_be_of_lt hevlt]

/-- The same statement as a yes/no answer of the oracle the check evaluates on captured bytes. -/
theorem udp_identity_ok (conn tx : Nat) (hc : conn < 256 ^ 8) (htx : tx < 256 ^ 4)
    (t : Torrent) (hwf : t.wf) (event : Nat) (hev : event < 4)
    (numWant : Int) (hn1 : -(2 ^ 31 : Int) ≤ numWant) (hn2 : numWant < 2 ^ 31) (url : Bytes) :
    udpIdentityOK t event numWant (encodeAnnounce conn tx t event numWant url) = true := by
  unfold udpIdentityOK
  rw [udp_packet_fields conn tx hc htx t hwf event hev numWant hn1 hn2 url]
  simp

/-- **http_query_fields.** The HTTP announce query, as an ordered key/value list: `info_hash` and
`peer_id` come first and un-escape to the torrent's info-hash and **the same 20 peer-id bytes**;
port and counters are the torrent's; `key` is the hex of the last four peer-id bytes and decodes
back to them; `event` is present exactly for started/completed/stopped. -/
theorem http_query_fields (t : Torrent) (hwf : t.wf) (event : Nat) (numWant : Int) (tid : Bytes) :
    let q := httpQuery t event numWant tid
    (q.take 2).map (·.1) = ["info_hash", "peer_id"] ∧
    lookup "info_hash" q = some (.esc t.infoHash) ∧ percentUnescape (percentEscape t.infoHash) = some t.infoHash ∧
    lookup "peer_id" q = some (.esc t.peerID) ∧ percentUnescape (percentEscape t.peerID) = some t.peerID ∧
    lookup "port" q = some (.int t.port) ∧ lookup "uploaded" q = some (.int t.up) ∧
    lookup "downloaded" q = some (.int t.down) ∧ lookup "left" q = some (.int t.left) ∧
    lookup "numwant" q = some (.int numWant) ∧
    lookup "event" q = (if event ≠ 0 then some (.lit (eventName event)) else none) ∧
    lookup "key" q = some (.hexs (t.peerID.drop 16)) ∧
    hexDec (hexEnc (t.peerID.drop 16)) = some (t.peerID.drop 16) := by
  obtain ⟨_, _, hib, hpb, _⟩ := hwf
  have hkb : isBytes (t.peerID.drop 16) = true := isBytes_of_mem hpb fun _ => List.mem_of_mem_drop
  refine ⟨rfl, rfl, percentUnescape_escape _ hib, rfl, percentUnescape_escape _ hpb, rfl, rfl, rfl, rfl, rfl,
    ?_, ?_, hexDec_hexEnc _ hkb⟩
  · simp [httpQuery, lookup_append, apply_ite (lookup _), lookup]
  · simp [httpQuery, lookup_append, apply_ite (lookup _), lookup, keyBytes]

/-- **http_query_trackerid.** The id a tracker handed out travels in every later announce, after the event and
before the key, percent-escaped byte by byte: whatever bytes it consists of (`#`, `&`, blanks, control bytes), it
un-escapes to exactly those bytes and cannot end, extend or break the query (finding C16-F4); without an id the key
is absent. -/
theorem http_query_trackerid (t : Torrent) (event : Nat) (numWant : Int) (tid : Bytes) (hb : isBytes tid = true) :
    let q := httpQuery t event numWant tid
    lookup "trackerid" q = (if tid ≠ [] then some (.esc tid) else none) ∧
    percentUnescape (percentEscape tid) = some tid ∧
    (q.map (·.1)).getLast? = some "key" := by
  refine ⟨?_, percentUnescape_escape _ hb, ?_⟩
  · simp [httpQuery, lookup_append, apply_ite (lookup _), lookup]
  · rw [httpQuery, List.map_append, List.getLast?_append]; rfl

example : renderVal (.esc [0x23, 0x26, 0x20, 0x01]) = "%23%26%20%01" := by decide

/-- Non-vacuity: `sampleTorrent` is well-formed and its peer id does not end in zero bytes. -/
example : sampleTorrent.wf := by decide
example : (decodeAnnounce (encodeAnnounce 7 9 sampleTorrent 2 200 [0x2f, 0x61])).map (·.1.peerID)
    = some sampleTorrent.peerID := by decide
example : lookup "key" (httpQuery sampleTorrent 2 200 []) = some (.hexs [0x51, 0x52, 0x53, 0x54]) := by decide

/-- The historical defect (#10): the pre-fix builder wrote the zero key *into* the peer id, so the
tracker saw a peer id whose last four bytes were zero (and key 0) — the identity oracle rejects it. -/
theorem udp_stale_counterexample :
    udpIdentityOK sampleTorrent 2 200 (encodeAnnounceStale 7 9 sampleTorrent 2 200 []) = false ∧
    (decodeAnnounce (encodeAnnounceStale 7 9 sampleTorrent 2 200 [])).map (·.1.peerID.drop 16)
      = some [0, 0, 0, 0] := by
  constructor <;> decide

/-! ### Event discipline (`internal/announcer/periodic.go`, `stop.go`, `torrent/torrent_stop.go`) -/

open Rain.Announcer in
/-- **first_is_started.** Whatever inputs arrive in whatever order (replies, errors, timer,
need-more-peers, completion, close — also before `Run` has begun or after it has ended), the first
announce a periodical announcer sends is `started`; every later one is `none` or `completed`
(never a second `started`, never `stopped`). -/
theorem first_is_started (c : Cfg) (tr : List (Int × In)) :
    (run c (init c) tr).2 = [] ∨
    ∃ a rest, (run c (init c) tr).2 = a :: rest ∧ a.ev = .started ∧
      ∀ b ∈ rest, b.ev = .none ∨ b.ev = .completed :=
  (runWith_run storeFixed c (init c) tr).fresh ⟨by simp [init], by simp [init]⟩

open Rain.Announcer in
/-- **completed_once.** In every history `completed` is announced at most once; not at all when
the download was already complete when the run began (`start true`), and not at all unless the
completion signal arrives during the run. -/
theorem completed_once (c : Cfg) (tr : List (Int × In)) :
    countC (run c (init c) tr).2 ≤ 1 ∧
    (∀ t0 rest, tr = (t0, .start true) :: rest → countC (run c (init c) tr).2 = 0) ∧
    ((∀ p ∈ tr, p.2 ≠ .completed) → countC (run c (init c) tr).2 = 0) := by
  refine ⟨?_, ?_, ?_⟩
  · exact (runWith_run storeFixed c (init c) tr).completedOnce
  · intro t0 rest htr
    subst htr
    simp only [run, runWith, countC_append]
    have h1 : countC (stepWith storeFixed c (init c) t0 (.start true)).2 = 0 := by
      simp [stepWith, init, doAnnounce, countC]
    have h2 : (stepWith storeFixed c (init c) t0 (.start true)).1.completedArmed = false := by
      simp [stepWith, init, doAnnounce]
    have := (runWith_run storeFixed c (stepWith storeFixed c (init c) t0 (.start true)).1 rest).completedOnce
    rw [h2] at this
    simp at this
    omega
  · exact (runWith_run storeFixed c (init c) tr).no_completed_input

open Rain.Announcer in
/-- **stopped_only_if_announced.** `torrent.stop` hands the stop announcer exactly the trackers
whose periodical announcer has `HasAnnounced` set, and that flag is set only by a reply the
announcer received during its run: a tracker that never accepted an announce gets no `stopped`.
(Periodical announcers themselves never send `stopped`: `first_is_started`.) -/
theorem stopped_only_if_announced {τ : Type} (c : Cfg) (l : List (τ × List (Int × In))) :
    ∀ t ∈ stopTargets (l.map fun p => (p.1, (run c (init c) p.2).1)),
      ∃ tr, (t, tr) ∈ l ∧ ∃ p ∈ tr, ∃ iv mi, p.2 = .response iv mi := by
  intro t ht
  simp only [stopTargets, List.mem_map, List.mem_filter] at ht
  obtain ⟨⟨t', s⟩, ⟨⟨⟨t'', tr⟩, hmem, heq⟩, hhas⟩, rfl⟩ := ht
  simp only [Prod.mk.injEq] at heq
  obtain ⟨rfl, rfl⟩ := heq
  refine ⟨tr, hmem, ?_⟩
  rcases (runWith_run storeFixed c (init c) tr).hasAnnounced hhas with h | h
  · simp [init] at h
  · exact h

open Rain.Announcer in
/-- Non-vacuity: of two trackers, only the one that replied is handed to the stop announcer. -/
example : stopTargets ([("a", [(0, In.start false), (1, In.response 1800 0)]), ("b", [(0, In.start false), (1, In.error 0 3)])].map
    fun p => (p.1, (run ⟨60, 5, 40⟩ (init ⟨60, 5, 40⟩) p.2).1)) = ["a"] := by decide

open Rain.Announcer in
/-- **interval_floor.** For every history with non-decreasing time stamps and every reply
sequence (interval and min-interval values of any sign, or absent = 0): whenever an announce is
sent because the timer ran out (`ev = none`, no intervening event) after the previous announce to
this tracker was answered by a reply (`after = working`), the gap between the two announces is at
least `fl`, for every `fl` that is ≤ the client's minimum interval and ≤ every positive interval /
min-interval value the tracker's replies contained.  (`announces_chained` shows `prevAt` is the
time of the previous announce.) -/
theorem interval_floor (c : Cfg) (tr : List (Int × In)) (hm : Mono 0 tr) (fl : Int) (hf : FloorFor c fl tr) :
    ∀ a ∈ (run c (init c) tr).2, a.ev = .none → a.after = .working → fl ≤ a.time - a.prevAt :=
  (runWith_run storeFixed c (init c) tr).floor hm hf (FInv_init c fl 0 (FloorFor_clientMin c fl tr hf) (Int.le_refl 0))

open Rain.Announcer in
/-- The same with the floor computed: `floorOf c tr` = min(client minimum, positive values supplied). -/
theorem interval_floor_computed (c : Cfg) (tr : List (Int × In)) (hm : Mono 0 tr) :
    ∀ a ∈ (run c (init c) tr).2, a.ev = .none → a.after = .working → floorOf c tr ≤ a.time - a.prevAt :=
  interval_floor c tr hm (floorOf c tr) (floorOf_FloorFor c tr)

open Rain.Announcer in
/-- Announces are chained: each one's `prevAt` is the time of the announce before it. -/
theorem announces_chained (c : Cfg) (tr : List (Int × In)) : Chained 0 (run c (init c) tr).2 :=
  (runWith_run storeFixed c (init c) tr).chain

open Rain.Announcer in
/-- Non-vacuity: started, reply without a usable interval (0, and a negative min-interval), timer,
reply with interval 30 and min-interval 10, need-more-peers, completion. The gaps are 60 (client
minimum) and 10 (the tracker's min-interval while more peers are needed). -/
example :
    ((run ⟨60, 5, 40⟩ (init ⟨60, 5, 40⟩)
      [(0, .start false), (1, .response 0 (-7)), (61, .timer), (62, .response 30 10), (63, .setNeed true),
       (63, .needSignal), (71, .timer), (72, .completed), (73, .completed)]).2.map fun a => (a.ev, a.time, a.prevAt))
    = [(.started, 0, 0), (.none, 61, 0), (.none, 71, 61), (.completed, 72, 71)] := by decide

open Rain.Announcer in
/-- The historical defect (#11): the pre-fix announcer stored a non-positive interval as sent, so a
reply with `interval = 0` re-armed the timer at once — the second announce follows after 5 time
units although the floor is the client minimum, 60. -/
theorem interval_stale_counterexample :
    Mono 0 [(0, .start false), (5, .response 0 0), (5, .timer)] ∧
    floorOf ⟨60, 5, 40⟩ [(0, .start false), (5, .response 0 0), (5, .timer)] = 60 ∧
    ((runStale ⟨60, 5, 40⟩ (init ⟨60, 5, 40⟩) [(0, .start false), (5, .response 0 0), (5, .timer)]).2.map
        fun a => (a.ev, a.after, a.time - a.prevAt))
      = [(.started, .notContactedYet, 0), (.none, .working, 5)] := by
  refine ⟨by simp [Mono], by decide, by decide⟩

theorem retryMinutesOf_le (n : Nat) : retryMinutesOf n ≤ 1440 := by
  unfold retryMinutesOf; split
  · omega
  · exact Nat.min_le_right _ _

theorem retryMinutesOf_pos (n : Nat) (h0 : n ≠ 0) (h1 : n ≤ 9223372036854775807) : 1 ≤ retryMinutesOf n := by
  unfold retryMinutesOf
  rw [if_neg (by omega)]
  omega

/-- **retry_in_bounded.** Whatever string a tracker's failure reply carries as `retry in`, the delay the client
takes from it is a whole number of minutes, at most one day: none (the client's own back-off applies) or at least
a minute — never a wrapped-around value of a few nanoseconds (finding C15-F4). -/
theorem retry_in_bounded (s : String) : ∃ m, m ≤ 1440 ∧ retryInNs s = m * 60000000000 := by
  have key : ∀ t : String, ∃ m, m ≤ 1440 ∧ retryDigits t = m * 60000000000 := by
    intro t
    unfold retryDigits
    split
    · exact ⟨0, by omega, by simp⟩
    · exact ⟨_, retryMinutesOf_le _, rfl⟩
  exact key _

/-- The values of the finding: a number of minutes whose conversion used to wrap (to 2048 ns) is a day now; what
does not fit an `int` is no delay at all. -/
example : retryMinutesOf 5 = 5 ∧ retryMinutesOf 3749353613647811 = 1440 ∧ retryMinutesOf 0 = 0 ∧
    retryMinutesOf 9223372036854775808 = 0 ∧ retryMinutesOf 1441 = 1440 := by decide

end Rain.Props.C15
