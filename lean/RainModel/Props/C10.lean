import RainModel.Lemmas.LoopPick
/-!
C10 — completion with an honest full source, the model-level half of "no idle eligible peer": after every
event that frees a piece or a peer, the picker is re-run (`startPieceDownloaderFor`, recorded in
`mayStart`) for every connected peer that has no download.  That the picker, once run, finds an eligible
piece is the subject of C09 (`M-PICK`); the driver's oracle `idleEligible` checks the conjunction on the
implementation's observations.
-/
namespace Rain.Props.C10
open Rain.Loop

/-- **freeing_events_repick.** After a peer is closed, after a choke of a downloading peer, after a snub,
and after a failed hash (source closed and banned): while the status is `downloading`, every connected
peer without a download is in `mayStart`. -/
theorem freeing_events_repick :
    (∀ (s : St) (k : Nat), (s.findPeer k).isSome → Repicked (s.closePeer k)) ∧
    (∀ (m : M) (k : Nat) (d : Dl), m.1.findDl k = some d → d.af = false →
        Repicked (handlePeerMessage m k .choke).1) ∧
    (∀ (m : M) (k : Nat) (d : Dl) (p : Peer), m.1.findDl k = some d → m.1.findPeer k = some p →
        p.peerChoking = false → Repicked (handlePeerSnubbed m k).1) ∧
    (∀ (m : M) (w : WriteJob), w.good = false → Repicked (writerRun m w).1) :=
  ⟨closePeer_repicks, choke_repicks, snub_repicks, failed_hash_repicks⟩

/-- **write_done_repicks.** A completed write closes the other (end-game) downloads of the same piece and
re-runs the picker for exactly those peers. -/
theorem write_done_repicks (m : M) (w : WriteJob) (hl : m.1.loaded = true) (hc : m.1.completed = false)
    (hs : m.1.status = .downloading) :
    ∀ d ∈ m.1.dls, d.piece = w.piece → (m.1.findPeer d.k).isSome →
      d.k ∈ (pwdOthers m w).1.mayStart ∧ (pwdOthers m w).1.findDl d.k = none := by
  unfold pwdOthers
  simp only [hl, hc, Bool.not_false, Bool.and_self, ↓reduceIte]
  intro d hd hpiece hp
  obtain ⟨-, -, q⟩ := foldl_visits
    (fun t : M => t.1.status = .downloading ∧ t.1.peers = m.1.peers)
    (fun (k : Nat) (t : M) => (m.1.findPeer k).isSome → k ∈ t.1.mayStart ∧ t.1.findDl k = none)
    (fun m k => onSt m fun s => (s.closeDl k).startDlFor k) ((m.1.dls.filter (·.piece = w.piece)).map (·.k))
    (fun t k ⟨h1, h2⟩ => ⟨by simpa using h1, by simpa using h2⟩)
    (fun t k b _ hb hp => ⟨startDlFor_mayStart_mono _ _ _ (by simpa using (hb hp).1),
      by simpa using closeDl_findDl_none t.1 k b (hb hp).2⟩)
    (fun t k _ ⟨h1, h2⟩ hp => ⟨startDlFor_mem _ k (by simpa using h1) (by simpa [St.findPeer, h2] using hp),
      by simpa using closeDl_findDl_self t.1 k⟩)
    m ⟨hs, rfl⟩
  exact q d.k (List.mem_map.2 ⟨d, List.mem_filter.2 ⟨hd, by simpa using hpiece⟩, rfl⟩) hp

/-- `startPieceDownloaders` itself: the picker is run for every idle peer, and nobody is dropped. -/
theorem startDls_repicks (s : St) : Repicked s.startDls ∧ ∀ k ∈ s.mayStart, k ∈ s.startDls.mayStart :=
  ⟨(startDls_spec s).2, (startDls_spec s).1⟩

/-! Non-vacuity: two peers, one download; closing the downloading peer re-picks for the other. -/
example :
    let c : Cfg := { pl := 16384, plens := [16384], blocks := [[(0, 16384)]], flens := [16384], fpads := [false], fnames := ["t"] }
    let s : St := { cfg := c, errC := true, loaded := true, bf := some [false],
                    peers := [{ k := 1, ip := "a", fast := true, ext := true }, { k := 2, ip := "b", fast := true, ext := true }],
                    dls := [{ k := 1, piece := 0 }] }
    (s.closePeer 1).mayStart = [2] ∧ (s.closePeer 1).status = .downloading := by decide

end Rain.Props.C10
