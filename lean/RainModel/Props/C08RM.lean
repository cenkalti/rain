import RainModel.Lemmas.ResourceManager
import RainModel.Lemmas.RequestProto
/-!
C08 (resource-manager half) — the caller of `ResourceManager.Request` always returns.
The protocol model is `Rain.RM.Proto` in `Model/ResourceManager.lean`.
-/
namespace Rain.Props.C08RM
open Rain.RM Rain.RM.Proto

/-- **request_returns.** Fixed protocol (the manager closes `doneC` when it takes the cancel branch
of `handleRequest`).  From every well-formed protocol state — in particular from the start of
`Request` for every manager state, every request with `n ≥ 0`, and `cancelC` / `closeC` each
already closed or still open — and for every schedule `acts` of caller, manager and environment
steps:
* the execution has at most `pmeasure s ≤ 10` steps (every schedule is finite), and
* in whatever state it stands, if the caller has not returned then some step of the caller or the
  manager is enabled (the caller is never blocked on a channel nobody will serve).
Hence every maximal (weakly fair) execution ends with the caller returned. -/
theorem request_returns (s : PState) (hw : wf true s = true) (acts : List Act) (s' : PState)
    (h : prun true s acts = some s') :
    acts.length ≤ 10 ∧ (isReturned s'.rpc = false → stuck true s' = false) := by
  have hw' := prun_invariant (wf_step true) acts s s' hw h
  have := prun_length true acts s s' h
  have := pmeasure_le s
  exact ⟨by omega, progress_fixed s' hw'⟩

/-- The same, stated from the entry of `Request`: for every manager state `ms`, every request
`r` with `n ≥ 0` (a negative `n` returns before anything is sent), `cancelC` already closed or
not, manager already closed or not. -/
theorem request_returns_from_start (ms : State) (r : Req) (hn : 0 ≤ r.n) (cancelClosed closeClosed : Bool)
    (acts : List Act) (s' : PState) (h : prun true (start ms r cancelClosed closeClosed) acts = some s') :
    acts.length ≤ 10 ∧ (isReturned s'.rpc = false → stuck true s' = false) :=
  request_returns _ (wf_start true ms r cancelClosed closeClosed hn) acts s' h

/-- A maximal execution (nothing of caller or manager enabled any more) has the caller returned. -/
theorem request_returns_maximal (ms : State) (r : Req) (hn : 0 ≤ r.n) (cancelClosed closeClosed : Bool)
    (acts : List Act) (s' : PState) (h : prun true (start ms r cancelClosed closeClosed) acts = some s')
    (hmax : stuck true s' = true) : isReturned s'.rpc = true := by
  have := (request_returns_from_start ms r hn cancelClosed closeClosed acts s' h).2
  cases hr : isReturned s'.rpc with
  | true => rfl
  | false => rw [this hr] at hmax; cases hmax

/-- Non-vacuity: the schedule of `request_blocks_unfixed` — `cancelC` closed before the call, the manager
takes the cancel branch before the caller parks — ends with the caller returned `false`. -/
example : (prun true (start (init 3) ⟨1, 0, 4⟩ true false) [.send, .mgrCancel, .park, .reqSeesDoneClosed]).map (·.rpc)
    = some (.returned false) := by decide

/-- The defect of the original protocol (DESIGN 10 #8, fixed in the rain checkout): with `cancelC`
already closed the schedule send → manager takes the cancel branch → caller parks on `doneC`
reaches a state in which the caller has not returned and neither caller nor manager can move
— and stays blocked for every continuation that does not close the manager. -/
theorem request_blocks_unfixed :
    ∃ s', prun false (start (init 3) ⟨1, 0, 4⟩ true false) [.send, .mgrCancel, .park] = some s' ∧
      isReturned s'.rpc = false ∧ stuck false s' = true ∧ s'.closeClosed = false := by
  refine ⟨_, rfl, ?_, ?_, ?_⟩ <;> decide

/-- **request_accounting.** Whatever the schedule, the caller's result and the manager's books
agree: `Request` returns `true` only if the manager subtracted exactly this amount (the grant of
`handleRequest`), and if it returns `false` the manager either did nothing for it or queued it —
a reservation is never made without the caller learning about it. -/
theorem request_accounting (fixed : Bool) (ms0 : State) (r : Req) (cc cl : Bool) (acts : List Act) (s' : PState)
    (h : prun fixed (start ms0 r cc cl) acts = some s') : Booked ms0 s' ∧ s'.r = r := by
  refine prun_invariant (P := fun s => Booked ms0 s ∧ s.r = r) ?_ acts _ s' (by simp [Booked, start]) h
  intro s s1 a ⟨hb, hr⟩ hs
  obtain ⟨hb1, hr1⟩ := acc_step fixed ms0 s s1 a hb hs
  exact ⟨hb1, hr1.trans hr⟩

end Rain.Props.C08RM
