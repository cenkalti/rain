import RainModel.Lemmas.LoopWeak
import RainModel.Lemmas.LoopPeers
import RainModel.Lemmas.LoopHaves
import RainModel.Lemmas.LoopHavesStep
import RainModel.Lemmas.LoopNoPanic
import RainModel.Lemmas.LoopWInvDec
/-!
C01 — download integrity, loop level (M-LOOP).  For every state, every event with arbitrary parameters,
and every (admissible) choice of the implementation's picker:

* a set bit of the bitfield means the piece's non-padding bytes on disk are the true content
  (`bits_sound`), the disk never gets worse through the client's own actions (`disk_never_regresses`);
* with files deleted or restored behind the client's back this still holds whenever the torrent is
  downloading or seeding (`bits_sound_with_mutations`; needs the fix of finding C05-F1);
* the disk changes only through a write job whose hash matched, and only for that job's piece
  (`writes_verified`); a job whose hash failed writes nothing, its source is disconnected and banned
  (`bad_job_writes_nothing_and_bans`), and a banned address is never accepted (`banned_not_accepted`).

The tie to the code: suites `loop-dl`, `lifecycle`, `loop-magnet`, `private` (Driver/Suites/Loop.lean replays
`step`, `reconcile`, `reconcileIdl` — `dstep` below — against the real event loop).
-/
namespace Rain.Props.C01Loop
open Rain.Loop

/-- **bits_sound.** One event of the loop (any event except an external change of the files, any
parameters, any state satisfying the invariant) preserves: every bit set in the bitfield, and every bit
of the resume bitfield, names a piece whose bytes on disk are the true content.
Hypotheses inside `Sound`: `CfgWF` (a piece without blocks has no data section) and `BadWF` (the disk
model `bad` only names real data sections) — both hold for the driver's `initSt`. -/
theorem bits_sound (s : St) (p : Parked) (kn : Nat → Bool) (op : Op) (hop : op.isMutate = false)
    (h : Sound s) (hw : WrOK s) :
    BitsSound (step s p kn op).1.st ∧ PersistedSound (step s p kn op).1.st ∧ Sound (step s p kn op).1.st := by
  have h' := step_sound s p kn op hop h hw
  exact ⟨(bitsSound_iff _).2 h'.bits, h'.pers, h'⟩

/-- **bits_sound_run.** From a freshly added torrent, after any history of events without external file
changes, with any choices of the implementation adopted by `reconcile`/`reconcileIdl`. -/
theorem bits_sound_run (s0 : St) (h0 : InitLike s0) (hw : NoWritten s0) (evs : List Ev)
    (hop : ∀ e ∈ evs, e.op.isMutate = false) :
    BitsSound (drun (s0, none) evs).1 ∧ PersistedSound (drun (s0, none) evs).1 := by
  have h := drun_sound evs (s0, none) hop h0.sound (h0.wrOK hw)
  exact ⟨(bitsSound_iff _).2 h.bits, h.pers⟩

/-- **disk_never_regresses.** No event other than an external change of the files makes a piece that was
fine on disk bad: the client never overwrites verified data with anything but verified data. -/
theorem disk_never_regresses (s : St) (p : Parked) (kn : Nat → Bool) (op : Op) (hop : op.isMutate = false)
    (h : Sound0 s) (i : Nat) (hi : s.diskOKi i = true) : (step s p kn op).1.st.diskOKi i = true := by
  have h1 := handle_adv s.opStart p kn op hop
  exact step_of_bad_sub (P := fun t => t.diskOKi i = true) (fun h hc hb => diskOKi_mono hc hb i h) s p kn op
    (diskOKi_mono h1.cfg h1.bad i hi)

/-- **bits_sound_with_mutations.** Files may be deleted or restored (not corrupted) behind the stopped
client's back at any point of the history: whenever the torrent is then downloading or seeding, every
set bit is again backed by verified bytes — missing files are found by the allocator and re-checked or
re-downloaded, never trusted.  `drunAdmissible`: the picker's choices were accepted by `reconcile`. -/
theorem bits_sound_with_mutations (s0 : St) (h0 : InitLike s0) (hw : NoWritten s0) (evs : List Ev)
    (hop : ∀ e ∈ evs, e.op.isCorrupt = false) (ha : drunAdmissible (s0, none) evs)
    (hs : (drun (s0, none) evs).1.status = .downloading ∨ (drun (s0, none) evs).1.status = .seeding) :
    BitsSound (drun (s0, none) evs).1 :=
  bits_sound_of_running (drun_wsound evs (s0, none) hop h0.wsound (h0.wrOK hw)) (drun_padInv evs (s0, none) h0.padInv (h0.wrOK hw))
    (drun_life evs (s0, none) h0.life ha) hs

/-- **bits_weakly_sound.** In every status (also stopped, allocating, verifying) after such a history: a
set bit whose piece is not fine on disk is bad only inside files that are currently missing. -/
theorem bits_weakly_sound (s0 : St) (h0 : InitLike s0) (hw : NoWritten s0) (evs : List Ev)
    (hop : ∀ e ∈ evs, e.op.isCorrupt = false) : WS (drun (s0, none) evs).1 :=
  (drun_wsound evs (s0, none) hop h0.wsound (h0.wrOK hw)).ws

/-- **writes_verified.** The storage image changes through the piece writer only for a job whose hash
matched, of the current generation of pieces, and then exactly that piece becomes (and is) good;
everything else on disk is untouched. -/
theorem writes_verified (m : M) (w : WriteJob) :
    (writerRun m w).1.bad = m.1.bad ∨
    (w.good = true ∧ w.gen = m.1.gen ∧ m.1.loaded = true ∧ m.1.failWrite = false ∧
      (writerRun m w).1.bad = m.1.bad.filter (fun b => b.1 ≠ w.piece) ∧
      (writerRun m w).1.diskOKi w.piece = true) :=
  writerRun_disk m w

/-- **bad_job_writes_nothing_and_bans.** A job whose hash failed issues no storage call, changes neither
disk nor bitfield; afterwards its source peer is not connected and its address is banned. -/
theorem bad_job_writes_nothing_and_bans (m : M) (w : WriteJob) (hg : w.good = false) :
    (writerRun m w).1.sto = m.1.sto ∧ (writerRun m w).1.bad = m.1.bad ∧ (writerRun m w).1.bf = m.1.bf ∧
    (∀ q ∈ (writerRun m w).1.peers, q.k ≠ w.src) ∧
    (∀ p, m.1.findPeer w.src = some p → p.ip ∈ (writerRun m w).1.banned) := by
  rw [writerRun_bad m w hg]
  have h := pwdBan_spec (pwdReset m w) w
  have hR := pwdReset_writes m w
  have hW := hR.trans (pwdBan_writes _ w)
  exact ⟨hW.sto, hW.bad, hW.bf, h.1, fun p hp => h.2 p ((hR.findPeer _).trans hp)⟩

/-- **banned_not_accepted.** `acceptPeer` refuses a banned address whatever else holds. -/
theorem banned_not_accepted (m : M) (k : Nat) (ip : String) (fast ext badHash dupId : Bool)
    (hb : ip ∈ m.1.banned) : acceptPeer m k ip fast ext badHash dupId = (m, "refused-closed") := by
  unfold acceptPeer
  dsimp only
  refine ite_ind (P := fun x => x = (m, "refused-closed")) (fun _ => rfl) fun _ => ?_
  refine ite_ind (P := fun x => x = (m, "refused-closed")) (fun _ => rfl) fun _ => ?_
  rw [if_pos (by simpa using hb)]

/-- **reported_only_verified.** The two places where the loop announces pieces — the `have`s after a
completed write and the `have`s after a verification — only name pieces whose verified bytes are on disk
at the end of the handler; and the first message to a new peer is the client's own bitfield (`haveall` only
if every bit is set), which by `bits_sound` names only such pieces.  `haveMsg i` is the text `have:i` the
model emits; `QueueOK`: only messages that need the metadata are ever queued (preserved by the handlers,
`processQueued_no_panic`).  (Whole-step form: `reported_only_verified_step`.) -/
theorem reported_only_verified :
    (∀ (m : M) (w : WriteJob), Sound0 m.1 → ∀ o ∈ (writerRun m w).2,
        o ∈ m.2 ∨ ∀ i, o.msg = haveMsg i → (writerRun m w).1.diskOKi i = true) ∧
    (∀ m : M, QueueOK m.1 → ∀ o ∈ (handleVerificationDone m).2,
        o ∈ m.2 ∨ ∀ i, o.msg = haveMsg i → (handleVerificationDone m).1.diskOKi i = true) ∧
    (∀ (s : St) (p : Peer) (b : List Bool), s.bf = some b →
        firstMessages s p = (if p.fast && allTrue b && !b.isEmpty then ["haveall"]
          else if p.fast && !(b.any id) then ["havenone"] else ["bitfield:" ++ bitsHex b]) ++
          (if p.ext then ["exths"] else [])) :=
  ⟨writerRun_haves, fun m _ => handleVerificationDone_newOK m, firstMessages_bitfield⟩

/-- **reported_only_verified_step.** Whole-step form: in any state with a well-formed configuration and disk
model (`Sound0` = `CfgWF ∧ BadWF`, an invariant of every op), for **every** op with any parameters (an
external change of the files included), with or without a parked piece message: every `have:i` among the
messages the loop sends during the step names a piece whose non-padding bytes on disk are the true content
at the end of the step.  Proof: no handler sends a `have` (`handle_noHave`: `unchoke`, `reject:…`, `piece:…`,
`extmeta:…`, `bitfield:…`, `haveall`, `havenone`, `exths`, `interested`, `notinterested` are not `have:i`
for any `i`), the two workers that do (`writerRun`, `handleVerificationDone`) name verified pieces, and
the disk never gets worse inside a step.  The statement is about the disk, not about the bit: that the bit of
a piece announced in a step is still set at the end of the same step is not proved (see the examples below). -/
theorem reported_only_verified_step (s : St) (p : Parked) (kn : Nat → Bool) (op : Op) (h : Sound0 s) (hw : WrOK s) :
    ∀ o ∈ (step s p kn op).1.outs, ∀ i, o.msg = haveMsg i → (step s p kn op).1.st.diskOKi i = true :=
  step_havesOK s p kn op h hw

/-- … and while the bitfield is sound (every non-mutate step from a `Sound` state, `bits_sound`) the
announced piece and the bitfield agree with the disk together: the piece is verified on disk, and so is
every piece whose bit is set. -/
theorem reported_only_verified_step_sound (s : St) (p : Parked) (kn : Nat → Bool) (op : Op)
    (hop : op.isMutate = false) (h : Sound s) (hw : WrOK s) :
    (∀ o ∈ (step s p kn op).1.outs, ∀ i, o.msg = haveMsg i → (step s p kn op).1.st.diskOKi i = true) ∧
    BitsSound (step s p kn op).1.st :=
  ⟨step_havesOK s p kn op h.zero hw, (bits_sound s p kn op hop h hw).1⟩

/-- **reported_only_verified_run.** Along every history from a freshly added torrent — any ops (deletions,
corruptions and restorations of files included), any choices of the implementation adopted by
`reconcile`/`reconcileIdl`, admissible or not — every `have:i` sent in the next step names a piece that is
verified on disk when the step ends, and still is after the implementation's choices are adopted. -/
theorem reported_only_verified_run (s0 : St) (h0 : InitLike s0) (hw : NoWritten s0) (evs : List Ev) (e : Ev) :
    ∀ o ∈ (step (drun (s0, none) evs).1 (drun (s0, none) evs).2 e.known e.op).1.outs, ∀ i, o.msg = haveMsg i →
      (step (drun (s0, none) evs).1 (drun (s0, none) evs).2 e.known e.op).1.st.diskOKi i = true ∧
      (dstep (drun (s0, none) evs) e).1.diskOKi i = true := by
  intro o ho i hi
  have h := step_havesOK _ _ e.known e.op (drun_sound0 evs (s0, none) h0.sound.zero) (drun_wrOK evs (s0, none) (h0.wrOK hw))
    o ho i hi
  have a := dstep_after_step (drun (s0, none) evs) e
  exact ⟨h, diskOKi_mono a.cfg a.bad i h⟩

/-- **bad_padding_piece_never_done.** A piece that lies entirely inside BEP 47 padding files and whose
recorded SHA-1 is not the hash of zeroes (`padOK i = false`: `padOnly i` and `padHashOK[i] = false`) can
never be verified.  From a freshly added torrent, after **any** history — every op, files deleted,
restored or corrupted behind the client's back, any adopted choices, admissible or not —: its bit is
not set in the bitfield nor in the resume record, the torrent is not complete and does not report
`Seeding`. -/
theorem bad_padding_piece_never_done (s0 : St) (h0 : InitLike s0) (hw : NoWritten s0) (evs : List Ev) (i : Nat)
    (hi : i < s0.cfg.n) (hbad : s0.cfg.padOK i = false) :
    bitOf (drun (s0, none) evs).1.bf i = false ∧ bitOf (drun (s0, none) evs).1.persisted i = false ∧
    (drun (s0, none) evs).1.completed = false ∧ (drun (s0, none) evs).1.status ≠ .seeding := by
  have h := drun_padInv evs (s0, none) h0.padInv (h0.wrOK hw)
  have hu : Unver (drun (s0, none) evs).1.cfg i := by rw [drun_cfg]; exact ⟨hi, hbad⟩
  have hc := h.nc ⟨i, hu⟩
  refine ⟨h.nobit i hu, h.nobitP i hu, hc, fun hs => ?_⟩
  have := ((status_seeding_iff _).1 hs).2.2.2.2
  rw [hc] at this; cases this

/-- The step form, from any state that satisfies the invariant (`PadInv`: `CfgWF`, `BadWF`, one bit per
piece, no bit for a piece that can never be verified, not complete). -/
theorem bad_padding_piece_never_done_step (s : St) (p : Parked) (kn : Nat → Bool) (op : Op) (h : PadInv s)
    (hw : WrOK s) : PadInv (step s p kn op).1.st :=
  step_of_adv PadInv.adv PadInv.zero s p kn op h hw fun f how _ => mutate_padInv f how

/-- Every set bit, in every state of every history (mutations included), names a piece whose recorded
hash is the hash of its true content. -/
theorem bits_only_for_hashable_pieces (s0 : St) (h0 : InitLike s0) (hw : NoWritten s0) (evs : List Ev) (i : Nat)
    (hi : i < s0.cfg.n) (hb : bitOf (drun (s0, none) evs).1.bf i = true) : s0.cfg.padOK i = true :=
  drun_cfg evs (s0, none) ▸ (drun_padInv evs (s0, none) h0.padInv (h0.wrOK hw)).pad i hb

/-! Non-vacuity: a one-piece torrent, an honest peer, the piece is written and the bit is set. -/
section Example
private def c1 : Cfg :=
  { pl := 16384, plens := [16384], blocks := [[(0, 16384)]], flens := [16384], fpads := [false], fnames := ["t"] }
private def s1 : St := { cfg := c1, fileExists := [false], known := [false], bad := c1.dataSects }
private def kn (l : List Nat) : Nat → Bool := fun k => l.contains k
private def evs1 : List Ev := [
  ⟨.start, kn [], [], []⟩,
  ⟨.peer 1 "10.0.0.2" true true false, kn [], [], []⟩,
  ⟨.msg 1 .haveAll, kn [1], [], []⟩,
  ⟨.msg 1 .unchoke, kn [1], [⟨1, 0, false, false, false⟩], []⟩,
  ⟨.msg 1 (.piece 0 0 16384 true), kn [1], [], []⟩]

example : (drun (s1, none) evs1).1.bf = some [true] ∧ (drun (s1, none) evs1).1.diskOK = [true] ∧
    (drun (s1, none) evs1).1.status = .seeding := by decide

/-- `s1` is `InitLike`-sound enough for the step theorems: `CfgWF` and `BadWF`. -/
private theorem s1_sound0 : Sound0 s1 := ⟨cfgWF_of_check _ (by decide), badWF_dataSects s1 rfl⟩

/-- **Why the run theorems ask for `NoWritten s0`** (and the step theorems for `WrOK s`).  Since the model has held
write results (`WriteJob.written`, `gate writeDone`: the piece writer's storage calls have returned, its result
is delivered later) a `written` job is *trusted*: its delivery sets the bit without any storage call.  `InitLike`
does not exclude an initial state with such a job claiming the next generation of pieces: one `start` — fresh
allocation, generation 1, the "result" is delivered as current — and the bit of piece 0 is set, the torrent seeds,
with nothing on disk.  (No torrent object is created with a write in flight; along every history from a state
without one the invariant `WrOK` — a held, current result has its bytes on disk — holds: `drun_wrOK`.) -/
theorem held_result_trusted_counterexample :
    InitLike { s1 with writing := some { piece := 0, src := 0, good := true, gen := 1, written := true } } ∧
    ¬ NoWritten { s1 with writing := some { piece := 0, src := 0, good := true, gen := 1, written := true } } ∧
    (drun ({ s1 with writing := some { piece := 0, src := 0, good := true, gen := 1, written := true } }, none)
      [⟨.start, kn [], [], []⟩]).1.bf = some [true] ∧
    (drun ({ s1 with writing := some { piece := 0, src := 0, good := true, gen := 1, written := true } }, none)
      [⟨.start, kn [], [], []⟩]).1.diskOK = [false] ∧
    (drun ({ s1 with writing := some { piece := 0, src := 0, good := true, gen := 1, written := true } }, none)
      [⟨.start, kn [], [], []⟩]).1.status = .seeding :=
  ⟨⟨s1_sound0.cfg, s1_sound0.bad, rfl, rfl, rfl, rfl, rfl, rfl, rfl, rfl, rfl, rfl, rfl, rfl, rfl, rfl, rfl⟩,
   fun h => absurd (h _ rfl).1 (by decide), by decide, by decide, by decide⟩

/-! `reported_only_verified_step` is not vacuous: with a second peer that lacks the piece, the step in
which the write completes sends it `have:0`, and piece 0 is then verified on disk. -/
private def evs2 : List Ev := [
  ⟨.start, kn [], [], []⟩,
  ⟨.peer 1 "10.0.0.2" true true false, kn [], [], []⟩,
  ⟨.peer 2 "10.0.0.3" true true false, kn [1], [], []⟩,
  ⟨.msg 1 .haveAll, kn [1, 2], [], []⟩,
  ⟨.msg 1 .unchoke, kn [1, 2], [⟨1, 0, false, false, false⟩], []⟩]

example : (step (drun (s1, none) evs2).1 none (kn [1, 2]) (.msg 1 (.piece 0 0 16384 true))).1.outs =
      [⟨1, "notinterested"⟩, ⟨2, haveMsg 0⟩] ∧
    (step (drun (s1, none) evs2).1 none (kn [1, 2]) (.msg 1 (.piece 0 0 16384 true))).1.st.diskOK = [true] ∧
    (step (drun (s1, none) evs2).1 none (kn [1, 2]) (.msg 1 (.piece 0 0 16384 true))).1.st.bf = some [true] := by
  decide

example : ∀ o ∈ (step (drun (s1, none) evs2).1 none (kn [1, 2]) (.msg 1 (.piece 0 0 16384 true))).1.outs,
    ∀ i, o.msg = haveMsg i →
      (step (drun (s1, none) evs2).1 none (kn [1, 2]) (.msg 1 (.piece 0 0 16384 true))).1.st.diskOKi i = true :=
  reported_only_verified_step _ _ _ _ (drun_sound0 evs2 (s1, none) s1_sound0)
    (drun_wrOK evs2 (s1, none) (.of_released ⟨rfl, rfl, rfl, rfl, rfl⟩ fun w a => (by cases a)))

/-! The step form speaks of the disk and not of the bit.  Before the fix of finding C04-F4 there was a step
that sends `have:0` and ends without a bitfield: stop-after-download, a verify issued while nothing was on
disk (it started the download and stayed pending), the allocator gate held; the step in which the write
completed announced `have:0`, completed, stopped, and the stale pending verify restarted the torrent without its
bitfield — all inside the same op.  With the fix that history is gone: the verify ends `Stopped` at once
(`Props/C04.lean`, `verify_without_files_ends_stopped`), and a pending verify excludes `Downloading`
(`no_stale_verify_flag`).  No other witness is known; the bit form ("every `have:i` of a step has bit `i`
set afterwards") is not proved.  Below: the same events, and the stop-after-download step, which sends
`have:0` and ends `Stopped` with its bitfield. -/
private def s1sa : St := { s1 with cfg := { c1 with stopAfter := true } }
private def evs3 : List Ev := [
  ⟨.verify, kn [], [], []⟩,
  ⟨.peer 1 "10.0.0.2" true true false, kn [], [], []⟩]

example : (drun (s1sa, none) (evs3.take 1)).1.status = .stopped ∧ (drun (s1sa, none) (evs3.take 1)).1.doVerify = false ∧
    (drun (s1sa, none) evs3).1.peers = [] := by decide

example : (step (drun (s1sa, none) evs2).1 none (kn [1, 2]) (.msg 1 (.piece 0 0 16384 true))).1.outs =
      [⟨1, "notinterested"⟩, ⟨2, haveMsg 0⟩] ∧
    (step (drun (s1sa, none) evs2).1 none (kn [1, 2]) (.msg 1 (.piece 0 0 16384 true))).1.st.diskOK = [true] ∧
    (step (drun (s1sa, none) evs2).1 none (kn [1, 2]) (.msg 1 (.piece 0 0 16384 true))).1.st.bf = some [true] ∧
    (step (drun (s1sa, none) evs2).1 none (kn [1, 2]) (.msg 1 (.piece 0 0 16384 true))).1.st.status = .stopped := by
  decide

/-! `bad_padding_piece_never_done` is not vacuous: piece 0 is data, piece 1 is one padding file.  With a
wrong recorded hash for piece 1 the download of piece 0 leaves the torrent `Downloading` with bitfield
`10`, also after a stop, a restart from the resume record and a manual verification; with the right
hash the same history ends `Seeding` with `11`. -/
private def c2 (ok : Bool) : Cfg :=
  { pl := 16384, plens := [16384, 16384], blocks := [[(0, 16384)], []], flens := [16384, 16384],
    fpads := [false, true], fnames := ["t/f0", "t/.pad/16384"], padHashOK := [true, ok] }
private def s2 (ok : Bool) : St :=
  { cfg := c2 ok, fileExists := [false, false], known := [false, false], bad := (c2 ok).dataSects }
private def evs4 : List Ev := evs1 ++ [
  ⟨.stop, kn [1], [], []⟩, ⟨.start, kn [], [], []⟩, ⟨.verify, kn [], [], []⟩, ⟨.start, kn [], [], []⟩]

example : (c2 false).padOnly 1 = true ∧ (c2 false).padOK 1 = false ∧ (c2 false).padOK 0 = true ∧
    (c2 true).padOK 1 = true := by decide

example : (drun (s2 false, none) evs1).1.bf = some [true, false] ∧
    (drun (s2 false, none) evs1).1.status = .downloading ∧ (drun (s2 false, none) evs1).1.completed = false ∧
    (drun (s2 false, none) evs4).1.bf = some [true, false] ∧
    (drun (s2 false, none) evs4).1.persisted = some [true, false] ∧
    (drun (s2 false, none) evs4).1.status = .downloading := by decide

example : (drun (s2 true, none) evs1).1.bf = some [true, true] ∧
    (drun (s2 true, none) evs1).1.status = .seeding ∧
    (drun (s2 true, none) evs4).1.bf = some [true, true] ∧ (drun (s2 true, none) evs4).1.status = .seeding := by decide

private theorem s2_initLike : InitLike (s2 false) :=
  ⟨cfgWF_of_check _ (by decide), badWF_dataSects (s2 false) rfl, rfl, rfl, rfl, rfl, rfl, rfl, rfl, rfl, rfl, rfl, rfl, rfl, rfl,
    rfl, rfl⟩

example : ∀ evs, bitOf (drun (s2 false, none) evs).1.bf 1 = false ∧ (drun (s2 false, none) evs).1.status ≠ .seeding :=
  fun evs => ⟨(bad_padding_piece_never_done (s2 false) s2_initLike (noWritten_of_none rfl) evs 1 (by decide) (by decide)).1,
    (bad_padding_piece_never_done (s2 false) s2_initLike (noWritten_of_none rfl) evs 1 (by decide) (by decide)).2.2.2⟩
end Example

end Rain.Props.C01Loop
