/-
M-PICK — transliteration of `internal/piecepicker` (piecepicker.go, webseed.go) together with the
parts of `internal/sliceset`, `internal/webseedsource`, `internal/urldownloader` it reads and the
caller protocol of package `torrent` (torrent_start.go, torrent_close.go, torrent_write.go,
torrent_messagehandler.go, torrent_peer.go, torrent_webseed.go) reduced to what the picker sees.

Representation
* `pieces : Nat → Piece` with bound `n` (the Go slice `p.pieces`; an index `≥ n` is an explicit
  `error "index"` outcome, never a silent default), peers `peers : Nat → PeerSt` with bound `np`
  (peer ids are handed out by `connect`; a `*peer.Peer` is its id), web-seed sources
  `srcs : Nat → Option Dl` with bound `ns` (`none` = `src.Downloader == nil`).
* `sliceset.SliceSet` as a duplicate-free `List Nat`: `Add` = `sadd` (append if absent), `Remove` =
  `List.erase`.  The Go `Remove` swaps the last element into the hole; the picker itself only ever
  calls `Has`/`Len` on the four per-piece sets, so the order is not observable through it and the
  dumps are compared sorted (see notes/C09.md).  `ReceivedAllowedFast` is only appended to, its
  order is kept (it decides the non-sequential allowed-fast pick).
* Where Go picks among equals through an unstable `slices.SortFunc` or `math/rand`, the model
  returns the *list of admissible outcomes* (DESIGN 6.1); deterministic steps return one outcome.
* Go panics are `Except.error` outcomes.

Core Lean only.
-/
namespace Rain.Picker

/-- `myPiece` (+ the `Writing`/`Done` flags of the embedded `piece.Piece`). -/
structure Piece where
  having : List Nat := []
  requested : List Nat := []
  snubbed : List Nat := []
  choked : List Nat := []
  /-- `RequestedWebseed` (index into `webseedSources`). -/
  webseed : Option Nat := none
  writing : Bool := false
  done : Bool := false
  head : Bool := false
  tail : Bool := false
  deriving Inhabited, Repr, DecidableEq

/-- `urldownloader.URLDownloader{Begin, End, current}`. -/
structure Dl where
  b : Nat
  e : Nat
  c : Nat
  deriving Inhabited, Repr, DecidableEq

/-- What the picker and the loop glue read/write of a `peer.Peer`, plus the loop's
`pieceDownloaders[pe]` entry (`dl`: piece index and the `AllowedFast` flag of the downloader;
`pe.Downloading` is `dl.isSome`, the loop sets both together). -/
structure PeerSt where
  choking : Bool := true
  dl : Option (Nat × Bool) := none
  af : List Nat := []
  closed : Bool := false
  deriving Inhabited, Repr, DecidableEq

structure State where
  n : Nat
  pieces : Nat → Piece
  np : Nat
  peers : Nat → PeerSt
  ns : Nat
  srcs : Nat → Option Dl
  /-- `maxDuplicateDownload` (the end-game limit). -/
  maxDup : Nat
  /-- `maxWebseedPieces`. -/
  maxWeb : Nat
  available : Nat
  endgame : Bool
  sequential : Bool

abbrev R := Except String

/-! ### sliceset -/

/-- `SliceSet.Add`. -/
def sadd (l : List Nat) (x : Nat) : List Nat := if x ∈ l then l else l ++ [x]

/-- `SliceSet.Remove` as written in Go: the last element is moved into the hole and the slice is
shortened.  The model uses `List.erase`; `sliceset_remove_perm` (Props/C09) shows the two agree up to
the order of the remaining elements, which the picker never observes (`Has`/`Len` only). -/
def removeSwap : List Nat → Nat → List Nat
  | [], _ => []
  | y :: r, x =>
    if y = x then
      match r.getLast? with
      | none => []
      | some z => z :: r.dropLast
    else y :: removeSwap r x

/-! ### state updates -/

def setPiece (s : State) (i : Nat) (pc : Piece) : State :=
  { s with pieces := fun j => if j = i then pc else s.pieces j }

def setPeer (s : State) (p : Nat) (ps : PeerSt) : State :=
  { s with peers := fun q => if q = p then ps else s.peers q }

def setSrc (s : State) (k : Nat) (d : Option Dl) : State :=
  { s with srcs := fun j => if j = k then d else s.srcs j }

/-! ### per-piece helpers (methods of `myPiece`) -/

def Piece.stalled (pc : Piece) : Nat := pc.snubbed.length + pc.choked.length
def Piece.running (pc : Piece) : Int := (pc.requested.length : Int) - (pc.stalled : Int)
def Piece.availWeb (pc : Piece) : Bool := !(pc.done || pc.writing) && pc.webseed.isNone
/-- `PickableBy`. -/
def Piece.pickable (pc : Piece) (p : Nat) : Bool :=
  !(pc.done || pc.writing) && pc.requested.isEmpty && pc.having.contains p

/-- `uint32` decrement of `available`. -/
def decU32 (a : Nat) : Nat := if a = 0 then 4294967295 else a - 1

/-! ### event handlers (piecepicker.go:215-272) -/

def handleHave (s : State) (p i : Nat) : R State :=
  if i < s.n then
    let pc := s.pieces i
    if p ∈ pc.having then .ok s
    else
      let pc' := { pc with having := pc.having ++ [p] }
      .ok { setPiece s i pc' with available := if pc'.having.length = 1 then s.available + 1 else s.available }
  else .error "index"

def handleAllowedFast (s : State) (p i : Nat) : R State :=
  if i < s.n then
    let ps := s.peers p
    .ok (setPeer s p { ps with af := sadd ps.af i })
  else .error "index"

def handleSnubbed (s : State) (p i : Nat) : R State :=
  if i < s.n then
    let pc := s.pieces i
    if p ∈ pc.choked then .error "peer snubbed while choked"
    else .ok (setPiece s i { pc with snubbed := sadd pc.snubbed p })
  else .error "index"

def handleChoke (s : State) (p i : Nat) : R State :=
  if i < s.n then
    let pc := s.pieces i
    .ok (setPiece s i { pc with snubbed := pc.snubbed.erase p, choked := sadd pc.choked p })
  else .error "index"

def handleUnchoke (s : State) (p i : Nat) : R State :=
  if i < s.n then
    let pc := s.pieces i
    .ok (setPiece s i { pc with choked := pc.choked.erase p })
  else .error "index"

/-- `HandleCancelDownload` on a piece. -/
def Piece.cancel (pc : Piece) (p : Nat) : Piece :=
  { pc with requested := pc.requested.erase p, snubbed := pc.snubbed.erase p, choked := pc.choked.erase p }

def handleCancelDownload (s : State) (p i : Nat) : R State :=
  if i < s.n then .ok (setPiece s i ((s.pieces i).cancel p)) else .error "index"

/-- `removeHavingPeer`. -/
def removeHavingPeer (s : State) (i p : Nat) : State :=
  let pc := s.pieces i
  if p ∈ pc.having then
    let pc' := { pc with having := pc.having.erase p }
    { setPiece s i pc' with available := if pc'.having.length = 0 then decU32 s.available else s.available }
  else s

/-- `HandleDisconnect`: `for i := range p.pieces { HandleCancelDownload(pe,i); removeHavingPeer(i,pe) }`,
pieces `0 … k-1`. -/
def disconnectLoop (p : Nat) : Nat → State → State
  | 0, s => s
  | k + 1, s =>
    let s1 := disconnectLoop p k s
    removeHavingPeer (setPiece s1 k ((s1.pieces k).cancel p)) k p

def handleDisconnect (s : State) (p : Nat) : State := disconnectLoop p s.n s

/-! ### web-seed bookkeeping (piecepicker.go:165-197) -/

/-- `for i := lo; i < lo+fuel; i++ { if pieces[i].RequestedWebseed != src {panic}; … = nil }`.
`deref`: `WebseedStopAt` formats its message with `RequestedWebseed.URL`, so for a piece without
a source the assertion dies with a nil dereference instead of its message. -/
def clearRange (k : Nat) (deref : Bool) : Nat → Nat → State → R State
  | 0, _, s => .ok s
  | fuel + 1, i, s =>
    if i < s.n then
      if (s.pieces i).webseed = some k then
        clearRange k deref fuel (i + 1) (setPiece s i { s.pieces i with webseed := none })
      else if deref && (s.pieces i).webseed.isNone then .error "nil source"
      else .error "invalid source in piece"
    else .error "index"

/-- `CloseWebseedDownloader`. -/
def closeWebseed (s : State) (k : Nat) : R State :=
  match s.srcs k with
  | none => .ok s
  | some d => do
    let s1 ← clearRange k false (d.e - d.b) d.b s
    pure (setSrc s1 k none)

/-- `WebseedStopAt(src, i)`; the Boolean is `closed`. -/
def webseedStopAt (s : State) (k i : Nat) : R (State × Bool) :=
  match s.srcs k with
  | none => .error "nil downloader"
  | some d => do
    let s1 ← clearRange k true (d.e - i) i s
    let s2 := setSrc s1 k (some { d with e := i })
    if d.c ≥ i then do
      let s3 ← closeWebseed s2 k
      pure (s3, true)
    else pure (s2, false)

def downloadingWebseed (s : State) : Bool :=
  (List.range s.ns).any fun k => (s.srcs k).isSome

/-- `getDownloadingSources` (in `webseedSources` order). -/
def downloadingSources (s : State) : List (Nat × Dl) :=
  (List.range s.ns).filterMap fun k => (s.srcs k).map fun d => (k, d)

/-- `WebseedSource.Remaining` (on `Nat`; `c < e` is part of `PickInv`). -/
def Dl.remaining (d : Dl) : Nat := d.e - d.c - 1

/-! ### findGaps (webseed.go:133) -/

/-- Loop state `(inGap, begin, gaps)`, piece index `i`, `fuel = n - i`. -/
def gapsGo (s : State) : Nat → Nat → Bool → Nat → List (Nat × Nat) → Bool × Nat × List (Nat × Nat)
  | 0, _, inGap, b, acc => (inGap, b, acc)
  | fuel + 1, i, inGap, b, acc =>
    if !inGap then
      if (s.pieces i).availWeb then gapsGo s fuel (i + 1) true i acc
      else gapsGo s fuel (i + 1) false b acc
    else
      if !(s.pieces i).availWeb then gapsGo s fuel (i + 1) false b (acc ++ [(b, i)])
      else if i - b = s.maxWeb then gapsGo s fuel (i + 1) true i (acc ++ [(b, i)])
      else gapsGo s fuel (i + 1) true b acc

def findGaps (s : State) : List (Nat × Nat) :=
  match gapsGo s s.n 0 false 0 [] with
  | (true, b, acc) => acc ++ [(b, s.n)]
  | (false, _, acc) => acc

/-! ### choosing among equals -/

/-- Elements of `c` whose key is minimal in `c`: what the first qualifying element of an
(unstably) sorted slice can be. -/
def argmins (key : Nat → Int) (c : List Nat) : List Nat :=
  c.filter fun i => c.all fun j => key i ≤ key j

/-! ### the pick ladder for peers (piecepicker.go:262-460) -/

/-- `pickAllowedFast`: loop over `ReceivedAllowedFast.Items` with accumulator `picked`. -/
def pickAllowedFastLoop (s : State) (p : Nat) : List Nat → Option Nat → Option Nat
  | [], acc => acc
  | i :: rest, acc =>
    if i < s.n && (s.pieces i).pickable p then
      if !s.sequential then some i
      else pickAllowedFastLoop s p rest (match acc with
        | none => some i
        | some k => if i < k then some i else some k)
    else pickAllowedFastLoop s p rest acc

def pickAllowedFast (s : State) (p : Nat) : Option Nat :=
  pickAllowedFastLoop s p (s.peers p).af none

/-- `pickFileEdge`. -/
def pickFileEdge (s : State) (p : Nat) : Option Nat :=
  (List.range s.n).find? fun i => ((s.pieces i).head || (s.pieces i).tail) && (s.pieces i).pickable p

/-- some piece is not done, not writing and unrequested (`hasUnrequested` after a full scan). -/
def hasUnrequested (s : State) : Bool :=
  (List.range s.n).any fun i => !((s.pieces i).done || (s.pieces i).writing) && (s.pieces i).requested.isEmpty

/-- `pickSequential`: outcome state (end-game flag) and pick. -/
def pickSequential (s : State) (p : Nat) : State × Option Nat :=
  match (List.range s.n).find? fun i => (s.pieces i).pickable p with
  | some i => (s, some i)
  | none => (if hasUnrequested s then s else { s with endgame := true }, none)

/-- `pickRarest`: any pickable piece of minimal `|Having|`. -/
def pickRarest (s : State) (p : Nat) : List (State × Option Nat) :=
  let c := (List.range s.n).filter fun i => (s.pieces i).pickable p
  if c.isEmpty then [(if hasUnrequested s then s else { s with endgame := true }, none)]
  else (argmins (fun i => ((s.pieces i).having.length : Int)) c).map fun i => (s, some i)

/-- `pickEndgame`. -/
def pickEndgame (s : State) (p : Nat) : List (Option Nat) :=
  let c := (List.range s.n).filter fun i =>
    let pc := s.pieces i
    !(pc.done || pc.writing) && decide (pc.requested.length < s.maxDup) && pc.having.contains p
  if c.isEmpty then [none] else (argmins (fun i => (s.pieces i).running) c).map some

/-- `pickStalled`. -/
def pickStalled (s : State) (p : Nat) : List (Option Nat) :=
  let c := (List.range s.n).filter fun i =>
    let pc := s.pieces i
    !(pc.done || pc.writing) && !decide (pc.running > 0) && decide (pc.requested.length < s.maxDup) && pc.having.contains p
  if c.isEmpty then [none] else (argmins (fun i => ((s.pieces i).stalled : Int)) c).map some

/-- Inner loop of `pickLastPieceOfSmallestGap` for one gap `[b, b+fuel)`, scanning downwards. -/
def gapScan (s : State) (p : Nat) (b : Nat) : Nat → Option Nat
  | 0 => none
  | f + 1 =>
    let i := b + f
    let pc := s.pieces i
    if pc.requested.isEmpty && pc.having.contains p &&
        (!(s.peers p).choking || (s.peers p).af.contains i) then some i
    else gapScan s p b f

/-- `pickLastPieceOfSmallestGap`: the gaps are sorted by length (unstably); the first gap with a
qualifying piece wins, so any qualifying gap of minimal length among the qualifying ones. -/
def pickLastPieceOfSmallestGap (s : State) (p : Nat) : List Nat :=
  let gaps := findGaps s
  let q := gaps.filterMap fun g => (gapScan s p g.1 (g.2 - g.1)).map fun i => (g.2 - g.1, i)
  (q.filter fun x => q.all fun y => x.1 ≤ y.1).map (·.2)

/-- Inner loop of `peerStealsFromWebseed`: `for i := End-1; i > current; i--`, `i = c + f`. -/
def stealScan (s : State) (p : Nat) (c : Nat) : Nat → Option Nat
  | 0 => none
  | f + 1 => if (s.pieces (c + f + 1)).pickable p then some (c + f + 1) else stealScan s p c f

/-- `peerStealsFromWebseed` over the downloading sources in order. -/
def peerSteals (s : State) (p : Nat) : List (Nat × Dl) → R (State × Option Nat)
  | [] => .ok (s, none)
  | (k, d) :: rest =>
    if d.remaining = 0 then peerSteals s p rest
    else match stealScan s p d.c (d.e - 1 - d.c) with
      | some i => do
        let (s1, _) ← webseedStopAt s k i
        pure (s1, some i)
      | none => peerSteals s p rest

/-- `findPiece`.  `legacy = true` is the ladder before the two `fix:` commits of C09 (8da1edd:
allowed-fast pieces consulted first also for an unchoking peer in sequential mode; 166d17e: the
end-game short path taken before `pickSequential`); `legacy = false` is the code as it is now.  Result: admissible `(state, pick, allowedFast)` outcomes. -/
def findPiece (legacy : Bool) (s : State) (p : Nat) : List (R (State × Option (Nat × Bool))) :=
  let ps := s.peers p
  if ps.dl.isSome then [.ok (s, none)]
  else if downloadingWebseed s then
    if ps.choking then [.ok (s, none)]
    else
      let g := pickLastPieceOfSmallestGap s p
      if !g.isEmpty then g.map fun i => .ok (s, some (i, ps.af.contains i))
      else [ (peerSteals s p (downloadingSources s)).map fun (s1, r) =>
               (s1, r.map fun i => (i, ps.af.contains i)) ]
  else
    match (if s.sequential && !ps.choking then pickFileEdge s p else none) with
    | some i => [.ok (s, some (i, false))]
    | none =>
    match (if legacy || !s.sequential || ps.choking then pickAllowedFast s p else none) with
    | some i => [.ok (s, some (i, true))]
    | none =>
    if ps.choking then [.ok (s, none)]
    else if s.endgame && (legacy || !s.sequential) then (pickEndgame s p).map fun r => .ok (s, r.map (·, false))
    else
      let firsts : List (State × Option Nat) :=
        if s.sequential then [pickSequential s p] else pickRarest s p
      firsts.flatMap fun (s1, r) =>
        match r with
        | some i => [.ok (s1, some (i, !legacy && s.sequential && ps.af.contains i))]
        | none =>
          if s1.endgame then (pickEndgame s1 p).map fun r => .ok (s1, r.map (·, false))
          else (pickStalled s1 p).map fun r => .ok (s1, r.map (·, false))

/-- `PickFor` + `startSinglePieceDownloader`: the pick is recorded in `Requested` and the loop
stores the downloader (`pe.Downloading = true`). -/
def pickFor (legacy : Bool) (s : State) (p : Nat) : List (R (State × Option (Nat × Bool))) :=
  (findPiece legacy s p).map fun r => r.map fun (s1, res) =>
    match res with
    | none => (s1, none)
    | some (i, af) =>
      let pc := s1.pieces i
      let s2 := setPiece s1 i { pc with requested := sadd pc.requested p }
      (setPeer s2 p { s2.peers p with dl := some (i, af) }, some (i, af))

/-! ### PickWebseed (webseed.go:20-110) -/

/-- `webseedStealsFromAnotherWebseed`: any downloading source of maximal `Remaining`. -/
def webseedSteals (s : State) : List (R (State × Option (Nat × Nat))) :=
  let ds := downloadingSources s
  if ds.isEmpty then [.ok (s, none)]
  else
    (ds.filter fun x => ds.all fun y => y.2.remaining ≤ x.2.remaining).map fun (k, d) =>
      let rb := (d.c + d.e + 1) / 2
      if rb ≥ d.e then .ok (s, none)
      else (webseedStopAt s k rb).map fun (s1, _) => (s1, some (rb, d.e))

/-- `findPieceRangeForWebseed`. -/
def findRange (s : State) : List (R (State × Option (Nat × Nat))) :=
  let gaps := findGaps s
  if gaps.isEmpty then webseedSteals s
  else if s.sequential then
    match (List.range s.n).find? fun i => (s.pieces i).tail && (s.pieces i).availWeb with
    | some i => [.ok (s, some (i, i + 1))]
    | none => [.ok (s, gaps.head?)]
  else
    (gaps.filter fun g => gaps.all fun h => h.2 - h.1 ≤ g.2 - g.1).map fun g => .ok (s, some g)

/-- `for i := r.Begin; i < r.End; i++ { if RequestedWebseed != nil {panic}; … = src }`. -/
def markRange (k : Nat) : Nat → Nat → State → R State
  | 0, _, s => .ok s
  | fuel + 1, i, s =>
    if i < s.n then
      if (s.pieces i).webseed.isSome then .error "already downloading from webseed url"
      else markRange k fuel (i + 1) (setPiece s i { s.pieces i with webseed := some k })
    else .error "index"

/-- `PickWebseed(src)` + `startWebseedDownloader` (a fresh downloader with `current = Begin`). -/
def pickWebseed (s : State) (k : Nat) : List (R (State × Option (Nat × Nat))) :=
  (findRange s).map fun r => r.bind fun (s1, res) =>
    match res with
    | none => .ok (s1, none)
    | some (b, e) => do
      let s2 ← markRange k (e - b) b s1
      pure (setSrc s2 k (some ⟨b, e, b⟩), some (b, e))

/-! ### the caller protocol: what the event loop does around the picker -/

/-- `closePieceDownloader(t.pieceDownloaders[pe])`; without a downloader the loop's map lookup
yields nil and `closePieceDownloader` is not called (or returns at `!open`). -/
def cancelPeer (s : State) (p : Nat) : R State :=
  match (s.peers p).dl with
  | none => .ok s
  | some (i, _) => do
    let s1 ← handleCancelDownload s p i
    pure (setPeer s1 p { s1.peers p with dl := none })

/-- `handlePieceWriteDone`, success path: `for _, pe := range RequestedPeers(i) { closePieceDownloader(t.pieceDownloaders[pe]) … }`.
A peer in `Requested` without a downloader would make the loop dereference nil. -/
def cancelAll (s : State) : List Nat → R State
  | [] => .ok s
  | p :: rest =>
    match (s.peers p).dl with
    | none => .error "nil piece downloader"
    | some _ => do
      let s1 ← cancelPeer s p
      cancelAll s1 rest

inductive Op where
  /-- a new `*peer.Peer` (handshake done); its id is `np`. -/
  | connect
  | have (p i : Nat)
  | afast (p i : Nat)
  | unchoke (p : Nat)
  | choke (p : Nat)
  | snub (p : Nat)
  /-- `closePieceDownloader` of the peer's downloader. -/
  | cancel (p : Nat)
  /-- `closePeer`. -/
  | disc (p : Nat)
  /-- `startSinglePieceDownloader`. -/
  | pick (p : Nat)
  /-- last block of the peer's piece arrived: downloader closed, `Writing = true`. -/
  | pdone (p : Nat)
  /-- web-seed result for piece `i` accepted: `Writing = true`. -/
  | wwrite (i : Nat)
  /-- piece writer finished, hash OK; `web` = the source was a URL downloader. -/
  | wok (i : Nat) (web : Bool)
  /-- piece writer finished, hash mismatch: `Writing = false`. -/
  | wfail (i : Nat)
  /-- `startPieceDownloaderForWebseed`. -/
  | pickweb (k : Nat)
  /-- the URL downloader moved on to its next piece (`incrCurrent`). -/
  | wadv (k : Nat)
  /-- `closeWebseedDownloader`. -/
  | closeweb (k : Nat)
  deriving Repr, DecidableEq

inductive Obs where
  | done
  /-- the loop's own guards do not let this call through. -/
  | skip
  | pick (r : Option (Nat × Bool))
  | web (r : Option (Nat × Nat))
  deriving Repr, DecidableEq

def freshPeer : PeerSt := {}

/-- One step of the protocol: all admissible outcomes. -/
def step (legacy : Bool) (s : State) : Op → List (R (State × Obs))
  | .connect => [.ok (setPeer { s with np := s.np + 1 } s.np freshPeer, .done)]
  | .have p i =>
    if p < s.np ∧ (s.peers p).closed = false ∧ i < s.n then [(handleHave s p i).map (·, .done)]
    else [.ok (s, .skip)]
  | .afast p i =>
    if p < s.np ∧ (s.peers p).closed = false ∧ i < s.n then [(handleAllowedFast s p i).map (·, .done)]
    else [.ok (s, .skip)]
  | .unchoke p =>
    if p < s.np ∧ (s.peers p).closed = false then
      let s1 := setPeer s p { s.peers p with choking := false }
      match (s.peers p).dl with
      | some (i, false) => [(handleUnchoke s1 p i).map (·, .done)]
      | _ => [.ok (s1, .done)]
    else [.ok (s, .skip)]
  | .choke p =>
    if p < s.np ∧ (s.peers p).closed = false then
      let s1 := setPeer s p { s.peers p with choking := true }
      match (s.peers p).dl with
      | some (i, false) => [(handleChoke s1 p i).map (·, .done)]
      | _ => [.ok (s1, .done)]
    else [.ok (s, .skip)]
  | .snub p =>
    if p < s.np ∧ (s.peers p).closed = false then
      match (s.peers p).dl with
      | some (i, _) =>
        if (s.peers p).choking then [.ok (s, .skip)]
        else [(handleSnubbed s p i).map (·, .done)]
      | none => [.ok (s, .skip)]
    else [.ok (s, .skip)]
  | .cancel p =>
    if p < s.np ∧ (s.peers p).closed = false then [(cancelPeer s p).map (·, .done)]
    else [.ok (s, .skip)]
  | .disc p =>
    if p < s.np ∧ (s.peers p).closed = false then
      [(cancelPeer s p).map fun s1 =>
        let s2 := handleDisconnect s1 p
        (setPeer s2 p { s2.peers p with closed := true }, .done)]
    else [.ok (s, .skip)]
  | .pick p =>
    if p < s.np ∧ (s.peers p).closed = false then
      (pickFor legacy s p).map fun r => r.map fun (s1, res) => (s1, .pick res)
    else [.ok (s, .skip)]
  | .pdone p =>
    if p < s.np ∧ (s.peers p).closed = false then
      match (s.peers p).dl with
      | some (i, _) =>
        if (s.pieces i).writing || (s.pieces i).done then [.ok (s, .skip)]
        else [(cancelPeer s p).map fun s1 => (setPiece s1 i { s1.pieces i with writing := true }, .done)]
      | none => [.ok (s, .skip)]
    else [.ok (s, .skip)]
  | .wwrite i =>
    if i < s.n ∧ (s.pieces i).writing = false ∧ (s.pieces i).done = false then
      [.ok (setPiece s i { s.pieces i with writing := true }, .done)]
    else [.ok (s, .skip)]
  | .wok i web =>
    if i < s.n ∧ (s.pieces i).writing = true ∧ (s.pieces i).done = false then
      let s1 := setPiece s i { s.pieces i with writing := false, done := true }
      let r1 : R State :=
        match web, (s1.pieces i).webseed with
        | false, some k => (webseedStopAt s1 k i).map (·.1)
        | _, _ => .ok s1
      [r1.bind fun s2 => (cancelAll s2 (s2.pieces i).requested).map (·, .done)]
    else [.ok (s, .skip)]
  | .wfail i =>
    if i < s.n ∧ (s.pieces i).writing = true then
      [.ok (setPiece s i { s.pieces i with writing := false }, .done)]
    else [.ok (s, .skip)]
  | .pickweb k =>
    if k < s.ns ∧ (s.srcs k).isNone then
      (pickWebseed s k).map fun r => r.map fun (s1, res) => (s1, .web res)
    else [.ok (s, .skip)]
  | .wadv k =>
    if k < s.ns then
      match s.srcs k with
      | some d => if d.c + 1 < d.e then [.ok (setSrc s k (some { d with c := d.c + 1 }), .done)] else [.ok (s, .skip)]
      | none => [.ok (s, .skip)]
    else [.ok (s, .skip)]
  | .closeweb k =>
    if k < s.ns then [(closeWebseed s k).map (·, .done)] else [.ok (s, .skip)]

/-! ### construction (`piecepicker.New`) -/

/-- A file section of a piece as `markFileEdges` reads it. -/
structure Sec where
  name : Nat
  off : Nat
  len : Nat
  pad : Bool
  deriving Repr, DecidableEq, Inhabited

def maxFileEdgeSize : Nat := 8 * 1024 * 1024

def fileEdgeSize (size : Nat) : Nat := max (min (size / 100) maxFileEdgeSize) 1

/-- `sizes[name]` of `markFileEdges`. -/
def fileSize (secs : List (List Sec)) (name : Nat) : Nat :=
  (secs.flatten.filter fun x => !x.pad && x.name = name).foldl (fun m x => max m (x.off + x.len)) 0

/-- `markFileEdges`: `(FileHead, FileTail)` of a piece. -/
def fileEdges (all : List (List Sec)) (mine : List Sec) : Bool × Bool :=
  let ds := mine.filter fun x => !x.pad
  (ds.any fun x => x.off < fileEdgeSize (fileSize all x.name),
   ds.any fun x => x.off + x.len + fileEdgeSize (fileSize all x.name) > fileSize all x.name)

/-- `piecepicker.New` on pieces with the given `Done` flags and edge flags. -/
def init (flags : List (Bool × Bool × Bool)) (maxDup ns : Nat) (sequential : Bool) : State :=
  { n := flags.length
    pieces := fun i =>
      match flags[i]? with
      | some (d, h, t) => { done := d, head := sequential && h, tail := sequential && t }
      | none => {}
    np := 0
    peers := fun _ => freshPeer
    ns := ns
    srcs := fun _ => none
    maxDup := maxDup
    maxWeb := if flags.length / 20 = 0 then 1 else flags.length / 20
    available := 0
    endgame := false
    sequential := sequential }

end Rain.Picker
